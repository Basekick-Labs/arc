import Arc.Proofs.C02.Glue
import Arc.Proofs.C02.RoundTrip
/-
C02 — Typed MessagePack decoding is indistinguishable from generic decoding.

FULL STATEMENT (kept visible; FALSE of the current tree — one known finding class, witness below):

    theorem C02_full (F : FloatSem) (hF : FloatLaws F) (san : Bytes → Bytes) :
        ∀ (b : Bytes) (now : Int),
          observe (decodeWith F san true now b) = observe (decodeWith F san false now b)

`decodeWith typed` = `MessagePackDecoder.Decode` with the fast path on/off followed by the typing
chokepoint `convertColumnsToTyped` that `ArrowBuffer.Write` applies to every generic columnar record;
`observe` keeps accepted?/error class, measurement, per column (type, values, null positions), row
count, and replaces a generated time column by a marker.

PROVED, for ALL byte strings and ANY float semantics satisfying `FloatLaws`:

* `C02_full_partial`        `Carve b → observe (decode on b) = observe (decode off b)`
* `C02_hit_agrees_partial`  `Carve b → typedPath b = some r → genericPath b = ok [col r'] ∧ r ≈ r'`
                            (no restriction on the key set: extra/ignored keys, duplicate keys, any key
                            order, non-array column values, generated or supplied time are all covered)
* `C02_fallback_sound`      a typed miss IS the generic path
* per class: `C02_*Elem_agrees`, `C02_valueColumn_agrees`, `C02_timeColumn_agrees`, `C02_measurement_agrees`
* `C02_full_witness_skip`   the finding: a body OUTSIDE `Carve` on which on ≠ off
* `C02_dup_nonarray_falls_back`  regression of the fixed finding (commit d7052e6)
* `C02_roundtrip_leaf`, and the closed facts about the tables regenerated from the sources.

`Carve b` (decidable, `Arc/Proofs/C02/Boxing.lean`) excludes EXACTLY this input class: the body decodes to
a map in which some value that the typed path merely `Skip()`s — the value of a top-level str key
other than "m" / "columns" / "batch", or a non-array value inside a map under a "columns" key — is an
ARRAY, a MAP or an EXT value. (Scalars, strings and bin under ignored keys are inside the theorem.)
For such values the generic path must box what the typed path skips and can fail (unknown ext id,
non-string-keyed map with nil / uncomparable / undecodable keys); that is the known finding
`accept-differs:typed-Skip-vs-generic-Unmarshal:{error,panic}`. Over-approximation: containers/ext
that WOULD box are excluded too (the existing repo test requires a hit for `"tags": {…}`).

Validated by the harness only: `goBox` = the library, the tree-level `typedPath` = the streaming
decoder, and the executable IEEE instance.
-/
namespace Arc.C02
open Arc.Generated.C02

def maskItem : Item → Item
  | .col r => .col (maskRec r)
  | it => it

/-- accepted? / error class, measurement, columns (type, values, null positions), row count; a
generated time column is replaced by the marker `genTime` (see `maskRec`). -/
def observe : Outcome → Outcome
  | .ok its => .ok (its.map maskItem)
  | .error e => .error e

/-- A typed miss runs exactly the generic path (trivial by construction of `Decode`). -/
theorem C02_fallback_sound (F : FloatSem) (san : Bytes → Bytes) (now : Int) (b : Bytes)
    (h : typedPath F san now b = none) :
    decodeWith F san true now b = decodeWith F san false now b := by
  simp [decodeWith, h]

/-- hence the flag can only matter on a typed hit -/
theorem C02_differs_only_on_hit (F : FloatSem) (san : Bytes → Bytes) (now : Int) (b : Bytes)
    (h : decodeWith F san true now b ≠ decodeWith F san false now b) :
    ∃ r, typedPath F san now b = some r := by
  cases hp : typedPath F san now b with
  | none => exact absurd (C02_fallback_sound F san now b hp) h
  | some r => exact ⟨r, rfl⟩

example : typedPath ⟨fun _ => 0, fun _ => 0, id, fun _ => false, fun _ => false, fun _ => 0,
    fun _ => false, fun _ => false, fun _ => true, fun _ => true, fun _ => true⟩ id 0 [0x90] = none := by
  decide +kernel

/-! ## witnesses: the full statement is false of the current tree -/

/-- `{"m":"x","columns":{"a":[1]},"z":fixext1(type 5)}` -/
def wSkip : Bytes :=
  [0x83, 0xa1, 0x6d, 0xa1, 0x78, 0xa7, 0x63, 0x6f, 0x6c, 0x75, 0x6d, 0x6e, 0x73, 0x81, 0xa1, 0x61,
   0x91, 0x01, 0xa1, 0x7a, 0xd4, 0x05, 0x00]

/-- `{"m":"x","columns":{"a":[1],"b":[2],"a":5}}` (fixed finding, commit d7052e6) -/
def wDup : Bytes :=
  [0x82, 0xa1, 0x6d, 0xa1, 0x78, 0xa7, 0x63, 0x6f, 0x6c, 0x75, 0x6d, 0x6e, 0x73, 0x83, 0xa1, 0x61,
   0x91, 0x01, 0xa1, 0x62, 0x91, 0x02, 0xa1, 0x61, 0x05]

/-- Finding 1: flag ON accepts (the unknown key's value is `Skip()`ped), flag OFF rejects
(`msgpack: unknown ext id=5`). Holds for every float semantics, sanitiser and clock. -/
theorem C02_full_witness_skip (F : FloatSem) (san : Bytes → Bytes) (now : Int) :
    decodeWith F san true now wSkip
        = .ok [.col ⟨[0x78], [⟨[0x61], .i64 [1], none⟩, ⟨timeName, .i64 [now], none⟩], 1, true⟩] ∧
    decodeWith F san false now wSkip = .error .unmarshal := by
  constructor <;> rfl

/-- the source still carries the fix (flag regenerated by factgen from `decodeTypedColumns`) -/
theorem C02_nonarray_dup_fallback : nonArrayDupFallsBack = true := rfl

/-- Regression of the fixed finding: a non-array value after an array under the same column key
makes the typed path fall back, so both settings run the generic path (column `a` dropped in both). -/
theorem C02_dup_nonarray_falls_back (F : FloatSem) (san : Bytes → Bytes) (now : Int) :
    typedPath F san now wDup = none ∧
    decodeWith F san true now wDup = decodeWith F san false now wDup := by
  have h : typedPath F san now wDup = none := by rfl
  exact ⟨h, C02_fallback_sound F san now wDup h⟩

/-- the witness is outside the carve-out; ordinary bodies (here the fixed one, which has a scalar as
non-array column value) are inside -/
theorem C02_witnesses_carved : Carve wSkip = false ∧ Carve wDup = true := by
  decide +kernel

/-- **hit_agrees.** Whenever the typed fast path accepts a body inside `Carve`, the generic path
accepts it too and yields one columnar record with the same measurement, the same columns (type,
values, null positions), the same row count — equal up to the value of a generated time column. -/
theorem C02_hit_agrees_partial (F : FloatSem) (hF : FloatLaws F) (san : Bytes → Bytes) (now : Int)
    (b : Bytes) (r : TypedRec) (hc : Carve b = true) (h : typedPath F san now b = some r) :
    ∃ r', genericPath F san now b = .ok [.col r'] ∧ maskRec r' = maskRec r :=
  hit_agrees F san hF C02_nonarray_dup_fallback hc h

/-- **C02 under the carve-out**: for every byte string inside `Carve`, switching the typed fast path
on or off does not change the observation. -/
theorem C02_full_partial (F : FloatSem) (hF : FloatLaws F) (san : Bytes → Bytes) (now : Int)
    (b : Bytes) (hc : Carve b = true) :
    observe (decodeWith F san true now b) = observe (decodeWith F san false now b) := by
  cases hp : typedPath F san now b with
  | none => rw [C02_fallback_sound F san now b hp]
  | some r =>
    obtain ⟨r', hg, hm⟩ := C02_hit_agrees_partial F hF san now b r hc hp
    simp [decodeWith, hp, hg, observe, maskItem, hm]

theorem isOk_observe (o : Outcome) : (∃ its, observe o = .ok its) ↔ ∃ its, o = .ok its := by
  cases o <;> simp [observe]

/-- acceptance is unchanged inside the carve-out -/
theorem C02_accept_iff_partial (F : FloatSem) (hF : FloatLaws F) (san : Bytes → Bytes) (now : Int)
    (b : Bytes) (hc : Carve b = true) :
    (∃ its, decodeWith F san true now b = .ok its) ↔ (∃ its, decodeWith F san false now b = .ok its) := by
  rw [← isOk_observe (decodeWith F san true now b), C02_full_partial F hF san now b hc, isOk_observe]

/-- non-vacuity: a body with an ignored scalar key, a duplicate non-array-then-array column key and
no time column is inside `Carve` and is a typed hit -/
example : Carve [0x83, 0xa1, 0x6d, 0xa1, 0x78, 0xa1, 0x7a, 0x05, 0xa7, 0x63, 0x6f, 0x6c, 0x75, 0x6d,
    0x6e, 0x73, 0x82, 0xa1, 0x61, 0xc0, 0xa1, 0x61, 0x91, 0x01] = true := by decide +kernel

example (F : FloatSem) (san : Bytes → Bytes) (now : Int) :
    (typedPath F san now [0x83, 0xa1, 0x6d, 0xa1, 0x78, 0xa1, 0x7a, 0x05, 0xa7, 0x63, 0x6f, 0x6c, 0x75,
      0x6d, 0x6e, 0x73, 0x82, 0xa1, 0x61, 0xc0, 0xa1, 0x61, 0x91, 0x01]).isSome = true := by rfl

/-! ## the WAL record (what the rows are rebuilt from after a crash) -/

/-- `Write` hands both record kinds to functions that log the raw client bytes (regenerated facts:
`typedWriteFn`, `genericWriteFn`, whether `r.RawPayload` is passed on and logged by
`AppendRawWithMeta`, and that both decoders put the request body into `RawPayload`). -/
theorem C02_write_dispatch :
    typedWriteFn = "writeTypedColumnarRaw" ∧ genericWriteFn = "writeColumnar" ∧
    typedWriteLogsRaw = true ∧ genericWriteLogsRaw = true := ⟨rfl, rfl, rfl, rfl⟩

/-- **Same WAL record.** On a typed hit the fast path logs exactly the bytes the generic path logs:
the request body. Recovery is a function of the WAL bytes alone, so the rows (and null positions)
rebuilt after a crash are the same with the fast path on or off. -/
theorem C02_wal_entry_same (F : FloatSem) (san : Bytes → Bytes) (now : Int) (b : Bytes) (r : TypedRec)
    (_h : typedPath F san now b = some r) :
    walTyped b = walGeneric b ∧ (b ≠ [] → walTyped b = .raw b) := by
  have h := C02_write_dispatch
  refine ⟨by simp [walTyped, walGeneric, h.2.2.1, h.2.2.2], ?_⟩
  intro hb
  cases b with
  | nil => exact absurd rfl hb
  | cons x xs => simp [walTyped, h.2.2.1]

example : walTyped wDup = .raw wDup := by decide +kernel

/-! ## per-class agreement (what `C02_hit_agrees_partial` is assembled from) -/

section
variable (F : FloatSem) (san : Bytes → Bytes)

/-- int class: `decodeIntElemAsInt64` = `toInt64 ∘ box` (uint64 > MaxInt64 and out-of-range floats
reject on both sides; float32 through float64 by `FloatLaws`). -/
theorem C02_intElem_agrees (hF : FloatLaws F) {x : MV} {v : Int} (h : typedIntElem F x = some v) :
    goBox F x = .ok (boxS x) ∧ toInt64 F (sanVal san (boxS x)) = some v :=
  (intElem_agrees F san hF h).imp_left (goBox_scalar F)

/-- float class: `decodeElemAsFloat64` = `toFloat64 ∘ box` -/
theorem C02_floatElem_agrees {x : MV} {v : Nat} (h : typedFloatElem F x = some v) :
    goBox F x = .ok (boxS x) ∧ toFloat64 F (sanVal san (boxS x)) = some v :=
  (floatElem_agrees F san h).imp_left (goBox_scalar F)

/-- string class: str codes only, sanitised by the same function -/
theorem C02_strElem_agrees {x : MV} {v : Bytes} (h : typedStrElem san x = some v) :
    goBox F x = .ok (boxS x) ∧ gStr (sanVal san (boxS x)) = some v :=
  (strElem_agrees san h).imp_left (goBox_scalar F)

theorem C02_boolElem_agrees {x : MV} {v : Bool} (h : typedBoolElem x = some v) :
    goBox F x = .ok (boxS x) ∧ gBool (sanVal san (boxS x)) = some v :=
  (boolElem_agrees san h).imp_left (goBox_scalar F)

/-- time class: `int64(v)` of every numeric code = `toInt64Timestamp ∘ box` (uint64 wraps on both) -/
theorem C02_timeElem_agrees (hF : FloatLaws F) {x : MV} {t : Int} (h : typedTs F x = some t) :
    goBox F x = .ok (boxS x) ∧ toInt64Ts F (boxS x) = some t :=
  (timeElem_agrees F hF h).imp_left (goBox_scalar F)

/-- **Value columns.** For every element list on which `decodeValueColumnTyped` succeeds — any mix
of encoding widths, nils anywhere, numeric cross-coercions, all-nil columns — the library boxes the
array to the element-wise boxing, and `sanitizeColumnarStrings` + `convertColumnsToTyped` produce
the same column type, the same values and the same null positions (validity present iff a nil). -/
theorem C02_valueColumn_agrees (hF : FloatLaws F) (name : Bytes) (hname : (name == timeName) = false)
    (xs : List MV) (d : Col) (vl : Option (List Bool))
    (h : typedValueCol F san xs = some (d, vl)) :
    goBoxL F xs = .ok (xs.map boxS) ∧
    convertCol F name ((xs.map boxS).map (sanVal san)) = some ⟨name, d, vl⟩ :=
  (valueCol_agrees F san hF hname h).imp_left (goBoxL_scalars F)

example : typedValueCol ⟨fun _ => 0, fun v => v.toNat, id, fun _ => false, fun _ => false, fun _ => 0,
    fun _ => false, fun _ => false, fun _ => true, fun _ => true, fun _ => true⟩ id
    [.nil, .f64 7, .int .fix 3, .uint .u64 5] = some (.f64 [0, 7, 3, 5], some [false, true, true, true]) := by
  decide +kernel

/-- **Time column.** Whenever `decodeTimeColumnTyped` succeeds, `normalizeTimestampColumns` on the
boxed column succeeds with the unit detected from element 0 (same table: `C02_units_same`), and the
typing chokepoint returns the same int64 microseconds, no validity. -/
theorem C02_timeColumn_agrees (hF : FloatLaws F) (xs : List MV) (ts : List Int) (hne : xs ≠ [])
    (h : typedTime F xs = some ts) :
    goBoxL F xs = .ok (xs.map boxS) ∧
    ∃ gts, normalizeTime F (xs.map boxS) = some gts ∧
      convertCol F timeName (gts.map (sanVal san)) = some ⟨timeName, .i64 ts, none⟩ :=
  (timeCol_agrees F san hF hne h).imp_left (goBoxL_scalars F)

example : typedTime ⟨fun _ => 0, fun _ => 0, id, fun _ => false, fun _ => false, fun _ => 0,
    fun _ => false, fun _ => false, fun _ => true, fun _ => true, fun _ => true⟩
    [.uint .u32 1700000000, .int .fix 5] = some [1700000000000000, 5000000] := by
  decide +kernel

/-- **Measurement.** `decodeMeasurementTyped` = `extractMeasurement ∘ box`. -/
theorem C02_measurement_agrees {x : MV} {m : Bytes} (h : typedMeas x = some m) :
    goBox F x = .ok (boxS x) ∧ extractMeas (some (boxS x)) = some m :=
  typedMeas_box F h

end

/-- **Round trip** of the byte-level decoder against the encoder for every non-container value at
every encoding width (fixint ±, int8–64, uint8–64, float32/64, fixstr/str8–32, bin8–32,
fixext1–16, ext8–32, nil, bool), with arbitrary trailing bytes. -/
theorem C02_roundtrip_leaf (v : MV) (h : wfLeaf v) (rest : Bytes) :
    decode (encode v ++ rest) = some (v, rest) := decode_encode_leaf v h rest

example : wfLeaf (.int .i16 (-300)) := by simp [wfLeaf]

/-- container arms on a concrete nested value (array16 inside fixmap inside fixarray, trailing byte) -/
theorem C02_roundtrip_nested_example :
    decode (encode (.arr .fix [.map .fix [.str .fix [0x61], .arr .l16 [.nil, .uint .u8 200]], .f32 7]) ++ [0xc1])
      = some (.arr .fix [.map .fix [.str .fix [0x61], .arr .l16 [.nil, .uint .u8 200]], .f32 7], [0xc1]) := by
  rfl

/-! ## regenerated facts (re-checked on every run) -/

/-- both files use the same thresholds (1e10 / 1e13 / 1e16) and multipliers -/
theorem C02_units_same : typedUnits = normUnits ∧ typedUnitDefault = normUnitDefault := units_same

/-- both files truncate a float epoch to int64 BEFORE the unit scaling and scale with plain integer
`ts * multiplier` / `ts / divisor` (the statements of `decodeTimeColumnTyped` and
`normalizeTimestampColumns`, as source text) — what `typedTs`/`applyMult` and `toInt64Ts`/`normAll`
model, and what `C02_timeElem_agrees` / `C02_timeColumn_agrees` (typed = generic on every element)
stand on. A change that carries a fractional part through the scaling breaks this. -/
theorem C02_time_scaling :
    typedTimeElem = ["int64(v)", "v", "int64(f)"] ∧
    typedTimeScale = ["ts / -multiplier", "ts * multiplier"] ∧
    normTimeScale = ["ts / divisor", "ts / divisor", "ts * multiplier", "ts * multiplier"] :=
  ⟨rfl, rfl, rfl⟩

/-- … and they are the documented ones -/
theorem C02_units_table :
    normUnits = [(10000000000, 1000000), (10000000000000, 1000), (10000000000000000, 1)] ∧
    normUnitDefault = -1000 := ⟨rfl, rfl⟩

/-- every dynamic numeric type `DecodeInterface` can produce is accepted by all three converters -/
def boxedNumericKinds : List String :=
  ["int8", "int16", "int32", "int64", "uint8", "uint16", "uint32", "uint64", "float32", "float64"]

theorem C02_accepted_kinds :
    boxedNumericKinds.all (fun k => toInt64Accepts.contains k && toFloat64Accepts.contains k &&
      toInt64TimestampAccepts.contains k) = true := by decide +kernel

/-- range guards: `toInt64` guards exactly uint/uint64/float32/float64, the other two none
(this is what `typedIntElem` / `typedTs` / `typedFloatElem` mirror) -/
theorem C02_guards :
    toInt64Guarded = ["uint", "uint64", "float32", "float64"] ∧ toFloat64Guarded = [] ∧
    toInt64TimestampGuarded = [] := ⟨rfl, rfl, rfl⟩

/-- wire-code classes of the typed path: strings exclude bin, ints include every int/uint width -/
theorem C02_code_classes :
    isStrCodeCodes = ["IsFixedString", "Str8", "Str16", "Str32"] ∧
    isIntCodeCodes = ["IsFixedNum", "Int8", "Int16", "Int32", "Int64", "Uint8", "Uint16", "Uint32", "Uint64"] ∧
    isFloatCodeCodes = ["Float", "Double"] ∧ isBoolCodeCodes = ["True", "False"] ∧
    isArrayCodeCodes = ["IsFixedArray", "Array16", "Array32"] ∧
    isMapCodeCodes = ["IsFixedMap", "Map16", "Map32"] := ⟨rfl, rfl, rfl, rfl, rfl, rfl⟩

/-- the typed pre-allocation cap is the one the model uses (2^20 ≥ the library's 10^6 slice cap) -/
theorem C02_prealloc : maxTypedPreallocElems = 2 ^ 20 ∧ 1000000 ≤ maxTypedPreallocElems := by decide

end Arc.C02
