/-
C18 — "Partition pruning never changes query results"   (model re-synced to /repo b2903b5).

FULL STATEMENT (still false of the source in three classes — kept here, each with a machine-checked witness):

  theorem C18_full (now : Int) (σ : Valuation) (p : Pred) (ds : Dataset) (hwp : WellPlaced ds) :
      runPruned now σ p ds = runFull now σ p ds
  -- cached form:  runCached now σ p ds0 ds = runFull now σ p ds   (ds0 = data set when the plan was cached)

Proved, for all integer times, all data sets, all valuations of the non-time conditions:
  * C18_paths_cover / _cover_trunc / _sound — the generated hour and day paths are exactly the hours `h` with
    `max(trunc start, minPartitionDate) ≤ h·1h < end` (`≤ end` when EndInclusive) and their days (cap not firing);
  * C18_partial — for EVERY WHERE clause (AND / OR / NOT / subqueries, any columns, any operators, any literal format,
    NOW() ± INTERVAL in any unit) the pruned query returns exactly the rows of the unpruned query, provided the data
    lies inside the bounds the pruner still assumes: no row before minPartitionDate (1970) and, when the WHERE clause
    has no upper time bound, no row at or after now + 24 h;
  * C18_join_exact / C18_union_exact — multi-table statements are never pruned;
  * C18_cached_partial — the same statement issued again inside the cache TTL stays exact if the post-compaction hook
    ran (regenerated facts) or no NEW partition appeared;
  * witnesses for the three classes that remain: data before minPartitionDate, start-only predicate with data after
    now + 24 h, plan cached across a partition created by a flush;
  * history: the counterexamples of the repaired classes (OR, NOT, `<=`/BETWEEN bound on the hour, end-only with
    data before 2020, column name ending in `time`, subquery, NOW() − INTERVAL 'n months' at month ends) are kept as
    `example`s stating that the repaired model now returns the full result on exactly those inputs (JOIN and UNION:
    C18_join_exact / C18_union_exact);
  * C18_*_tied — the regenerated regex literals / constants / loop shape / unit table / call-site facts are the ones
    the model was written for.
-/
import Arc.Model.C18
import Arc.Proofs.C18.Basic
namespace Arc.C18
open Arc.Generated.C18

theorem C18_constants_tied :
    HOUR = hourNs ∧ DAY = 24 * HOUR ∧ minPartitionDateNs % HOUR = 0 ∧ minPartitionDateNs ≤ defaultStartNs ∧
    0 < startOnlyAddNs ∧ 0 < maxPartitionPaths ∧
    partitionCacheTTLNs ≤ transformCacheTTLNs ∧ globCacheTTLNs ≤ transformCacheTTLNs ∧
    defaultStartNs = minPartitionDateNs ∧ defaultStartIsFloor = true := by decide +kernel

/-- The model's reading of the regexes (header of Model/C18.lean) was written for exactly these literals. -/
theorem C18_regex_tied :
    startTimePatterns = ["(?i)\\btime\\s*>=\\s*'([^']+)'", "(?i)\\btime\\s*>\\s*'([^']+)'",
                         "(?i)\\btimestamp\\s*>=\\s*'([^']+)'", "(?i)\\btimestamp\\s*>\\s*'([^']+)'"] ∧
    endTimePatterns = ["(?i)\\btime\\s*<\\s*'([^']+)'", "(?i)\\btime\\s*<=\\s*'([^']+)'",
                       "(?i)\\btimestamp\\s*<\\s*'([^']+)'", "(?i)\\btimestamp\\s*<=\\s*'([^']+)'"] ∧
    betweenPattern = "(?i)\\btime\\s+BETWEEN\\s+'([^']+)'\\s+AND\\s+'([^']+)'" ∧
    relativePatterns =
      ["(?i)\\btime\\s*>=?\\s*(?:NOW\\s*\\(\\s*\\)|CURRENT_TIMESTAMP)\\s*-\\s*INTERVAL\\s*'(\\d+)\\s*(second|seconds|minute|minutes|hour|hours|day|days|week|weeks|month|months)'",
       "(?i)\\btime\\s*>=?\\s*(?:NOW\\s*\\(\\s*\\)|CURRENT_TIMESTAMP)\\s*\\+\\s*INTERVAL\\s*'(\\d+)\\s*(second|seconds|minute|minutes|hour|hours|day|days|week|weeks|month|months)'",
       "(?i)\\btime\\s*<=?\\s*(?:NOW\\s*\\(\\s*\\)|CURRENT_TIMESTAMP)\\s*-\\s*INTERVAL\\s*'(\\d+)\\s*(second|seconds|minute|minutes|hour|hours|day|days|week|weeks|month|months)'",
       "(?i)\\btime\\s*<=?\\s*(?:NOW\\s*\\(\\s*\\)|CURRENT_TIMESTAMP)\\s*\\+\\s*INTERVAL\\s*'(\\d+)\\s*(second|seconds|minute|minutes|hour|hours|day|days|week|weeks|month|months)'"] ∧
    whereClausePattern = "(?i)\\bWHERE\\b\\s+([\\s\\S]+?)(?:\\bGROUP BY\\b|\\bORDER BY\\b|\\bLIMIT\\b|$)" ∧
    multiTablePattern = "(?i)\\b(?:JOIN|UNION|INTERSECT|EXCEPT)\\b" ∧ selectPattern = "(?i)\\bSELECT\\b" ∧
    disjunctionPattern = "(?i)\\b(?:OR|NOT)\\b" ∧
    extractOrder = ["multiTablePattern", "selectPattern", "whereClausePattern", "disjunctionPattern",
                    "startTimePatterns", "endTimePatterns", "betweenPattern",
                    "relativeStartSubtractPattern", "relativeStartAddPattern",
                    "relativeEndSubtractPattern", "relativeEndAddPattern"] ∧
    extractBreaks = 2 ∧ extractNilGuards = 4 ∧
    parseLayouts = ["2006-01-02T15:04:05Z07:00", "2006-01-02T15:04:05.999999999Z07:00", "2006-01-02 15:04:05",
                    "2006-01-02 15:04", "2006-01-02", "2006/01/02 15:04:05", "2006/01/02"] ∧
    parseConvertsToUTC = true :=
  ⟨rfl, rfl, rfl, rfl, rfl, rfl, rfl, rfl, rfl, rfl, rfl, rfl, rfl⟩

/-- loop shape, EndInclusive rules (`<` literal pattern ⇒ exclusive; `<=`, BETWEEN, relative, none ⇒ inclusive) and
    the two bail-outs of ExtractTimeRange. -/
theorem C18_loop_tied :
    loopInit = "timeRange.Start.Truncate(time.Hour)" ∧
    loopCond = "current.Before(end) || (timeRange.EndInclusive && current.Equal(end))" ∧
    loopStep = "current.Add(time.Hour)" ∧
    clampStmt = "current.Before(minPartitionDate) => current = minPartitionDate" ∧
    hourlyExpr = "int64((span + time.Hour - 1) / time.Hour)" ∧ dailyExpr = "hourlyPaths/24 + 1" ∧
    dayLevelPaths = true ∧ emptyFallbacks = 2 ∧ partitionCacheConsultedFirst = true ∧
    endInclusiveRules = ["endInclusive := false", "endInclusive = i%2 == 1", "endInclusive = true",
                         "endInclusive = true"] ∧
    bailsOnMultiTable = true ∧ bailsOnOrNot = true :=
  ⟨rfl, rfl, rfl, rfl, rfl, rfl, rfl, rfl, rfl, rfl, rfl, rfl⟩

/-- unit → arithmetic table of `evaluateRelativeTime` the model's `relGo` was written for: second/minute/hour are
    fixed Durations, day/week are `AddDate` days (= n·24 h in UTC), month is CALENDAR-month `AddDate(0, n, 0)` pulled
    back to the target month's last day on overflow, as DuckDB does (no `year` unit: the regexes do not recognise it). -/
theorem C18_relative_units_tied :
    relativeUnits = ["second => now.Add(time.Duration(n) * time.Second)",
                     "minute => now.Add(time.Duration(n) * time.Minute)",
                     "hour => now.Add(time.Duration(n) * time.Hour)",
                     "day => now.AddDate(0, 0, n)", "week => now.AddDate(0, 0, n*7)",
                     "month => t := now.AddDate(0, n, 0); if t.Day() != now.Day() { t = t.AddDate(0, 0, -t.Day()) }; return t, nil"] := rfl

/-- query.go prunes every table reference with the text of the whole statement (harmless now that multi-table
    statements are not pruned); nothing on the ingest/flush path invalidates the pruner / transform caches. -/
theorem C18_call_sites_tied :
    prunesWithWholeStatement = true ∧ optimizeSqlArgs.length = 2 ∧ ingestInvalidations = 0 ∧
    compactionCallsInvalidate = true := by decide +kernel

theorem minPartitionDate_aligned : minPartitionDateNs % HOUR = 0 := C18_constants_tied.2.2.1

/-- every instant in `[start, end)` (not before `minPartitionDate`) has its hour partition AND its day partition
    among the generated paths — for all integer times, whatever EndInclusive is. -/
theorem C18_paths_cover (s e t : Int) (incl : Bool) (ps : Paths) (h : generatePaths s e incl = some ps)
    (hs : s ≤ t) (he : t < e) (hm : minPartitionDateNs ≤ t) :
    hourOf t ∈ ps.hours ∧ dayOf t ∈ ps.days :=
  paths_cover minPartitionDate_aligned h hs (lt_loopEnd.2 (.inl (trunc_lt he))) hm

/-- sharper: it is enough that the HOUR of `t` starts before `end` — or AT `end` when the bound is inclusive
    (`time <= b`, BETWEEN): the row exactly at `b` lives in the hour that starts at `b`. -/
theorem C18_paths_cover_trunc (s e t : Int) (incl : Bool) (ps : Paths) (h : generatePaths s e incl = some ps)
    (hs : s ≤ t) (he : truncHour t < e ∨ (incl = true ∧ truncHour t ≤ e)) (hm : minPartitionDateNs ≤ t) :
    hourOf t ∈ ps.hours ∧ dayOf t ∈ ps.days :=
  paths_cover minPartitionDate_aligned h hs (lt_loopEnd.2 he) hm

/-- nothing else is generated: pruning really prunes. -/
theorem C18_paths_sound (s e h : Int) (incl : Bool) (ps : Paths) (hg : generatePaths s e incl = some ps)
    (hm : h ∈ ps.hours) : startOf s ≤ h * HOUR ∧ h * HOUR < loopEnd e incl :=
  (mem_hours minPartitionDate_aligned hg).1 hm

example : generatePaths 1710498600000000000 1710505800000000000 =
    some { hours := [475138, 475139, 475140], days := [19797] } := by decide +kernel
/-- the inclusive bound adds exactly the hour that starts at `end` -/
example : generatePaths 1710496800000000000 1710500400000000000 true =
    some { hours := [475138, 475139], days := [19797] } ∧
    generatePaths 1710496800000000000 1710500400000000000 false =
    some { hours := [475138], days := [19797] } := by decide +kernel

/-- the data lies inside the bounds the pruner assumes: nothing before minPartitionDate; nothing at/after
    now + 24 h when the statement is prunable and has no upper time bound. -/
def dataOK (now : Int) (p : Pred) (ds : Dataset) : Bool :=
  (rowsOf ds).all fun r =>
    decide (minPartitionDateNs ≤ r.time) &&
    (!p.plainConj || (endBound now p.text).isSome || decide (r.time < now + startOnlyAddNs))

/-- whatever the pruner reads, DuckDB reads the same instant (all literal formats Go accepts; every unit). -/
theorem go_eq_db {now : Int} {r : Rhs} {s : Int} (h : r.go now = some s) : r.db now = s := by
  cases r with
  | lit l =>
    have : l.db = some s := by
      obtain ⟨fmt, y, mo, d, hh, mi, ss, frac, off⟩ := l
      iterate 9 (rcases fmt with _ | fmt; exact h)
      cases h
    simp only [Rhs.db, this, Option.getD_some]
  | rel p n u cs =>
    cases cs
    · cases h; cases u <;> rfl
    · cases h
  | num k => cases h

theorem conj_atoms_true {now : Int} {σ : Valuation} {r : Row} :
    ∀ {p : Pred}, p.plainConj = true → p.eval now σ r = true → ∀ b ∈ p.text, b.eval now σ r = true
  | .atom (.base _), _, he, _, hb => List.mem_singleton.1 hb ▸ he
  | .and p q, hs, he, b, hb => by
    simp only [Pred.plainConj, Pred.eval, Bool.and_eq_true] at hs he
    exact (List.mem_append.1 hb).elim (conj_atoms_true hs.1 he.1 b) (conj_atoms_true hs.2 he.2 b)

section
variable {now : Int} {σ : Valuation} {row : Row} {txt : List BAtom}

/-- the pruner's reading of an atom on `time` is the engine's: same column, same instant. -/
theorem time_atom {c : Col} {op : Cmp} {r : Rhs} {s : Int}
    (hall : ∀ b ∈ txt, b.eval now σ row = true) (hm : BAtom.cmp c op r ∈ txt)
    (hc : c.endsInTime = true) (hgo : r.go now = some s) : op.holds row.time s = true := by
  cases c <;> cases hc
  exact go_eq_db hgo ▸ hall _ hm

theorem Cmp.holds_lower {op : Cmp} {a b : Int} (hop : op = .ge ∨ op = .gt) (h : op.holds a b = true) : b ≤ a := by
  rcases hop with rfl | rfl <;> simp only [Cmp.holds, decide_eq_true_eq] at h <;> omega

/-- `<` bounds strictly; `<=` bounds the loop that also emits the hour starting at the bound. -/
theorem Cmp.holds_upper {op : Cmp} {a b : Int} {incl : Bool} (hop : op = .lt ∨ op = .le ∧ incl = true)
    (h : op.holds a b = true) : a < loopEnd b incl := by
  rcases hop with rfl | ⟨rfl, rfl⟩ <;> simp only [Cmp.holds, decide_eq_true_eq] at h
  · exact lt_loopEnd.2 (.inl h)
  · exact lt_loopEnd.2 (.inr ⟨rfl, h⟩)

theorem between_sound {a b : Int}
    (hall : ∀ b ∈ txt, b.eval now σ row = true) (h : betweenPat now txt = some (a, b)) :
    a ≤ row.time ∧ row.time ≤ b := by
  obtain ⟨c, l1, l2, hm, hc, h1, h2⟩ := betweenPat_some h
  cases c <;> cases hc
  simpa only [BAtom.eval, Col.val, go_eq_db (r := .lit l1) h1, go_eq_db (r := .lit l2) h2, Bool.and_eq_true,
    decide_eq_true_eq] using hall _ hm

theorem start_sound {s : Int}
    (hall : ∀ b ∈ txt, b.eval now σ row = true)
    (h : startBound now txt = some s) : s ≤ row.time := by
  unfold startBound absStart at h
  split at h
  · next hb => cases h; exact (between_sound hall hb).1
  · have hmem := firstSome_some h
    simp only [List.mem_cons, List.not_mem_nil, or_false] at hmem
    rcases hmem with hmem | hmem | hmem
    · have hmem := firstSome_some hmem.symm
      simp only [absPat_timestamp, List.mem_cons, List.not_mem_nil, or_false, reduceCtorEq] at hmem
      rcases hmem with h1 | h1
      all_goals
        obtain ⟨c, l, hm, hc, hgo⟩ := absPat_some h1.symm
        exact Cmp.holds_lower (by decide) (time_atom hall hm hc hgo)
    all_goals
      obtain ⟨c, o, n, u, cs, hm, hc, ho, hgo⟩ := relPat_some hmem.symm
      exact Cmp.holds_lower ho (time_atom hall hm hc hgo)

/-- qualifying rows lie before the end of the loop run for the end bound `(e, incl)`. -/
theorem end_sound {e : Int} {incl : Bool}
    (hall : ∀ b ∈ txt, b.eval now σ row = true)
    (h : endBoundP now txt = some (e, incl)) : row.time < loopEnd e incl := by
  unfold endBoundP at h
  split at h
  · next hb => cases h; exact lt_loopEnd.2 (.inr ⟨rfl, (between_sound hall hb).2⟩)
  · split at h
    · next hx =>
      cases h
      have hmem := firstSomeP_some hx
      simp only [absPat_timestamp, List.mem_cons, List.not_mem_nil, or_false, Prod.mk.injEq, reduceCtorEq,
        false_and] at hmem
      rcases hmem with ⟨h1, rfl⟩ | ⟨h1, rfl⟩
      all_goals
        obtain ⟨c, l, hm, hc, hgo⟩ := absPat_some h1.symm
        exact Cmp.holds_upper (by decide) (time_atom hall hm hc hgo)
    · split at h
      · next he' =>
        cases h
        have hmem := firstSome_some he'
        simp only [List.mem_cons, List.not_mem_nil, or_false] at hmem
        rcases hmem with hmem | hmem
        all_goals
          obtain ⟨c, o, n, u, cs, hm, hc, ho, hgo⟩ := relPat_some hmem.symm
          exact Cmp.holds_upper (ho.imp_right (⟨·, rfl⟩)) (time_atom hall hm hc hgo)
      · cases h

end

/-- a qualifying row lies inside the extracted range (in the sense the path loop needs). -/
theorem range_sound {now : Int} {σ : Valuation} {p : Pred} {ds : Dataset} {row : Row} {s e : Int} {incl : Bool}
    (hconj : p.plainConj = true) (hdata : dataOK now p ds = true) (hrow : row ∈ rowsOf ds)
    (hev : p.eval now σ row = true) (hx : extract now p.text = some (s, e, incl)) :
    s ≤ row.time ∧ row.time < loopEnd e incl ∧ minPartitionDateNs ≤ row.time := by
  have hall := conj_atoms_true hconj hev
  have hd := List.all_eq_true.1 hdata row hrow
  simp only [hconj, Bool.not_true, Bool.false_or, Bool.and_eq_true, Bool.or_eq_true, decide_eq_true_eq] at hd
  obtain ⟨hmin, hend⟩ := hd
  unfold extract at hx
  split at hx <;> cases hx
  · next hs he => exact ⟨start_sound hall hs, end_sound hall he, hmin⟩
  · next he hs =>
    simp only [endBound, he, Option.map_none, Option.isSome_none, Bool.false_eq_true, false_or] at hend
    exact ⟨start_sound hall hs, lt_loopEnd.2 (.inl hend), hmin⟩
  · next hs he => exact ⟨(by decide : defaultStartNs = minPartitionDateNs) ▸ hmin, end_sound hall he, hmin⟩

/-- a plan computed on `ds0` and applied to `ds` loses nothing as long as `ds` has no partition `ds0` lacked
    (`ds0 = ds`: the uncached query): a file the plan drops holds no qualifying row, since such a row's hour and day
    are among the generated paths and its partition exists in `ds0`. -/
theorem cached_exact {now : Int} {σ : Valuation} {p : Pred} {ds0 ds : Dataset} (hwp : WellPlaced ds)
    (hdata : dataOK now p ds = true) (hnew : ∀ f ∈ ds, ∃ f0 ∈ ds0, f0.part = f.part) :
    runCached now σ p ds0 ds = runFull now σ p ds := by
  unfold runCached runFull extractStmt
  cases hconj : p.plainConj with
  | false => rfl
  | true =>
    cases hx : extract now p.text with
    | none => rfl
    | some sei =>
      obtain ⟨s, e, incl⟩ := sei
      cases hg : generatePaths s e incl with
      | none => simp [planFor, hg, readWith]
      | some ps =>
        simp only [planFor, hg, if_true]
        split
        · rfl
        · refine filter_rows_drop fun f hf hkeep row hrow => Bool.eq_false_iff.2 fun hP => ?_
          obtain ⟨h1, h2, h3⟩ := range_sound hconj hdata (mem_rowsOf.2 ⟨f, hf, hrow⟩) hP hx
          obtain ⟨hh, hd⟩ := paths_cover minPartitionDate_aligned hg h1 (trunc_lt h2) h3
          obtain ⟨f0, hf0, hf0p⟩ := hnew f hf
          have hc := hwp f hf row hrow
          refine of_decide_eq_false hkeep (List.mem_filter.2 ⟨?_, List.any_eq_true.2 ⟨f0, hf0, decide_eq_true hf0p⟩⟩)
          rw [mem_partsOfPaths]
          cases hfp : f.part <;> simp only [hfp, Part.contains, Part.inPaths, decide_eq_true_eq] at hc ⊢ <;> subst hc
          · exact hh
          · exact hd

/-- **C18_partial** — for EVERY WHERE clause the pruned query returns exactly the rows of the unpruned query (same
    rows, same order), for every data set inside the assumed bounds, every time and every valuation of the
    non-time conditions. The only carve-out left is on the DATA (`dataOK`): the two known classes. -/
theorem C18_partial (now : Int) (σ : Valuation) (p : Pred) (ds : Dataset)
    (hwp : WellPlaced ds) (hdata : dataOK now p ds = true) :
    runPruned now σ p ds = runFull now σ p ds :=
  cached_exact hwp hdata fun f hf => ⟨f, hf, rfl⟩

/-- multi-table statements are read unpruned: JOIN. -/
theorem C18_join_exact (now : Int) (σ : Valuation) (p : Pred) (a b : Dataset) :
    runJoinPruned now σ p a b = runJoinFull now σ p a b := rfl

/-- multi-table statements are read unpruned: UNION ALL. -/
theorem C18_union_exact (now : Int) (σ : Valuation) (p q : Pred) (ds : Dataset) :
    runUnionPruned now σ p q ds = runUnionFull now σ p q ds := rfl

/-- the same statement issued again inside the cache TTL returns the full result provided that EITHER the
    post-compaction hook `InvalidateCaches` ran since the plan was cached (compaction replaces hour files by a NEW
    day-level partition; the regenerated facts say the hook clears the transform cache and the pruner caches, so the
    plan is recomputed) OR the data set has no partition the cached plan's data set lacked (new files inside
    already-known partitions are found by the globs at execution time). -/
theorem C18_cached_partial (now : Int) (σ : Valuation) (p : Pred) (ds0 ds : Dataset) (invalidated : Bool)
    (hwp : WellPlaced ds) (hdata : dataOK now p ds = true)
    (hnew : invalidated = false → ∀ f ∈ ds, ∃ f0 ∈ ds0, f0.part = f.part) :
    runCachedI now σ p ds0 ds invalidated = runFull now σ p ds := by
  cases invalidated with
  | true =>
    have hsurv : survivesInvalidate = false := rfl
    rw [runCachedI, hsurv]
    exact C18_partial now σ p ds hwp hdata
  | false => exact cached_exact hwp hdata (hnew rfl)

/-! ### concrete material for the non-vacuity examples, the witnesses and the history
    2024-03-15 10:00:00Z = 1710496800 s; hour index 475138; day index 19797. -/

def T0 : Int := 1710496800000000000          -- 2024-03-15 10:00:00Z (an hour boundary)
def mkRow (t : Int) : Row := { time := t, c1 := t, c2 := t, v := 1 }
def litAt (hh mi : Int) : Rhs := .lit { fmt := 1, y := 2024, mo := 3, d := 15, hh := hh, mi := mi, ss := 0, frac := 0, off := 0 }
def tAt (hh mi : Int) : Int := T0 + (hh - 10) * HOUR + mi * 60 * NS
def hourFile (hh : Int) (mins : List Int) : File := { part := .hour (475128 + hh), rows := mins.map (fun m => mkRow (tAt hh m)) }
def timeCmp (op : Cmp) (r : Rhs) : Pred := .atom (.base (.cmp .time op r))
def NOW0 : Int := T0 + 5 * HOUR
def σ0 : Valuation := fun _ _ => true
/-- hour files 09, 10, 11, 12 of 2024-03-15 and the compacted day file of 2024-03-14. -/
def DS0 : Dataset :=
  [hourFile 9 [30], hourFile 10 [0, 30], hourFile 11 [0], hourFile 12 [0],
   { part := .day 19796, rows := [mkRow (T0 - 20 * HOUR)] }]

theorem DS0_wellPlaced : WellPlaced DS0 := by decide +kernel

/-- non-vacuity of C18_partial: `time >= '…10:00:00' AND time <= '…11:00:00' AND v >= 0` on DS0 really prunes
    (2 of 5 files read, among them hour 11 for the row exactly at 11:00:00) and the hypotheses hold. -/
example :
    let p := Pred.and (timeCmp .ge (litAt 10 0)) (.and (timeCmp .le (litAt 11 0)) (.atom (.base (.cmp .plain .ge (.num 0)))))
    dataOK NOW0 p DS0 = true ∧ (readSet (extractStmt NOW0 p) DS0).length = 2 ∧
    (runFull NOW0 σ0 p DS0).length = 3 ∧ runPruned NOW0 σ0 p DS0 = runFull NOW0 σ0 p DS0 := by decide +kernel

/-- non-vacuity of C18_cached_partial: a flush adds a file to the already known hour 10 after the plan was cached. -/
example :
    let p := Pred.and (timeCmp .ge (litAt 10 0)) (timeCmp .lt (litAt 11 30))
    let ds1 : Dataset := DS0 ++ [hourFile 10 [45]]
    dataOK NOW0 p ds1 = true ∧ WellPlaced ds1 ∧
    (∀ f ∈ ds1, ∃ f0 ∈ DS0, f0.part = f.part) ∧ (runCachedI NOW0 σ0 p DS0 ds1 false).length = 4 := by decide +kernel

/-- hours 10 and 11 (two files each) before, and after a daily compaction that leaves the first ("late raw") file
    of each hour in place and moves the other rows into the new day-level file of 2024-03-15. -/
def DSraw : Dataset := [hourFile 10 [0], hourFile 10 [30], hourFile 11 [0], hourFile 11 [20]]
def DScompacted : Dataset :=
  [hourFile 10 [0], hourFile 11 [0], { part := .day 19797, rows := [mkRow (tAt 10 30), mkRow (tAt 11 20)] }]

/-- non-vacuity of the compaction branch of C18_cached_partial (invalidated = true). -/
example :
    let p := Pred.and (timeCmp .ge (litAt 10 0)) (timeCmp .lt (litAt 12 0))
    dataOK NOW0 p DScompacted = true ∧ WellPlaced DScompacted ∧
    (runCachedI NOW0 σ0 p DSraw DScompacted true).length = 4 := by decide +kernel

/-- why the hook must clear the cached plan: reusing the pre-compaction plan (hour globs only) after the
    compaction loses the rows that moved into the day-level file — and with empty hour directories the listed
    globs match nothing (DuckDB: "No files found"). -/
theorem C18_compaction_needs_invalidate_witness :
    let p := Pred.and (timeCmp .ge (litAt 10 0)) (timeCmp .lt (litAt 12 0))
    runCached NOW0 σ0 p DSraw DScompacted ≠ runFull NOW0 σ0 p DScompacted ∧
    planBroken (planFor (extractStmt NOW0 p) DSraw) [{ part := .day 19797, rows := [] }] = true := by decide +kernel

/-! ## the classes that remain: one counterexample each (the full statement instantiated, refuted by evaluation) -/

/-- start-only predicate, data later than now + 24 h (`now` = 2024-03-14 10:30, so the assumed end is
    2024-03-15 10:30): `time >= '2024-03-15 09:00'` loses the rows of 11:00 and 12:00. -/
theorem C18_start_only_future_witness :
    runPruned (T0 - 24 * HOUR + 30 * 60 * NS) σ0 (timeCmp .ge (litAt 9 0)) DS0 ≠
    runFull (T0 - 24 * HOUR + 30 * 60 * NS) σ0 (timeCmp .ge (litAt 9 0)) DS0 := by decide +kernel

/-- plan cached before hour 11 existed, reused (transform cache TTL) after the flush created it. -/
theorem C18_cache_stale_witness :
    let p := Pred.and (timeCmp .ge (litAt 10 0)) (timeCmp .lt (litAt 12 0))
    let ds0 : Dataset := [hourFile 9 [30], hourFile 10 [0, 30]]
    let ds1 : Dataset := ds0 ++ [hourFile 11 [0]]
    dataOK NOW0 p ds1 = true ∧ cacheValid NOW0 (NOW0 + 30 * NS) = true ∧
    runCached (NOW0 + 30 * NS) σ0 p ds0 ds1 ≠ runFull (NOW0 + 30 * NS) σ0 p ds1 := by decide +kernel

/-- data before minPartitionDate (Arc's ingest accepts pre-1970 timestamps): `time >= '1969-12-31' AND time < '1970-01-02'`. -/
theorem C18_pre_epoch_witness :
    let lo : Rhs := .lit { fmt := 0, y := 1969, mo := 12, d := 31, hh := 0, mi := 0, ss := 0, frac := 0, off := 0 }
    let hi : Rhs := .lit { fmt := 0, y := 1970, mo := 1, d := 2, hh := 0, mi := 0, ss := 0, frac := 0, off := 0 }
    let ds : Dataset := [{ part := .hour (-1), rows := [mkRow (-1800 * NS)] }, { part := .hour 0, rows := [mkRow (1800 * NS)] }]
    let p := Pred.and (timeCmp .ge lo) (timeCmp .lt hi)
    WellPlaced ds ∧ runPruned NOW0 σ0 p ds ≠ runFull NOW0 σ0 p ds := by decide +kernel

/-- quirk kept by the model (performance only, results unaffected): the path cap does not fire for spans the
    saturating `Sub` cannot represent — 1970 … 2370 yields 3.5 million paths instead of the unpruned fallback. -/
theorem C18_cap_quirk_witness :
    overCap 0 (400 * 365 * DAY) = false ∧ overCap 0 (6 * 365 * DAY) = true := by decide +kernel

/-! ## history: the inputs that refuted the property before the repairs now return the full result -/

/-- OR, NOT (642ecb4): no pruning. -/
example :
    let por := Pred.or (timeCmp .ge (litAt 11 0)) (.atom (.base (.cmp .plain .ge (.num 0))))
    let pnot := Pred.not (timeCmp .ge (litAt 11 0))
    runPruned NOW0 σ0 por DS0 = runFull NOW0 σ0 por DS0 ∧ runPruned NOW0 σ0 pnot DS0 = runFull NOW0 σ0 pnot DS0 ∧
    extractStmt NOW0 por = none ∧ extractStmt NOW0 pnot = none := by decide +kernel

/-- `<=` and BETWEEN upper bound on the hour (5c0e6c5): the hour that starts at the bound is read. -/
example :
    let ple := Pred.and (timeCmp .ge (litAt 10 0)) (timeCmp .le (litAt 11 0))
    let pbt := Pred.atom (.base (.between .time (litAt 10 0) (litAt 11 0)))
    runPruned NOW0 σ0 ple DS0 = runFull NOW0 σ0 ple DS0 ∧ runPruned NOW0 σ0 pbt DS0 = runFull NOW0 σ0 pbt DS0 ∧
    (readSet (extractStmt NOW0 ple) DS0).length = 2 := by decide +kernel

def lit2020 : Rhs := .lit { fmt := 1, y := 2020, mo := 1, d := 1, hh := 2, mi := 0, ss := 0, frac := 0, off := 0 }
def DS2019 : Dataset :=
  [{ part := .hour 438287, rows := [mkRow 1577835000000000000] }, { part := .hour 438288, rows := [mkRow 1577838600000000000] }]

/-- end-only predicate with data before 2020 (a6e9521): the range starts at the floor; here it exceeds the path
    cap, so the statement is read unpruned. -/
example :
    runPruned NOW0 σ0 (timeCmp .lt lit2020) DS2019 = runFull NOW0 σ0 (timeCmp .lt lit2020) DS2019 ∧
    planFor (extractStmt NOW0 (timeCmp .lt lit2020)) DS2019 = none := by decide +kernel

/-- a column whose name merely ends in `time` (18e1f86) is invisible: only `time >= '09:00'` bounds the range. -/
example :
    let ds : Dataset := [{ part := .hour 475137, rows := [{ time := tAt 9 30, c1 := tAt 11 30, c2 := 0, v := 1 }] }, hourFile 11 [0]]
    let p := Pred.and (.atom (.base (.cmp .likeTime .ge (litAt 11 0)))) (timeCmp .ge (litAt 9 0))
    runPruned NOW0 σ0 p ds = runFull NOW0 σ0 p ds ∧
    extractStmt NOW0 p = some (tAt 9 0, NOW0 + startOnlyAddNs, true) := by decide +kernel

/-- subquery (b2903b5): more than one SELECT ⇒ no pruning. -/
example :
    runPruned NOW0 σ0 (.atom (.sub 0 [.cmp .time .ge (litAt 11 0)])) DS0 =
    runFull NOW0 σ0 (.atom (.sub 0 [.cmp .time .ge (litAt 11 0)])) DS0 := by decide +kernel

/-- `time >= NOW() - INTERVAL '1 month'` on 2024-03-31 12:00 (b6673db): the pruner now reads Feb 29 12:00 like DuckDB
    (plain `AddDate` gave Mar 2 12:00). -/
example :
    let now : Int := 1711886400000000000
    relGo now false 1 .month = relDb now false 1 .month ∧ goAddMonths now (-1) ≠ relDb now false 1 .month ∧
    relGo now false 1 .month = 1709208000 * NS := by decide +kernel

end Arc.C18
