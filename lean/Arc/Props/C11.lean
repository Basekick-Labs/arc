import Arc.Model.C11
import Arc.Generated.C11
import Arc.Base.Lists
/-!
# C11 — retention only deletes data older than the cutoff

All theorems are about `run srcCfg`, i.e. the model instantiated with the comparator and the
listing prefixes *generated from the current `retention.go`*; the two tie theorems
`C11_comparator_strict` / `C11_prefix_slash` are what breaks when the source changes them.
A "row with a timestamp" is a `some t ∈ f.times` (rows whose `time` is NULL have no timestamp to
compare; `MAX` ignores them, exactly like DuckDB).
-/
namespace Arc.C11
open Arc.Generated.C11 (TimeCmp)

theorem maxTime_none {ts : List (Option Int)} (h : maxTime ts = none) : ∀ t, some t ∉ ts := by
  induction ts with
  | nil => exact fun _ => List.not_mem_nil
  | cons x xs ih =>
    cases x with
    | none => exact fun t ht => ih h t ((List.mem_cons.mp ht).resolve_left nofun)
    | some u => simp only [maxTime] at h; split at h <;> cases h

theorem maxTime_some {ts : List (Option Int)} {m : Int} (h : maxTime ts = some m) :
    some m ∈ ts ∧ ∀ t, some t ∈ ts → t ≤ m := by
  induction ts generalizing m with
  | nil => cases h
  | cons x xs ih =>
    cases x with
    | none => simpa using ih h
    | some t0 =>
      simp only [List.mem_cons, Option.some.injEq, forall_eq_or_imp]
      simp only [maxTime] at h
      split at h <;> cases h
      · next hm => exact ⟨.inl rfl, Int.le_refl _, fun t ht => absurd ht (maxTime_none hm t)⟩
      · next m' hm =>
        obtain ⟨h1, h2⟩ := ih hm
        split
        · next hlt => exact ⟨.inr h1, Int.le_of_lt hlt, h2⟩
        · next hge => exact ⟨.inl rfl, Int.le_refl _, fun t ht => Int.le_trans (h2 t ht) (Int.not_lt.mp hge)⟩

/-- "consists only of rows older than the cutoff" for a file with at least one timestamped row -/
def AllOld (cutoff : Int) (f : PFile) : Prop :=
  (∃ t, some t ∈ f.times) ∧ ∀ t, some t ∈ f.times → t * 1000 < cutoff

theorem eligible_before_iff (cutoff : Int) (f : PFile) :
    eligible .before cutoff f = true ↔ AllOld cutoff f := by
  unfold eligible AllOld
  cases hm : maxTime f.times with
  | none => exact ⟨nofun, fun h => h.1.elim fun t ht => absurd ht (maxTime_none hm t)⟩
  | some m =>
    obtain ⟨h1, h2⟩ := maxTime_some hm
    simp only [cmpFn, decide_eq_true_eq]
    exact ⟨fun hlt => ⟨⟨m, h1⟩, fun t ht =>
        Int.lt_of_le_of_lt (Int.mul_le_mul_of_nonneg_right (h2 t ht) (by decide)) hlt⟩,
      fun h => h.2 m h1⟩

/-- **C11_comparator_strict.** The comparator found in the current `deleteOldFiles` is the strict
"older than" (`maxTime.Before(cutoffDate)`). -/
theorem C11_comparator_strict : srcCfg.cmp = .before := rfl

/-- **C11_prefix_slash.** Both listing prefixes found in the current source end in `/`. -/
theorem C11_prefix_slash : srcCfg.mts = true ∧ srcCfg.dts = true := ⟨rfl, rfl⟩

theorem selected_src (store : Store) (pol : Policy) (cutoff : Int) (f : PFile) :
    selected srcCfg store pol cutoff f = true ↔
      (covered srcCfg store pol f = true ∧ isParquet f.path = true ∧ AllOld cutoff f) := by
  unfold selected
  rw [C11_comparator_strict, Bool.and_eq_true, Bool.and_eq_true, eligible_before_iff, and_assoc]

theorem mem_run (c : Cfg) (store : Store) (pol : Policy) (now : Int) (f : PFile) :
    f ∈ (run c false store pol now).1 ↔
      f ∈ store ∧ ¬ selected c store pol (cutoffNs now pol.ret pol.buf) f = true := by
  show f ∈ store.filter _ ↔ _
  rw [List.mem_filter, Bool.not_eq_true', Bool.eq_false_iff]

/-- **C11_safe.** A file removed by a retention run holds no row whose timestamp is at or after the
cutoff: every timestamped row of it is strictly older. -/
theorem C11_safe (store : Store) (pol : Policy) (now : Int) (f : PFile)
    (hin : f ∈ store) (hgone : f ∉ (run srcCfg false store pol now).1) :
    ∀ t, some t ∈ f.times → t * 1000 < cutoffNs now pol.ret pol.buf :=
  ((selected_src ..).mp <| Decidable.of_not_not fun hn => hgone ((mem_run ..).mpr ⟨hin, hn⟩)).2.2.2

/-- **C11_complete.** After a run, no remaining parquet file of a covered measurement consists only
of (timestamped) rows older than the cutoff. -/
theorem C11_complete (store : Store) (pol : Policy) (now : Int) (f : PFile)
    (hrem : f ∈ (run srcCfg false store pol now).1)
    (hcov : covered srcCfg store pol f = true) (hpq : isParquet f.path = true) :
    ¬ AllOld (cutoffNs now pol.ret pol.buf) f :=
  fun hold => ((mem_run ..).mp hrem).2 ((selected_src ..).mpr ⟨hcov, hpq, hold⟩)

/-- **C11_boundary.** A file whose newest row is exactly at the cutoff (or later) is kept. -/
theorem C11_boundary (store : Store) (pol : Policy) (now : Int) (f : PFile) (m : Int)
    (hin : f ∈ store) (hmax : maxTime f.times = some m)
    (hb : cutoffNs now pol.ret pol.buf ≤ m * 1000) :
    f ∈ (run srcCfg false store pol now).1 := by
  refine (mem_run ..).mpr ⟨hin, fun h => ?_⟩
  have := ((selected_src ..).mp h).2.2.2 m (maxTime_some hmax).1
  omega

/-- **C11_dryrun.** A dry run deletes nothing and reports exactly what the real run at the same
instant reports (same cutoff, rows, files, measurements). -/
theorem C11_dryrun (store : Store) (pol : Policy) (now : Int) :
    (run srcCfg true store pol now).1 = store ∧
    (run srcCfg true store pol now).2 = (run srcCfg false store pol now).2 := by
  unfold run
  simp

/-- **C11_dry_gate.** On the HTTP path the field that makes a request a dry run is the request's own
`dry_run` (generated from `handleExecute`). -/
theorem C11_dry_gate : Arc.Generated.C11.dryGate = .reqDryRun := rfl

/-- **C11_dry_flag_inert.** Any execute request that carries `dry_run = true` deletes nothing —
whatever `confirm` says — and reports what the confirmed real run at the same instant reports. -/
theorem C11_dry_flag_inert (confirm : Bool) (store : Store) (pol : Policy) (now : Int) :
    (execHttp Arc.Generated.C11.dryGate srcCfg true confirm store pol now).1 = store ∧
    (execHttp Arc.Generated.C11.dryGate srcCfg true confirm store pol now).2 =
      some (run srcCfg false store pol now).2 := by
  rw [C11_dry_gate]
  simp [execHttp, (C11_dryrun store pol now).1, (C11_dryrun store pol now).2]

/-- **C11_unconfirmed_inert.** Without `dry_run` and without `confirm` nothing happens at all. -/
theorem C11_unconfirmed_inert (store : Store) (pol : Policy) (now : Int) :
    execHttp Arc.Generated.C11.dryGate srcCfg false false store pol now = (store, none) := by
  rw [C11_dry_gate]
  simp [execHttp]

/-- **C11_max_over_whole_file.** The `MAX(time)` that decides a file's fate is one aggregate over the
whole file (all row groups) in the current source — the model's `maxTime f.times`. -/
theorem C11_max_over_whole_file : Arc.Generated.C11.maxTimeScansWholeFile = true := rfl

/-- **C11_exec_records_ignored.** The current source never consults earlier execution records when it
runs a policy … -/
theorem C11_exec_records_ignored : Arc.Generated.C11.runIgnoresExecutionRecords = true := rfl

/-- **C11_run_after_crash.** … hence a later run's outcome does not depend on leftover execution rows:
whatever rows earlier (completed, failed or KILLED) runs left behind, the run removes the same files
and reports the same; in particular after a crash (any subset of files already removed, row left
`running`) the next run still leaves no covered file with only expired rows (`C11_complete`) and
removes no unexpired row (`C11_safe`). -/
theorem C11_run_after_crash (store : Store) (e1 e2 : List (Nat × ExecStatus)) (pid : Nat)
    (pol : Policy) (now : Int) :
    ((Sys.exec srcCfg ⟨store, e1⟩ pid pol now).1.store = (Sys.exec srcCfg ⟨store, e2⟩ pid pol now).1.store ∧
     (Sys.exec srcCfg ⟨store, e1⟩ pid pol now).2 = (Sys.exec srcCfg ⟨store, e2⟩ pid pol now).2) ∧
    ∀ (s : Sys) (gone : PFile → Bool) (f : PFile),
      let s' := (Sys.exec srcCfg (s.crash pid gone) pid pol now).1
      (f ∈ s'.store → covered srcCfg (s.crash pid gone).store pol f = true → isParquet f.path = true →
          ¬ AllOld (cutoffNs now pol.ret pol.buf) f) ∧
      (f ∈ (s.crash pid gone).store → f ∉ s'.store →
          ∀ t, some t ∈ f.times → t * 1000 < cutoffNs now pol.ret pol.buf) :=
  ⟨⟨rfl, rfl⟩, fun _ _ f => ⟨C11_complete _ pol now f, C11_safe _ pol now f⟩⟩

/-- **C11_report.** The reported file and row counts are exactly what disappeared. -/
theorem C11_report (store : Store) (pol : Policy) (now : Int) :
    (run srcCfg false store pol now).2.files + (run srcCfg false store pol now).1.length = store.length ∧
    (run srcCfg false store pol now).2.rows + rowCount (run srcCfg false store pol now).1 = rowCount store := by
  have hp := List.filter_append_perm (selected srcCfg store pol (cutoffNs now pol.ret pol.buf)) store
  constructor
  · rw [← hp.length_eq, List.length_append]; rfl
  · unfold rowCount; rw [← (hp.map _).sum_nat, List.map_append, List.sum_append_nat]; rfl

/-- **C11_prefix.** Key-prefix lemma: with the trailing `/`, a key listed for `(db, m)` cannot also be
listed for another `(db', m')` (names without `/`): `db/m/` never matches `db/m2/…` or `db2/…`. -/
theorem C11_prefix (db m db' m' path : Str)
    (h1 : '/' ∉ db) (h2 : '/' ∉ m) (h3 : '/' ∉ db') (h4 : '/' ∉ m')
    (hp : (measPrefix srcCfg.mts db m).isPrefixOf path = true)
    (hq : (measPrefix srcCfg.mts db' m').isPrefixOf path = true) : db = db' ∧ m = m' := by
  rw [C11_prefix_slash.1, List.isPrefixOf_iff_prefix] at hp hq
  obtain ⟨r1, hr1⟩ := hp
  obtain ⟨r2, hr2⟩ := hq
  unfold measPrefix slash at hr1 hr2
  simp only [if_true, List.append_assoc, List.cons_append, List.nil_append] at hr1 hr2
  have e := hr1.trans hr2.symm
  obtain ⟨e1, e2⟩ := split_sep h1 h3 e
  obtain ⟨e3, _⟩ := split_sep h2 h4 e2
  exact ⟨e1, e3⟩

/-- **C11_other_untouched.** A policy with measurement filter `m` on database `db` never removes a
file stored under a different `db'/m'/` — including names that share a prefix (`m2`, `db2`). -/
theorem C11_other_untouched (store : Store) (db m db' m' rest : Str) (ret buf now : Int) (f : PFile)
    (h1 : '/' ∉ db) (h2 : '/' ∉ m) (h3 : '/' ∉ db') (h4 : '/' ∉ m') (hne : ¬ (db = db' ∧ m = m'))
    (hm : m ≠ [])
    (hin : f ∈ store) (hpath : f.path = measPrefix true db' m' ++ rest) :
    f ∈ (run srcCfg false store { db := db, meas := some m, ret := ret, buf := buf } now).1 := by
  refine (mem_run ..).mpr ⟨hin, fun h => ?_⟩
  have hc := ((selected_src ..).mp h).1
  simp only [covered, measurements, List.isEmpty_iff, hm, if_false, List.any_cons, List.any_nil,
    Bool.or_false] at hc
  have hq : (measPrefix srcCfg.mts db' m').isPrefixOf f.path = true := by
    rw [C11_prefix_slash.1, List.isPrefixOf_iff_prefix, hpath]
    exact List.prefix_append _ _
  exact hne (C11_prefix db m db' m' f.path h1 h2 h3 h4 hc hq)

/-- **C11_tight_witness.** The strict comparator is necessary: with "older or equal" (`!maxTime.After`)
a file whose newest row is exactly at the cutoff would be deleted. -/
theorem C11_tight_witness :
    let c : Cfg := { cmp := .notAfter, mts := true, dts := true }
    let f : PFile := { path := "db/m/a.parquet".toList, times := [some 1000, some 2000] }
    let pol : Policy := { db := "db".toList, meas := some "m".toList, ret := 1, buf := 0 }
    -- now = 1 day + 2 ms  ⇒ cutoff = 2 000 000 ns = newest row (2000 µs)
    (run c false [f] pol (nsPerDay + 2000000)).1 = [] ∧
    (run srcCfg false [f] pol (nsPerDay + 2000000)).1 = [f] := by decide +kernel

/-- An event of a history: the store is changed from outside (ingest, compaction replacing hour
files by a day file, tiering …) or a retention run of some policy at some instant. -/
inductive Ev
  | ext (s : Store)
  | run (pol : Policy) (now : Int)

def stepEv (s : Store) : Ev → Store
  | .ext s' => s'
  | .run pol now => (Arc.C11.run srcCfg false s pol now).1

/-- (state before the event, event) along a history -/
def trace : Store → List Ev → List (Store × Ev)
  | _, [] => []
  | s, e :: es => (s, e) :: trace (stepEv s e) es

/-- **C11_history_safe.** Along ANY history of external store changes interleaved with retention
runs (any policies, any clock values), a file that a run removes holds only rows older than that
run's cutoff, and a file whose newest row is at/after that cutoff survives the run. -/
theorem C11_history_safe (s0 : Store) (evs : List Ev) (s : Store) (pol : Policy) (now : Int)
    (_h : (s, Ev.run pol now) ∈ trace s0 evs) (f : PFile) (hin : f ∈ s) :
    (f ∉ stepEv s (.run pol now) → ∀ t, some t ∈ f.times → t * 1000 < cutoffNs now pol.ret pol.buf) ∧
    (∀ m, maxTime f.times = some m → cutoffNs now pol.ret pol.buf ≤ m * 1000 →
        f ∈ stepEv s (.run pol now)) :=
  ⟨C11_safe s pol now f hin, fun m => C11_boundary s pol now f m hin⟩

/-- A run that deletes one old file, keeps a boundary file, a straddling file, a NULL-only file, a
file of a prefix-sharing measurement and a non-parquet file — hypotheses of `C11_safe`,
`C11_complete`, `C11_boundary`, `C11_other_untouched` are all met by this state. -/
example :
    let old : PFile := { path := "db/m/1/old.parquet".toList, times := [some 10, none, some 20] }
    let edge : PFile := { path := "db/m/1/edge.parquet".toList, times := [some 10, some 2000] }
    let mix : PFile := { path := "db/m/1/mix.PARQUET".toList, times := [some 10, some 5000] }
    let nul : PFile := { path := "db/m/1/nul.parquet".toList, times := [none] }
    let m2 : PFile := { path := "db/m2/1/old.parquet".toList, times := [some 10] }
    let js : PFile := { path := "db/m/1/manifest.json".toList, times := [] }
    let store := [old, edge, mix, nul, m2, js]
    let pol : Policy := { db := "db".toList, meas := some "m".toList, ret := 1, buf := 0 }
    let polAll : Policy := { db := "db".toList, meas := none, ret := 1, buf := 0 }
    (run srcCfg false store pol (nsPerDay + 2000000)).1 = [edge, mix, nul, m2, js] ∧
    (run srcCfg false store pol (nsPerDay + 2000000)).2.rows = 3 ∧
    (run srcCfg false store polAll (nsPerDay + 2000000)).1 = [edge, mix, nul, js] ∧
    (run srcCfg false store polAll (nsPerDay + 2000000)).2.meas = ["m2".toList, "m".toList] := by
  decide +kernel

end Arc.C11
