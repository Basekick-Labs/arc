import Arc.Model.C15
import Arc.Proofs.C15.Mask
import Arc.Proofs.C15.Round2
import Arc.Generated.C15
/-!
# C15 — SQL normalisation agrees with DuckDB's lexer and is reversible   (tree at 73763cd)

`mSegs` / `render` / `unmask` model `MaskStringLiterals` / `UnmaskStringLiterals` (single-pass
`strings.NewReplacer`), `sSegs` / `strip` model `stripSQLComments`, `lSegs` is SqlLex (the reference
lexer; validated against DuckDB's own parser by the harness). Helper lemmas: `Arc/Proofs/C15/*`.

After the repairs 8f4fe38 / abf5a7e / 942e7b2 / 64dff5c / 17363b5 / 168cceb the masker's quote bodies, escape strings,
dollar tags and comments ARE SqlLex's, and restored text is never rescanned. Full statements that
still do NOT hold of the code (one `_witness` each, each also a harness monitor):

    theorem C15_agree_full (s) : mSegs s = lSegs s                     -- false: `$`/`e'` decided by the previous BYTE
    theorem C15_strip_agree_full (t) (no literal in t) : sSegs t = lSegs t   -- false: `--` ended by CR, nested block comments
    theorem C15_roundtrip_full (s) : unmask (mask s true).1 (mask s true).2 = s   -- false: look-alike text OUTSIDE literals

They are proved on the explicit decidable classes `kClassM s = 0`, `kClassS t = 0`, `kClassP s = 0`
(`Arc/Model/C15.lean`). Concrete inputs are explicit UTF-8 byte lists (so that `decide` can evaluate
them in the kernel); the doc comment of each theorem shows the text.
-/
namespace Arc.C15

/-! ## spans partition the input (all inputs) -/

/-- **C15_mask_partition.** The tokens, comments and raw bytes the masker delimits are a partition of
the input (nothing is dropped, duplicated or reordered before placeholders are substituted). -/
theorem C15_mask_partition (s : Bytes) : segBytes (mSegs s) = s :=
  mSegsF_bytes s.length 0 s (Nat.le_refl _)

/-- **C15_lex_partition.** Same for SqlLex. -/
theorem C15_lex_partition (s : Bytes) : segBytes (lSegs s) = s :=
  lSegsF_bytes s.length false s (Nat.le_refl _)

/-! ## comment stripping changes nothing outside (what it takes to be) a comment — all inputs -/

theorem sTok_plain (c : UInt8) (t : Bytes) : (sTok c t).1.plain = true :=
  have ite {p} [Decidable p] {a b} := @iteInduction _ p _ (fun r : Seg × Bytes => r.1.plain = true) a b
  ite (fun _ => rfl) fun _ => ite (fun _ => rfl) fun _ => rfl

theorem sSegsF_plain (f : Nat) (t : Bytes) : ∀ sg ∈ sSegsF f t, sg.plain = true := by
  fun_induction sSegsF f t with
  | case1 | case2 => exact fun _ h => nomatch h
  | case3 f c t r ih =>
    intro sg h
    rcases List.mem_cons.1 h with rfl | h
    · exact sTok_plain c t
    · exact ih sg h

/-- **C15_strip_outside.** For every text `t`: the segments `stripSQLComments` delimits partition `t`;
each segment is a single byte or one of ITS comment spans; the output is the concatenation, in order,
of every non-comment byte unchanged, one space per block-comment span and nothing per line-comment span.
(Whether those spans are the comments DuckDB sees is `C15_strip_agree_partial`.) -/
theorem C15_strip_outside (t : Bytes) :
    segBytes (sSegs t) = t ∧
    (∀ sg ∈ sSegs t, (∃ b, sg = .raw b ∧ stripOut sg = [b]) ∨ (∃ o, sg = .lcom o ∧ stripOut sg = []) ∨
      (∃ o, sg = .bcom o ∧ stripOut sg = [32])) ∧
    strip t true = (sSegs t).flatMap stripOut := by
  refine ⟨sSegsF_bytes _ t (Nat.le_refl _), fun sg h => ?_, rfl⟩
  have := sSegsF_plain _ _ sg h
  cases sg with
  | raw b => exact Or.inl ⟨b, rfl, rfl⟩
  | lcom o => exact Or.inr (Or.inl ⟨o, rfl, rfl⟩)
  | bcom o => exact Or.inr (Or.inr ⟨o, rfl, rfl⟩)
  | _ => cases this

/-- `a /* x */ b -- y⏎c` ↦ `a   b ⏎c` -/
example : strip ([97, 32, 47, 42, 32, 120, 32, 42, 47, 32, 98, 32, 45, 45, 32, 121, 10, 99] : Bytes) true = ([97, 32, 32, 32, 98, 32, 10, 99] : Bytes) := by decide +kernel

/-! ## agreement with SqlLex on the class K -/

/-- **C15_agree_partial.** On `kClassM s = 0` — no `$` / `e'` that continues an identifier after `$` or
a non-ASCII byte, none glued to a number — the segmentation
of `MaskStringLiterals` (literals, quoted identifiers, AND the comments it copies through) is exactly
SqlLex's. Backslashes, quotes inside comments, non-ASCII dollar tags and `--` comments ended by a carriage
return are inside the class since the repairs. -/
theorem C15_agree_partial (s : Bytes) (hK : kClassM s = 0) : mSegs s = lSegs s :=
  mSegsF_eq_lSegsF s.length false 0 s hK

/-- formerly excluded constructs are now inside the class:
`SELECT 'a\' AS x, E'\\' AS y, $é$q$é$ /* ' */ FROM "t\" -- ' "⏎` -/
example : kClassM ([83, 69, 76, 69, 67, 84, 32, 39, 97, 92, 39, 32, 65, 83, 32, 120, 44, 32, 69, 39, 92, 92, 39, 32, 65, 83, 32, 121, 44, 32, 36, 195, 169, 36, 113, 36, 195, 169, 36, 32, 47, 42, 32, 39, 32, 42, 47, 32, 70, 82, 79, 77, 32, 34, 116, 92, 34, 32, 45, 45, 32, 39, 32, 34, 10] : Bytes) = 0 := by decide +kernel

/-- **C15_strip_agree_partial.** On `kClassS t = 0` (text without literals — what the masker hands
over —, no nested block comment, no `--` comment ended by a carriage return) the comment spans of `stripSQLComments` are exactly SqlLex's. -/
theorem C15_strip_agree_partial (t : Bytes) (hK : kClassS t = 0) : sSegs t = lSegs t :=
  sSegsF_eq_lSegsF t.length false t hK

example : kClassS ([83, 69, 76, 69, 67, 84, 32, 95, 95, 83, 84, 82, 95, 48, 95, 95, 32, 47, 42, 32, 99, 32, 42, 47, 32, 70, 82, 79, 77, 32, 95, 95, 73, 68, 69, 78, 84, 95, 49, 95, 95, 32, 45, 45, 32, 100, 111, 110, 101, 10, 59, 59] : Bytes) = 0 := by decide +kernel

/-! ## one witness per excluded construct (each also replayed on the real code by the harness) -/

/-- `$` is an identifier character: `a$$x$ b` is ONE identifier for DuckDB, the masker swallows `$x$ b` -/
theorem C15_agree_witness_dollar_in_identifier :
    kClassM ([97, 36, 36, 120, 36, 32, 98] : Bytes) = kDollarInIdent ∧ mSegs ([97, 36, 36, 120, 36, 32, 98] : Bytes) ≠ lSegs ([97, 36, 36, 120, 36, 32, 98] : Bytes) := by decide +kernel
/-- `éE'a'`: the `E` continues the identifier `éE` -/
theorem C15_agree_witness_e_in_identifier :
    kClassM ([195, 169, 69, 39, 97, 39] : Bytes) = kEInIdent ∧ mSegs ([195, 169, 69, 39, 97, 39] : Bytes) ≠ lSegs ([195, 169, 69, 39, 97, 39] : Bytes) := by decide +kernel
/-- `1$$a$$` -/
theorem C15_agree_witness_dollar_after_digit :
    kClassM ([49, 36, 36, 97, 36, 36] : Bytes) = kDollarAfterDigit ∧ mSegs ([49, 36, 36, 97, 36, 36] : Bytes) ≠ lSegs ([49, 36, 36, 97, 36, 36] : Bytes) := by decide +kernel
/-- `1e'a'` -/
theorem C15_agree_witness_estring_after_digit :
    kClassM ([49, 101, 39, 97, 39] : Bytes) = kEAfterDigit ∧ mSegs ([49, 101, 39, 97, 39] : Bytes) ≠ lSegs ([49, 101, 39, 97, 39] : Bytes) := by decide +kernel
/-- a carriage return ends a `--` comment for DuckDB, not for `stripSQLComments`: `b` is deleted -/
theorem C15_strip_witness_cr :
    kClassS ([45, 45, 97, 13, 98] : Bytes) = kCrEndsLine ∧ sSegs ([45, 45, 97, 13, 98] : Bytes) ≠ lSegs ([45, 45, 97, 13, 98] : Bytes) ∧ strip ([45, 45, 97, 13, 98] : Bytes) true = [] := by decide +kernel
/-- block comments nest in DuckDB: `c*/` survives stripping although it is inside the comment -/
theorem C15_strip_witness_nested :
    kClassS ([47, 42, 97, 47, 42, 98, 42, 47, 99, 42, 47, 100, 101] : Bytes) = kNested ∧ sSegs ([47, 42, 97, 47, 42, 98, 42, 47, 99, 42, 47, 100, 101] : Bytes) ≠ lSegs ([47, 42, 97, 47, 42, 98, 42, 47, 99, 42, 47, 100, 101] : Bytes) ∧ strip ([47, 42, 97, 47, 42, 98, 42, 47, 99, 42, 47, 100, 101] : Bytes) true = ([32, 99, 42, 47, 100, 101] : Bytes) := by decide +kernel
/-- `/**/x` (one byte after a block comment — swallowed before 168cceb) is inside the class now and
keeps its `x` -/
example : kClassS ([47, 42, 42, 47, 120] : Bytes) = 0 ∧ strip ([47, 42, 42, 47, 120] : Bytes) true = ([32, 120] : Bytes) := by decide +kernel
/-- `--c␍'a'` (comment ended by a carriage return — not masked before 17363b5) is inside `kClassM` now -/
example : kClassM ([45, 45, 99, 13, 39, 97, 39] : Bytes) = 0 := by decide +kernel

/-! ## round trip -/

/-- **C15_roundtrip_partial.** `UnmaskStringLiterals(MaskStringLiterals(s, hasQuotes)) = s` whenever no
`STR_` / `IDENT_` fragment occurs in the text OUTSIDE string literals and quoted identifiers
(`kClassP s = 0`), for either value of the flag. Quoted identifiers (shared placeholders for
byte-identical tokens), any number of masks, and literals whose CONTENT spells a placeholder
(`'__STR_1__'`, `'__IDENT_0__'`) are all covered: the single pass never rescans restored text, no
placeholder is a prefix of another, and no placeholder text can start inside clean un-masked text. -/
theorem C15_roundtrip_partial (s : Bytes) (hq : Bool) (hK : kClassP s = 0) :
    unmask (mask s hq).1 (mask s hq).2 = s := by
  unfold mask
  cases hq with
  | false => simpa [unmask, unmaskF] using unmaskF_copy (Mall := []) (R := []) s 1 fun _ _ _ _ _ hm => nomatch hm
  | true =>
    have hc : runsClean [] (mSegs s) = true :=
      Decidable.by_contra fun h => by simp [kClassP, h, kLookalike] at hK
    simpa [C15_mask_partition] using roundtrip_segs (mSegs s) hc

/-- the hypothesis holds for
`SELECT "Host", "host", "Host", '__IDENT_0__', '__STR_9__' FROM t__1 -- $$` (4 masks: `"Host"` shared) -/
example : kClassP ([83, 69, 76, 69, 67, 84, 32, 34, 72, 111, 115, 116, 34, 44, 32, 34, 104, 111, 115, 116, 34, 44, 32, 34, 72, 111, 115, 116, 34, 44, 32, 39, 95, 95, 73, 68, 69, 78, 84, 95, 48, 95, 95, 39, 44, 32, 39, 95, 95, 83, 84, 82, 95, 57, 95, 95, 39, 32, 70, 82, 79, 77, 32, 116, 95, 95, 49, 32, 45, 45, 32, 36, 36] : Bytes) = 0 ∧ (mask ([83, 69, 76, 69, 67, 84, 32, 34, 72, 111, 115, 116, 34, 44, 32, 34, 104, 111, 115, 116, 34, 44, 32, 34, 72, 111, 115, 116, 34, 44, 32, 39, 95, 95, 73, 68, 69, 78, 84, 95, 48, 95, 95, 39, 44, 32, 39, 95, 95, 83, 84, 82, 95, 57, 95, 95, 39, 32, 70, 82, 79, 77, 32, 116, 95, 95, 49, 32, 45, 45, 32, 36, 36] : Bytes) true).2.length = 4 := by decide +kernel

/-- `__STR_0__ 'a'`: the user's own text `__STR_0__` outside any literal is replaced too; result `'a' 'a'` -/
theorem C15_roundtrip_witness_lookalike :
    kClassP ([95, 95, 83, 84, 82, 95, 48, 95, 95, 32, 39, 97, 39] : Bytes) = kLookalike ∧
    unmask (mask ([95, 95, 83, 84, 82, 95, 48, 95, 95, 32, 39, 97, 39] : Bytes) true).1 (mask ([95, 95, 83, 84, 82, 95, 48, 95, 95, 32, 39, 97, 39] : Bytes) true).2 = ([39, 97, 39, 32, 39, 97, 39] : Bytes) := by decide +kernel
/-- `__STR_0'a'`: a look-alike PREFIX glued to a literal is enough -/
theorem C15_roundtrip_witness_prefix :
    kClassP ([95, 95, 83, 84, 82, 95, 48, 39, 97, 39] : Bytes) = kLookalike ∧
    unmask (mask ([95, 95, 83, 84, 82, 95, 48, 39, 97, 39] : Bytes) true).1 (mask ([95, 95, 83, 84, 82, 95, 48, 39, 97, 39] : Bytes) true).2 ≠ ([95, 95, 83, 84, 82, 95, 48, 39, 97, 39] : Bytes) := by decide +kernel

/-! ## tie to the current source (regenerated facts) -/

/-- **C15_placeholder_formats_tied.** Every `Sprintf` format used for a placeholder in the current
`MaskStringLiterals` is the model's `__STR_%d__` / `__IDENT_%d__`. -/
theorem C15_placeholder_formats_tied :
    (∀ f ∈ Arc.Generated.C15.strFormats, f = (pfxStr, [95, 95])) ∧
    (∀ f ∈ Arc.Generated.C15.identFormats, f = (pfxIdent, [95, 95])) := by decide +kernel

/-- **C15_unmask_single_pass_tied.** `UnmaskStringLiterals` is one `strings.NewReplacer(pairs...)
.Replace(sql)` with the pairs in mask order and no per-mask Replace / ReplaceAll loop — what `unmaskF`
models and `C15_roundtrip_partial` relies on. -/
theorem C15_unmask_single_pass_tied : Arc.Generated.C15.unmaskSinglePass = true := by decide +kernel

/-- **C15_ident_dedup_key_tied.** Quoted identifiers share a placeholder only when their token text is
byte-for-byte identical (`render` looks the whole token up): the key of the `identPlaceholders` map in
the current source is the token text itself, not a normalised form. -/
theorem C15_ident_dedup_key_tied : Arc.Generated.C15.identDedupKeyIsTokenText = true := by decide +kernel

/-- **C15_sites_mask_before_strip.** Every function of `internal/api/query.go` that strips comments
masks first — the order `normalize` models. -/
theorem C15_sites_mask_before_strip :
    ∀ s ∈ Arc.Generated.C15.callSites, s.2 = true := by decide +kernel

end Arc.C15
