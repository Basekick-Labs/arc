import Arc.Proofs.C25.Steps
import Arc.Generated.C25
/-!
# C25 — peer file replication never exposes a bad file and converges

Objects (see `Arc/Model/C25.lean`): one manifest file with bytes `content` (manifest size
`content.length`, manifest digest `H content`), the replica files `Rep = (final, part)`, the fault
alphabet `Outcome`, one retry-loop iteration `attemptStep`, a whole `processEntry` call `runProc`
(script = per attempt one outcome per candidate peer) and a history of calls `runHist`.
`H` is an arbitrary function; collision-freeness appears only as a hypothesis (`CollisionFree`).

The code facts `f : Facts` are parameters.  Theorems without a side condition on `f` hold for every
combination — in particular for `Arc.Generated.C25.facts`, which factgen regenerates from the
source on every run; `C25_generated` states which regime the current source is in.

Property text, clause by clause
  (a) "appears at its final path only with exactly the bytes whose SHA-256 the manifest records"
      → `C25_final_correct`, `C25_final_exact`            (ALL facts, all fault histories)
  (b) "never counts a file as present while it is missing or incomplete at its final path"
      → `C25_counts`  (facts with a sound presence check or a `Delete` that removes `.part`)
        REFUTED for the round-1 facts: `C25_counts_witness`; what survives: `C25_counts_partial`
  (c) "once faults stop, every manifest file ends up present and correct"
      → `C25_converges` (same facts); REFUTED for the round-1 facts: `C25_converges_witness`;
        what survives: `C25_converges_partial`
-/
set_option linter.unusedSectionVars false
namespace Arc.C25

/-- the presence check of `processEntry` cannot be satisfied by a staging file -/
def Facts.presenceSound (f : Facts) : Bool := f.presenceNeedsFinal || !f.statPartFallback

/-- one of the two repairs is in the source -/
def Facts.repaired (f : Facts) : Bool := f.presenceSound || f.deleteRemovesPart

/-- decidable carve-out of the `_partial` theorems: no transfer in the history is corrupted -/
def notCorrupt : Outcome → Bool
  | .corrupt _ => false
  | _ => true

def scriptClean (script : List (List Outcome)) : Bool := script.all (fun a => a.all notCorrupt)
def histClean (hist : List (List (List Outcome))) : Bool := hist.all scriptClean

theorem notCorrupt_spec {o : Outcome} (h : notCorrupt o = true) : NotCorrupt o := by
  intro i hi; subst hi; simp [notCorrupt] at h

theorem scriptClean_spec {script : List (List Outcome)} (h : scriptClean script = true) :
    ScriptIn NotCorrupt script := by
  intro a ha o ho
  exact notCorrupt_spec (List.all_eq_true.mp (List.all_eq_true.mp h a ha) o ho)

theorem scriptIn_true {script : List (List Outcome)} : ScriptIn (fun _ => True) script :=
  fun _ _ _ _ => trivial

section
variable {D : Type} [DecidableEq D] (H : Bytes → D)

def CollisionFree : Prop := ∀ a b : Bytes, H a = H b → a = b

/-- a phantom is a full-size staging file, seen through `StatFile`'s fallback by a presence check
that does not insist on the final file -/
theorem phantom_part {f : Facts} {content : Bytes} {r : Rep} (h : Phantom f content r) :
    f.presenceSound = false ∧ ∃ p, r.part = some p ∧ p.length = content.length := by
  obtain ⟨hn, hp⟩ := h
  simp [present, statFile, hn] at hp
  exact ⟨by simp [Facts.presenceSound, hp.1.1, hp.2], hp.1.2⟩

theorem noPhantom_sound {f : Facts} {content : Bytes} {r : Rep} (hf : f.presenceSound = true) :
    ¬ Phantom f content r :=
  fun h => by simp [(phantom_part h).1] at hf

theorem noPhantom_short {f : Facts} {content : Bytes} {r : Rep}
    (hq : r.final = none → PartShort content r) : ¬ Phantom f content r := by
  intro h
  obtain ⟨p, hp, hl⟩ := (phantom_part h).2
  exact absurd hl (Nat.ne_of_lt (hq h.1 p hp))

theorem noPhantom_prefix {f : Facts} {content : Bytes} {r : Rep}
    (hq : r.final = none → PartPrefix content r) : ¬ Phantom f content r :=
  noPhantom_short (fun hn p hp => (hq hn p hp).2)

/-- side condition on the replica's starting state that the `Delete` repair needs (the
presence-check repair needs none): a non-empty file and no full-size staging file lying around. -/
def StartOK (f : Facts) (content : Bytes) (r : Rep) : Prop :=
  f.presenceSound = true ∨ (content ≠ [] ∧ (r.final = none → PartShort content r))

theorem histClean_spec {hist : List (List (List Outcome))} (h : histClean hist = true) :
    ∀ p ∈ hist, ScriptIn NotCorrupt p :=
  fun p hp => scriptClean_spec (List.all_eq_true.mp h p hp)

/-- one of the two repairs makes an invariant available that rules out phantoms -/
theorem stepOK_repaired {f : Facts} (hpo : f.orderOK = true) (hrep : f.repaired = true) {content : Bytes}
    {r0 : Rep} (h0 : GoodFinal H content r0) (hs : StartOK f content r0) :
    ∃ Q, StepOK H f content Q (fun _ => True) ∧ Inv H content Q r0 ∧
      ∀ r, Inv H content Q r → ¬ Phantom f content r := by
  by_cases hps : f.presenceSound = true
  · exact ⟨_, stepOK_any H f hpo content, ⟨h0, fun _ => trivial⟩, fun _ _ => noPhantom_sound hps⟩
  · have hdel : f.deleteRemovesPart = true := by simpa [Facts.repaired, hps] using hrep
    obtain ⟨hne, hq⟩ := hs.resolve_left hps
    exact ⟨_, stepOK_delete H f hpo content hdel hne, ⟨h0, hq⟩, fun r hr => noPhantom_short hr.2⟩

/-! ## (a) what reaches the final path -/

/-- **C25_final_correct.** For EVERY combination of code facts, every starting replica whose final
file (if any) is good, every history of `processEntry` calls and every per-attempt/per-peer fault
script: the final path holds only bytes with the manifest's digest and size.  (Histories are
prefix-closed, so this covers every intermediate state after whole calls; `C25_final_correct_within`
covers the states inside a call.) -/
theorem C25_final_correct (f : Facts) (hpo : f.orderOK = true) (content : Bytes) (maxA : Nat) (r0 : Rep) (c0 : Counters)
    (hist : List (List (List Outcome))) (h0 : GoodFinal H content r0) :
    ∀ b, (runHist H f content maxA (r0, c0) hist).1.final = some b →
      H b = H content ∧ b.length = content.length :=
  (runHist_inv H (stepOK_any H f hpo content) maxA hist (r0, c0)
    (fun _ _ => scriptIn_true) ⟨h0, fun _ => trivial⟩).1

theorem C25_final_correct_within (f : Facts) (hpo : f.orderOK = true) (content : Bytes) (maxA : Nat) (s : PState)
    (script : List (List Outcome)) (h0 : GoodFinal H content s.rep) :
    ∀ b, (runProc H f content maxA s script).rep.final = some b →
      H b = H content ∧ b.length = content.length :=
  (runProc_ok H (stepOK_any H f hpo content) maxA script s scriptIn_true ⟨h0, fun _ => trivial⟩).1.1

/-- **C25_final_exact.** With a collision-free digest the final path holds exactly the manifest
file's bytes. -/
theorem C25_final_exact (hcf : CollisionFree H) (f : Facts) (hpo : f.orderOK = true) (content : Bytes) (maxA : Nat) (r0 : Rep)
    (c0 : Counters) (hist : List (List (List Outcome))) (h0 : GoodFinal H content r0) :
    ∀ b, (runHist H f content maxA (r0, c0) hist).1.final = some b → b = content :=
  fun b hb => hcf _ _ (C25_final_correct H f hpo content maxA r0 c0 hist h0 b hb).1

/-- **C25_final_correct_during.** Step order inside an attempt: at the moment the write goroutine
of a `pullOnce` has finished (where `WriteReader`/`AppendReader` return and where the cleanup
`Delete` looks) the final path is empty or holds the verified file — PROVIDED `WriteReader` renames
only after the clean EOF that follows `Fetch`'s digest verdict (`promoteAfterVerdict`).  This is the
obligation `C25_promote_after_verdict` discharges for the current source; without it
`C25_early_promote_witness` shows unverified bytes at the final path. -/
theorem C25_final_correct_during (f : Facts) (hpo : f.orderOK = true) (content : Bytes)
    (resume : Bool) (r : Rep) (o : Outcome) (hr : r.final = none) :
    ∀ b, (pullOnce H f content resume r o).mid.final = some b →
      H b = H content ∧ b.length = content.length :=
  pullOnce_mid_good H f hpo content resume o hr

/-! ## (b) counted ⇒ complete -/

/-- **C25_counts_step.** The exact step-level statement, for every combination of code facts: an
attempt that counts the file (skipped-local or pulled) ends with a complete final file — unless the
presence check looked at a *phantom* (final file absent, yet "present").  -/
theorem C25_counts_step (f : Facts) (hpo : f.orderOK = true) (content : Bytes) (maxA : Nat) (s : PState) (peers : List Outcome)
    (hg : GoodFinal H content s.rep) (hrun : s.st = .running) (hnp : ¬ Phantom f content s.rep)
    (hc : (attemptStep H f content maxA s peers).st = .skipped ∨
          (attemptStep H f content maxA s peers).st = .pulled) :
    Complete H content (attemptStep H f content maxA s peers).rep :=
  (attemptStep_ok H (stepOK_any H f hpo content) maxA s peers (fun _ _ => trivial)
    ⟨hg, fun _ => trivial⟩).2 hrun hnp hc

/-- **C25_counters_status.** The two "the file is here" counters of the puller (`skipped_local`,
`pulled`) move — by exactly one — precisely in an attempt that ends skipped / pulled; "counted" in
the theorems below is literally these counters. -/
theorem C25_counters_status (f : Facts) (content : Bytes) (maxA : Nat) (s : PState)
    (peers : List Outcome) (hrun : s.st = .running) :
    (attemptStep H f content maxA s peers).cnt.skippedLocal =
      s.cnt.skippedLocal + (if (attemptStep H f content maxA s peers).st = .skipped then 1 else 0) ∧
    (attemptStep H f content maxA s peers).cnt.pulled =
      s.cnt.pulled + (if (attemptStep H f content maxA s peers).st = .pulled then 1 else 0) := by
  generalize hs' : attemptStep H f content maxA s peers = s'
  apply attemptStep_elim H hrun (h := hs')
  case skip => intro _; simp
  case noPeer => intro _ _ st h1 h2; simp [h1, h2]
  case loop =>
    intro _ l hl c a st hp hsk hst hns
    have hc := hl ▸ peersLoop_cnt H f content (decide (s.attempt > 1)) peers s.rep s.cnt
    simp [hp, hsk, hc.1, hc.2, hst, hns]

/-- **C25_counts.** If the source has a sound presence check (`presenceNeedsFinal`, or `StatFile`
without the `.part` fallback) or a `Delete` that removes `.part`, then after ANY fault history, any
`processEntry` call that ends counted (skipped-local / pulled) leaves the file complete at its
final path. -/
theorem C25_counts (f : Facts) (hpo : f.orderOK = true) (hrep : f.repaired = true) (content : Bytes) (maxA : Nat)
    (r0 : Rep) (c0 : Counters) (hist : List (List (List Outcome))) (script : List (List Outcome))
    (h0 : GoodFinal H content r0) (hs : StartOK f content r0) :
    let rc := runHist H f content maxA (r0, c0) hist
    let s := runProc H f content maxA (PState.start rc.1 rc.2) script
    (s.st = .skipped ∨ s.st = .pulled) → Complete H content s.rep := by
  obtain ⟨Q, hst, hi, hnp⟩ := stepOK_repaired H hpo hrep h0 hs
  exact (runProc_ok H hst maxA script _ scriptIn_true
    (runHist_inv H hst maxA hist (r0, c0) (fun _ _ => scriptIn_true) hi)).2 hnp rfl

/-- **C25_counts_partial.** What holds for EVERY combination of code facts (in particular the
round-1 source): provided no transfer in the history is corrupted (`histClean`/`scriptClean`), the
file is non-empty and a staging file present at the start is a proper prefix of the file, every
counted call leaves the file complete.
Full statement (= `C25_counts` without the side condition on `f`) is refuted by
`C25_counts_witness`. -/
theorem C25_counts_partial (f : Facts) (hpo : f.orderOK = true) (content : Bytes) (maxA : Nat)
    (r0 : Rep) (c0 : Counters) (hist : List (List (List Outcome))) (script : List (List Outcome))
    (h0 : GoodFinal H content r0) (hne : content ≠ []) (hq : r0.final = none → PartPrefix content r0)
    (hclean : histClean hist = true) (hclean' : scriptClean script = true) :
    let rc := runHist H f content maxA (r0, c0) hist
    let s := runProc H f content maxA (PState.start rc.1 rc.2) script
    (s.st = .skipped ∨ s.st = .pulled) → Complete H content s.rep :=
  have hst := stepOK_prefix H f hpo content hne
  (runProc_ok H hst maxA script _ (scriptClean_spec hclean')
    (runHist_inv H hst maxA hist (r0, c0) (histClean_spec hclean) ⟨h0, hq⟩)).2
    (fun _ hr => noPhantom_prefix hr.2) rfl

/-! ## (c) convergence once the faults stop -/

/-- **C25_converges.** With a repaired source: after ANY fault history, the next `processEntry`
call for the entry (FSM callback / catch-up re-enqueue) in which the first candidate peer is healthy
ends counted, with the file complete at its final path — and, for a collision-free digest, with
exactly the manifest file's bytes. -/
theorem C25_converges (f : Facts) (hpo : f.orderOK = true) (hrep : f.repaired = true) (content : Bytes) (maxA : Nat)
    (r0 : Rep) (c0 : Counters) (hist : List (List (List Outcome)))
    (rest : List Outcome) (more : List (List Outcome))
    (h0 : GoodFinal H content r0) (hs : StartOK f content r0) :
    let rc := runHist H f content maxA (r0, c0) hist
    let s := runProc H f content maxA (PState.start rc.1 rc.2) ((.ok :: rest) :: more)
    (s.st = .skipped ∨ s.st = .pulled) ∧ Complete H content s.rep ∧
    (CollisionFree H → s.rep.final = some content) := by
  obtain ⟨Q, hst, hi, hnp⟩ := stepOK_repaired H hpo hrep h0 hs
  have hi := runHist_inv H hst maxA hist (r0, c0) (fun _ _ => scriptIn_true) hi
  exact runProc_fresh_ok H hpo maxA _ _ rest more hi.1 (hnp _ hi)

/-- **C25_converges_partial.** Every combination of code facts, same carve-out as
`C25_counts_partial`.  Full statement refuted by `C25_converges_witness`. -/
theorem C25_converges_partial (f : Facts) (hpo : f.orderOK = true) (content : Bytes) (maxA : Nat)
    (r0 : Rep) (c0 : Counters) (hist : List (List (List Outcome)))
    (rest : List Outcome) (more : List (List Outcome))
    (h0 : GoodFinal H content r0) (hne : content ≠ []) (hq : r0.final = none → PartPrefix content r0)
    (hclean : histClean hist = true) :
    let rc := runHist H f content maxA (r0, c0) hist
    let s := runProc H f content maxA (PState.start rc.1 rc.2) ((.ok :: rest) :: more)
    (s.st = .skipped ∨ s.st = .pulled) ∧ Complete H content s.rep ∧
    (CollisionFree H → s.rep.final = some content) :=
  have hi := runHist_inv H (stepOK_prefix H f hpo content hne) maxA hist (r0, c0)
    (histClean_spec hclean) ⟨h0, hq⟩
  runProc_fresh_ok H hpo maxA _ _ rest more hi.1 (noPhantom_prefix hi.2)
end

/-! ## witnesses: the round-1 source violates (b) and (c)

The digest is instantiated with the identity — a collision-free hash — so the failure is not an
artefact of hashing.  File `0a 0b 0c`, empty replica, up to 3 attempts.
Attempt 1: a full-length transfer with byte 0 altered → checksum mismatch → `Delete` removes the
final path only, the 3-byte `.part` stays.  Attempt 2 (healthy peer): `StatFile` falls back to
`.part`, 3 = SizeBytes → "already present": counted, nothing at the final path. -/

def wContent : Bytes := [10, 11, 12]
def wId : Bytes → Bytes := fun b => b

theorem wId_collisionFree : CollisionFree wId := fun _ _ h => h

/-- **C25_counts_witness.** Two-step fault sequence after which the real procedure counts the file
as present (`skippedLocal = 1`, status skipped) while the final path is empty. -/
theorem C25_counts_witness :
    let s := runProc wId Facts.current wContent 3 (PState.start ⟨none, none⟩ {}) [[.corrupt 0], [.ok]]
    s.st = .skipped ∧ s.cnt.skippedLocal = 1 ∧ s.rep.final = none ∧ s.rep.part = some [11, 11, 12] := by
  decide +kernel

/-- **C25_converges_witness.** … and it never recovers: any number of further all-healthy calls
leave the final path empty (shown for the next two). -/
theorem C25_converges_witness :
    let rc := runHist wId Facts.current wContent 3 (⟨none, none⟩, {}) [[[.corrupt 0], [.ok]]]
    let s1 := runProc wId Facts.current wContent 3 (PState.start rc.1 rc.2) [[.ok], [.ok], [.ok]]
    let s2 := runProc wId Facts.current wContent 3 (PState.start s1.rep s1.cnt) [[.ok], [.ok], [.ok]]
    s1.st = .skipped ∧ s1.rep.final = none ∧ s2.st = .skipped ∧ s2.rep.final = none := by
  decide +kernel

/-- the witness history is exactly what the carve-out of the `_partial` theorems excludes -/
theorem C25_witness_outside_carveout : histClean [[[.corrupt 0], [.ok]]] = false := by decide +kernel

/-! ## the current source -/

/-- **C25_promote_after_verdict.** Obligation on the current source (regenerated fact, read off
`LocalBackend.WriteReader`: `io.Copy(stagingFile, reader)` on the caller's un-limited reader, error
return before the single rename): promotion to the final path happens only after the verified-EOF
signal.  Every theorem above takes this as hypothesis `hpo`. -/
theorem C25_promote_after_verdict : Arc.Generated.C25.facts.promoteAfterVerdict = true := by decide +kernel

/-- **C25_no_resume_from_full.** With the `>=` boundary in `tryResumeFromPartial`, a local file of
length ≥ the manifest size is never used as a resume point: the fetch restarts from offset 0 (and
`WriteReader` truncates the staging file). -/
theorem C25_no_resume_from_full (f : Facts) (hrb : f.resumeFullPart = false) (size : Nat) (r : Rep)
    (n : Nat) (hs : statFile f r = some n) (hn : size ≤ n) : resumePrefix f size r = [] := by
  unfold resumePrefix
  rw [hs]
  simp [hrb, hn]

/-- **C25_resume_boundary.** Obligation on the current source (regenerated fact, read off the guard
of `tryResumeFromPartial`): the boundary is `partial >= entry.SizeBytes`. -/
theorem C25_resume_boundary : Arc.Generated.C25.facts.resumeFullPart = false := by decide +kernel

/-- **C25_order_ok.** Both step-order obligations (`hpo` of every theorem above) hold for the
current source. -/
theorem C25_order_ok : Arc.Generated.C25.facts.orderOK = true := by decide +kernel

/-- **C25_resume_boundary_witness.** Why the boundary matters (presence check repaired, `Delete`
leaves `.part`): after one full-length corrupted transfer the 3-byte `.part` is reused as resume
point, the peer rejects offset 3 = size with bad_offset, the bad-offset cleanup removes only the
final path — both fault-free retries are burnt and the call gives up.  With `>=` the same history
ends pulled. -/
theorem C25_resume_boundary_witness :
    let hist : List (List Outcome) := [[.corrupt 0], [.ok], [.ok]]
    let bad := runProc wId ⟨true, false, true, true, true⟩ wContent 3 (PState.start ⟨none, none⟩ {}) hist
    let good := runProc wId ⟨true, false, true, true, false⟩ wContent 3 (PState.start ⟨none, none⟩ {}) hist
    bad.st = .failed ∧ bad.rep = ⟨none, some [11, 11, 12]⟩ ∧ bad.cnt.badOffset = 2 ∧
    good.st = .pulled ∧ good.rep = ⟨some wContent, none⟩ := by
  decide +kernel

/-- **C25_early_promote_witness.** Why the obligation matters: with a `WriteReader` that stops
copying at the declared size, a full-length transfer with byte 0 altered is renamed onto the final
path before the checksum verdict (visible at `mid`), and only then removed by the cleanup. -/
theorem C25_early_promote_witness :
    let f : Facts := ⟨true, false, true, false, false⟩
    let po := pullOnce wId f wContent false ⟨none, none⟩ (.corrupt 0)
    po.mid.final = some [11, 11, 12] ∧ po.err = .checksum ∧ po.rep = ⟨none, none⟩ := by
  decide +kernel

/-- **C25_generated.** `Arc.Generated.C25.facts` is read off `LocalBackend.StatFile`,
`LocalBackend.Delete`, `LocalBackend.WriteReader` and `Puller.processEntry` on every run.  Either
the presence check / cleanup is repaired — then `C25_counts`/`C25_converges` apply — or it is
exactly the round-1 combination, for which the witnesses above are violations. -/
theorem C25_generated :
    Arc.Generated.C25.facts.repaired = true ∨
    (Arc.Generated.C25.facts.statPartFallback = true ∧ Arc.Generated.C25.facts.deleteRemovesPart = false ∧
      Arc.Generated.C25.facts.presenceNeedsFinal = false) := by
  decide +kernel

theorem C25_repaired_or_current (f : Facts) :
    f.repaired = true ∨
    (f.statPartFallback = true ∧ f.deleteRemovesPart = false ∧ f.presenceNeedsFinal = false) := by
  obtain ⟨a, b, c, d, e⟩ := f
  cases a <;> cases b <;> cases c <;> simp [Facts.repaired, Facts.presenceSound]

/-! ## non-vacuity -/

/-- hypotheses of `C25_counts`/`C25_converges` are satisfiable by a non-trivial state and history
(repaired facts, a stale 2-byte staging file, a truncation then a corruption then recovery) -/
example :
    let f : Facts := ⟨true, true, false, true, false⟩
    let r0 : Rep := ⟨none, some [10, 11]⟩
    f.repaired = true ∧ GoodFinal wId wContent r0 ∧ StartOK f wContent r0 ∧
    (runProc wId f wContent 3 (PState.start r0 {}) [[.trunc 1], [.corrupt 2], [.ok]]).st = .pulled ∧
    (runProc wId f wContent 3 (PState.start r0 {}) [[.trunc 1], [.corrupt 2], [.ok]]).rep.final = some wContent := by
  refine ⟨by decide +kernel, ?_, ?_, by decide +kernel, by decide +kernel⟩
  · intro b hb; cases hb
  · right; refine ⟨by decide +kernel, fun _ p hp => ?_⟩
    cases hp; decide

/-- hypotheses of the `_partial` theorems are satisfiable under the round-1 facts with a
non-trivial clean history (truncation, resume, wrong hash in the ack, success) -/
example :
    let r0 : Rep := ⟨none, some [10]⟩
    GoodFinal wId wContent r0 ∧ PartPrefix wContent r0 ∧
    histClean [[[.trunc 2], [.ackWrongHash, .trunc 1], [.dialFail]]] = true ∧
    (runProc wId Facts.current wContent 3 (PState.start r0 {}) [[.trunc 2], [.ackWrongHash], [.ok]]).st = .pulled := by
  refine ⟨?_, ?_, by decide +kernel, by decide +kernel⟩
  · intro b hb; cases hb
  · intro p hp; cases hp; decide

end Arc.C25
