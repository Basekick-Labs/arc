import Arc.Model.C23
import Arc.Proofs.C22.SMapLemmas
import Arc.Generated.C23
import Arc.Proofs.C22.RestoreParents
import Arc.Model.C22.PreFix
import Arc.Proofs.C22.Members
/-!
# C23 — cluster role assignments stay consistent

Property: in every state reachable through cluster commands,
  (1) at most one node is marked primary writer                          — `C23_one_primary`
  (2) a node named as the primary writer exists and is marked primary    — `C23_primary_exists`
  (3) re-registering an existing node does not silently change the role assignment recorded for it
                                                                         — `C23_reregister`
  (4) every team, role, measurement permission and membership refers to parents that exist
                                                                         — `C23_rbac_parents`
All four hold at full strength for the CURRENT FSM (`internal/cluster/raft/fsm.go` after the fixes
93fb282, 4708dee, 466f761), for every history: any commands (valid, invalid, duplicate, out of order)
at any log indexes, with snapshot+restore steps anywhere.

Clauses (1)–(3) were false before those fixes; the `C23_prefix_*_witness` theorems keep the
counterexamples as statements about the explicitly named pre-fix functions (`Arc.C22.PreFix`).
-/
namespace Arc.C23
open Arc.C22 Arc.C22.SMap

theorem get?_setWState (nodes : SMap String NodeInfo) (id ws k : String) :
    (setWState nodes id ws).get? k =
      if k = id then (nodes.get? id).map (fun n => { n with wstate := ws }) else nodes.get? k := by
  unfold setWState
  cases h : nodes.get? id with
  | none =>
    by_cases hk : k = id
    · subst hk; simp [h]
    · simp [hk]
  | some n =>
    simp only [get?_ins]
    by_cases hk : k = id <;> simp [hk]

/-- a property of all node records survives `setWState` when the re-marked record has it -/
theorem forall_get?_setWState {Q : String → NodeInfo → Prop} {nodes : SMap String NodeInfo} {id ws : String}
    (hnew : ∀ n, nodes.get? id = some n → Q id { n with wstate := ws })
    (hold : ∀ k x, nodes.get? k = some x → k ≠ id → Q k x) :
    ∀ k x, (setWState nodes id ws).get? k = some x → Q k x := by
  unfold setWState
  cases hg : nodes.get? id with
  | none => exact fun k x hx => hold k x hx fun e => nomatch (e ▸ hx).symm.trans hg
  | some n => exact forall_get?_ins (hnew n hg) hold

/-- the invariant behind clauses (1) and (2): a node is marked primary only if it is the recorded
primary writer, and the recorded primary writer (if any) exists and is marked. -/
def RoleInv (s : NodeSt) : Prop :=
  (∀ k n, s.nodes.get? k = some n → n.wstate = "primary" → k = s.pw ∧ s.pw ≠ "") ∧ PrimaryExists s

theorem roleInv_empty : RoleInv ({} : NodeSt) := by
  refine ⟨?_, ?_⟩
  · intro k n h; simp at h
  · intro h; exact absurd rfl h

theorem onePrimary_of_inv {s : NodeSt} (h : RoleInv s) : OnePrimary s := by
  intro k1 k2 n1 n2 h1 h2 m1 m2
  rw [(h.1 k1 n1 h1 m1).1, (h.1 k2 n2 h2 m2).1]

theorem roleInv_addNode {s : NodeSt} (h : RoleInv s) (n : NodeInfo) : RoleInv (applyAddNode s n).1 := by
  unfold applyAddNode
  cases hg : s.nodes.get? n.id with
  | some old =>
    -- the stored record keeps the recorded writer state
    exact ⟨forall_get?_ins (h.1 n.id old hg) fun k m hk _ => h.1 k m hk, fun hpw =>
      (exists_get?_ins_congr (f := (·.wstate)) (v' := { n with wstate := old.wstate }) hg rfl _ _).mpr (h.2 hpw)⟩
  | none =>
    refine ⟨forall_get?_ins (fun hm => ?_) fun k m hk _ => h.1 k m hk, fun hpw => ?_⟩
    · -- a new id never comes in marked
      by_cases hp : n.wstate = "primary" <;> simp [hp] at hm
    · obtain ⟨q, hq, hm⟩ := h.2 hpw
      exact ⟨q, (get?_ins_ne fun e => by rw [e, hg] at hq; cases hq).trans hq, hm⟩

theorem roleInv_removeNode {s : NodeSt} (h : RoleInv s) (id : String) : RoleInv (applyRemoveNode s id).1 := by
  unfold applyRemoveNode
  refine ⟨forall_get?_del fun k m hk hkn hm => ?_, fun hpw => ?_⟩
  · have := h.1 k m hk hm
    rw [if_neg fun e => hkn (this.1.trans e)]; exact this
  · by_cases hpi : s.pw = id
    · exact absurd (if_pos hpi) hpw
    · simp only [if_neg hpi] at hpw ⊢
      obtain ⟨q, hq, hm⟩ := h.2 hpw
      exact ⟨q, (get?_del_ne hpi).trans hq, hm⟩

theorem roleInv_updateNodeState {s : NodeSt} (h : RoleInv s) (id st : String) :
    RoleInv (applyUpdateNodeState s id st).1 := by
  unfold applyUpdateNodeState
  cases hg : s.nodes.get? id with
  | none => exact h
  | some n =>
    exact ⟨forall_get?_ins (h.1 id n hg) fun k m hk _ => h.1 k m hk, fun hpw =>
      (exists_get?_ins_congr (f := (·.wstate)) (v' := { n with state := st }) hg rfl _ _).mpr (h.2 hpw)⟩

theorem get?_demoteOld (nodes : SMap String NodeInfo) (pw id k : String) :
    (demoteOld nodes pw id).get? k =
      if pw ≠ "" ∧ pw ≠ id ∧ k = pw then (nodes.get? pw).map (fun n => { n with wstate := "standby" })
      else nodes.get? k := by
  unfold demoteOld
  by_cases h : pw ≠ "" ∧ pw ≠ id
  · rw [if_pos h, get?_setWState]
    by_cases hk : k = pw
    · rw [if_pos hk, if_pos ⟨h.1, h.2, hk⟩]
    · rw [if_neg hk, if_neg (fun hh => hk hh.2.2)]
  · rw [if_neg h, if_neg (fun hh => h ⟨hh.1, hh.2.1⟩)]

theorem roleInv_promote {s : NodeSt} (h : RoleInv s) (id : String) : RoleInv (applyPromote s id).1 := by
  unfold applyPromote
  by_cases hid : id = ""
  · rw [if_pos hid]; exact h
  · rw [if_neg hid]
    cases hg : s.nodes.get? id with
    | none => exact h
    | some n =>
      by_cases hr : n.role ≠ "writer"
      · simp only [if_pos hr]; exact h
      · simp only [if_neg hr]
        refine ⟨forall_get?_setWState (fun _ _ _ => ⟨rfl, hid⟩) fun k m hk hki hm => ?_, fun _ => ?_⟩
        · -- no other node stays marked: the recorded primary, the only one that was, has been demoted
          exfalso
          unfold demoteOld at hk
          by_cases hc : s.pw ≠ "" ∧ s.pw ≠ id
          · rw [if_pos hc] at hk
            exact forall_get?_setWState (Q := fun _ m => m.wstate ≠ "primary") (fun _ _ => (by decide : "standby" ≠ "primary"))
              (fun k m hk hkp hm => hkp (h.1 k m hk hm).1) k m hk hm
          · rw [if_neg hc] at hk
            have := h.1 k m hk hm
            exact hc ⟨this.2, fun e => hki (this.1.trans e)⟩
        · rw [get?_setWState, if_pos rfl, get?_demoteOld, if_neg fun hh => hh.2.1 hh.2.2.symm, hg]
          exact ⟨_, rfl, rfl⟩

theorem roleInv_demote {s : NodeSt} (h : RoleInv s) (id : String) : RoleInv (applyDemote s id).1 := by
  unfold applyDemote
  by_cases hid : id = ""
  · rw [if_pos hid]; exact h
  · rw [if_neg hid]
    refine ⟨forall_get?_setWState (fun _ _ hm => absurd hm (by decide : "standby" ≠ "primary")) fun k m hk hki hm => ?_, fun hpw => ?_⟩
    · have := h.1 k m hk hm
      rw [if_neg fun e => hki (this.1.trans e)]; exact this
    · by_cases hpi : s.pw = id
      · exact absurd (if_pos hpi) hpw
      · simp only [if_neg hpi] at hpw ⊢
        rw [get?_setWState, if_neg hpi]; exact h.2 hpw

theorem roleInv_compactor {s : NodeSt} (h : RoleInv s) (id : String) :
    RoleInv (applyAssignCompactor s id).1 := by
  unfold applyAssignCompactor
  by_cases hid : id = "" <;> simp [hid] <;> exact h

theorem roleInv_clStep {s : NodeSt} (h : RoleInv s) (c : Cmd) : RoleInv (clStep s c) := by
  cases c with
  | addNode n | updateNode n => exact roleInv_addNode h n
  | removeNode id => exact roleInv_removeNode h id
  | updateNodeState id st => exact roleInv_updateNodeState h id st
  | promote id _ => exact roleInv_promote h id
  | demote id => exact roleInv_demote h id
  | assignCompactor id => exact roleInv_compactor h id
  | _ => exact h

theorem roleInv_run (s : State) (evs : List Ev) (h : RoleInv s.cl) : RoleInv (runEv s evs).cl :=
  runEv_inv (P := fun s => RoleInv s.cl) (fun s i c h => apply_cl s i c ▸ roleInv_clStep h c)
    (fun _ h => h) s evs h

def nodeW (id ws : String) : NodeInfo :=
  { id := id, name := id, role := "writer", cluster := "c", address := "a", api := "b",
    state := "healthy", version := "v", wstate := ws, cores := 4 }

/-! ## clause (1): at most one node is marked primary -/

/-- **C23_one_primary.** In every reachable state at most one node is marked primary. -/
theorem C23_one_primary (evs : List Ev) : OnePrimary (runEv State.empty evs).cl :=
  onePrimary_of_inv (roleInv_run State.empty evs roleInv_empty)

/-! ## clause (2): the primary writer id names an existing node that is marked primary -/

/-- **C23_primary_exists.** In every reachable state a non-empty `primaryWriterID` names a node
that exists and is marked primary. -/
theorem C23_primary_exists (evs : List Ev) : PrimaryExists (runEv State.empty evs).cl :=
  (roleInv_run State.empty evs roleInv_empty).2

/-- … and a node is marked primary only if it is the recorded primary writer. -/
theorem C23_marked_is_recorded (evs : List Ev) (k : String) (n : NodeInfo)
    (h : (runEv State.empty evs).cl.nodes.get? k = some n) (hm : n.wstate = "primary") :
    k = (runEv State.empty evs).cl.pw :=
  ((roleInv_run State.empty evs roleInv_empty).1 k n h hm).1

/-- non-vacuity: promotion, failover, the primary rejoins (join proposes writer_state ""), a leave of
the primary, payloads that claim "primary", a promotion of an unknown id — the state stays sane -/
example :
    let s := runEv State.empty
      [.cmd 1 (.addNode (nodeW "n1" "primary")), .cmd 2 (.addNode (nodeW "n2" "primary")), .cmd 3 (.promote "n1" ""),
       .restore, .cmd 5 (.addNode (nodeW "n1" "")), .cmd 6 (.promote "n4" "n1"), .cmd 7 (.updateNode (nodeW "n2" "primary"))]
    s.cl.pw = "n1" ∧ (s.cl.nodes.get? "n1").map (·.wstate) = some "primary" ∧
    (s.cl.nodes.get? "n2").map (·.wstate) = some "" ∧
    (runEv s [.cmd 8 (.removeNode "n1")]).cl.pw = "" := by decide +kernel

/-! ## clause (3): re-registering a node -/

/-- **C23_reregister.** AddNode (and UpdateNode) of an existing id keeps the recorded
`writer_state`, whatever the payload says, and leaves `primaryWriterID`, the compactor lease and
every other node's record untouched — for every state. -/
theorem C23_reregister (s : State) (i : Nat) (n old : NodeInfo) (hold : s.cl.nodes.get? n.id = some old) :
    (∃ n', (apply s i (.addNode n)).1.cl.nodes.get? n.id = some n' ∧ n'.wstate = old.wstate) ∧
    (∃ n', (apply s i (.updateNode n)).1.cl.nodes.get? n.id = some n' ∧ n'.wstate = old.wstate) ∧
    (apply s i (.addNode n)).1.cl.pw = s.cl.pw ∧
    (apply s i (.addNode n)).1.cl.compactor = s.cl.compactor ∧
    (∀ k, k ≠ n.id → (apply s i (.addNode n)).1.cl.nodes.get? k = s.cl.nodes.get? k) := by
  have e : (apply s i (.addNode n)).1.cl = (applyAddNode s.cl n).1 := rfl
  have e2 : (apply s i (.updateNode n)).1.cl = (applyAddNode s.cl n).1 := rfl
  have hA : (applyAddNode s.cl n).1 = { s.cl with nodes := s.cl.nodes.ins n.id { n with wstate := old.wstate } } := by
    unfold applyAddNode; rw [hold]
  rw [e, e2, hA]
  refine ⟨⟨_, get?_ins_self _ _ _, rfl⟩, ⟨_, get?_ins_self _ _ _, rfl⟩, rfl, rfl, ?_⟩
  intro k hk
  exact get?_ins_ne hk

example : ∃ (s : State) (n old : NodeInfo), s.cl.nodes.get? n.id = some old ∧ old.wstate = "primary" ∧ n.wstate = "" :=
  ⟨runEv State.empty [.cmd 1 (.addNode (nodeW "n1" "")), .cmd 2 (.promote "n1" "")],
   nodeW "n1" "", nodeW "n1" "primary", by decide +kernel, rfl, rfl⟩

/-! ## the pre-fix counterexamples (statements about `Arc.C22.PreFix`, not about the current code) -/

/-- pre-466f761: two AddNode payloads carrying `writer_state = "primary"` left two nodes marked -/
theorem C23_prefix_one_primary_witness :
    ¬ OnePrimary (PreFix.runEv State.empty
        [.cmd 1 (.addNode (nodeW "n1" "primary")), .cmd 2 (.addNode (nodeW "n2" "primary"))]).cl := by
  intro h
  have := h "n1" "n2" (nodeW "n1" "primary") (nodeW "n2" "primary") (by decide +kernel) (by decide +kernel) rfl rfl
  exact absurd this (by decide +kernel)

/-- pre-93fb282 / pre-4708dee / pre-466f761: promote of an unknown id, leave of the primary and
rejoin of the primary each left `primaryWriterID` naming a missing or unmarked node -/
theorem C23_prefix_primary_exists_witness :
    (PreFix.runEv State.empty [.cmd 1 (.addNode (nodeW "n1" "")), .cmd 2 (.promote "n1" ""),
        .cmd 3 (.promote "n4" "n1")]).cl.pw = "n4" ∧
    (PreFix.runEv State.empty [.cmd 1 (.addNode (nodeW "n1" "")), .cmd 2 (.promote "n1" ""),
        .cmd 3 (.promote "n4" "n1")]).cl.nodes.get? "n4" = none ∧
    (PreFix.runEv State.empty [.cmd 1 (.addNode (nodeW "n1" "")), .cmd 2 (.promote "n1" ""),
        .cmd 3 (.removeNode "n1")]).cl.pw = "n1" ∧
    (PreFix.runEv State.empty [.cmd 1 (.addNode (nodeW "n1" "")), .cmd 2 (.promote "n1" ""),
        .cmd 3 (.removeNode "n1")]).cl.nodes.get? "n1" = none ∧
    (PreFix.runEv State.empty [.cmd 1 (.addNode (nodeW "n1" "")), .cmd 2 (.promote "n1" ""),
        .cmd 3 (.addNode (nodeW "n1" ""))]).cl.pw = "n1" ∧
    ((PreFix.runEv State.empty [.cmd 1 (.addNode (nodeW "n1" "")), .cmd 2 (.promote "n1" ""),
        .cmd 3 (.addNode (nodeW "n1" ""))]).cl.nodes.get? "n1").map (·.wstate) = some "" := by decide +kernel

/-- the same three histories on the CURRENT functions end in a consistent state -/
theorem C23_prefix_histories_now_fine :
    (runEv State.empty [.cmd 1 (.addNode (nodeW "n1" "")), .cmd 2 (.promote "n1" ""),
        .cmd 3 (.promote "n4" "n1")]).cl.pw = "n1" ∧
    (runEv State.empty [.cmd 1 (.addNode (nodeW "n1" "")), .cmd 2 (.promote "n1" ""),
        .cmd 3 (.removeNode "n1")]).cl.pw = "" ∧
    ((runEv State.empty [.cmd 1 (.addNode (nodeW "n1" "")), .cmd 2 (.promote "n1" ""),
        .cmd 3 (.addNode (nodeW "n1" ""))]).cl.nodes.get? "n1").map (·.wstate) = some "primary" := by decide +kernel

/-! ## clause (4): RBAC children always have existing parents (full strength) -/

/-- **C23_rbac_parents.** In EVERY state reachable from the empty FSM — any commands (valid,
invalid, duplicate, out of order) at any log indexes, snapshot+restore steps anywhere — every team
refers to an existing organization, every role to an existing team, every measurement permission to
an existing role and every membership to an existing token and an existing team. (Invariant `PInv`:
parents exist and every child is listed in the traversal index that its parent's cascade walks;
preserved by the three nested cascades, re-established by `Restore` for any snapshot.) -/
theorem C23_rbac_parents (evs : List Ev) : ParentsExist (runEv State.empty evs).au :=
  (pinv_runEv State.empty evs pinv_empty).parents

/-- **C23_rbac_cascade_index_complete.** … and every team / role / measurement permission /
membership is listed in the index a cascading delete of its parent iterates, so no cascade can miss
a child. -/
theorem C23_rbac_cascade_index_complete (evs : List Ev) :
    let a := (runEv State.empty evs).au
    (∀ k e, a.teams.get? k = some e → get2? a.teamsByOrg e.org e.name = some k) ∧
    (∀ k e, a.roles.get? k = some e → get2? a.rolesByTeam e.team k = some ()) ∧
    (∀ k e, a.mperms.get? k = some e → get2? a.mpermsByRole e.role k = some ()) ∧
    (∀ k e, a.members.get? k = some e →
      get2? a.memByToken e.token k = some () ∧ get2? a.memByTeam e.team k = some ()) :=
  let h := pinv_runEv State.empty evs pinv_empty
  ⟨h.c1, h.c2, h.c3, h.c4⟩

/-- **C23_membership_indexes_sound.** For histories with strictly increasing log indexes: every
entry of `tokenMembershipsByTeam` / `…ByToken` / `…ByPair` points at a membership record that exists
and carries that team / token — together with `C23_rbac_cascade_index_complete` the cascades walk
exactly the memberships of the team (token) being deleted, no more and no fewer. -/
theorem C23_membership_indexes_sound (evs : List Ev) (hinc : idxIncreasing 1 evs = true) :
    let a := (runEv State.empty evs).au
    (∀ tm id, get2? a.memByTeam tm id = some () → ∃ e, a.members.get? id = some e ∧ e.team = tm) ∧
    (∀ tok id, get2? a.memByToken tok id = some () → ∃ e, a.members.get? id = some e ∧ e.token = tok) ∧
    (∀ tok tm id, get2? a.memByPair tok tm = some id →
        ∃ e, a.members.get? id = some e ∧ e.token = tok ∧ e.team = tm) :=
  let h := memInv_runEv State.empty 1 evs (memInv_empty _) hinc
  ⟨h.s3, h.s2, h.s1⟩

/-- non-vacuity: a history that builds the whole hierarchy, restores, and cascades a delete -/
example :
    let evs : List Ev :=
      [.cmd 1 (.createOrg { id := 0, name := "acme", desc := "", created := 5, updated := 0, enabled := false, lsn := 0 }),
       .cmd 2 (.createTeam { id := 0, org := 1, name := "core", desc := "", created := 5, updated := 0, enabled := false, lsn := 0 }),
       .cmd 3 (.createToken { id := 0, name := "t", desc := "", perms := "read", hash := "h", pfx := "p", created := 5, expires := 0, enabled := true, lsn := 0 }),
       .cmd 4 (.createRole { id := 0, team := 2, pattern := "*", perms := "read", created := 5, lsn := 0 }),
       .restore,
       .cmd 5 (.addMember { id := 0, token := 3, team := 2, created := 5, lsn := 0 })]
    (runEv State.empty evs).au.members.length = 1 ∧ (runEv State.empty evs).au.roles.length = 1 ∧
    (runEv State.empty (evs ++ [.cmd 6 (.deleteOrg 1)])).au.members = [] ∧
    (runEv State.empty (evs ++ [.cmd 6 (.deleteOrg 1)])).au.roles = [] := by decide +kernel

/-! ## tie to the source -/

/-- **C23_model_quirks_tied.** The source shapes the role theorems rest on are what the model
encodes (regenerated from `/repo` on every run): AddNode/UpdateNode overwrite the payload's
writer_state with the recorded one (or clear a "primary" claim of a new id) BEFORE storing the record;
`applyPromoteWriter`'s not-found guard precedes every mutation; `applyRemoveNode` clears
`primaryWriterID` when it removes that node. Reverting any of the three fixes flips a fact. -/
theorem C23_model_quirks_tied :
    Arc.Generated.C23.addNodeKeepsWriterState = true ∧ Arc.Generated.C23.updateNodeKeepsWriterState = true ∧
    Arc.Generated.C23.promoteValidatesBeforeMutating = true ∧
    Arc.Generated.C23.removeNodeClearsPrimary = true := by decide +kernel

end Arc.C23
