import Arc.Model.C09
import Arc.Generated.C09
import Arc.Proofs.C09.Cycle
/-!
# C09 — compaction never loses or duplicates rows, even across crashes

What the theorems are about: the executable model `Arc.C09` (the same functions the driver runs
against the real Manager/Job), instantiated with the facts regenerated from the source
(`Arc.Generated.C09`: order of the storage mutations of `Job.Run`, branches of `recoverManifest`,
recovery-before-candidates, retry-consults-manifests, batch constants).

DuckDB is a hypothesis, never an axiom: `DedupSpec d` says the dedup query at level `L` returns a
sub-multiset of its input containing exactly one row of every (tags,time) key.

Status. The retry path was repaired in /repo (a5dca86: `CompactPartition` settles a failed job's
manifest before the batch is retried); the regenerated fact `retryConsultsManifests` is now `true`
and `C09_full` — the statement for ALL kill/crash/torn-upload positions — is the theorem in force
for the current source (a regression flips the fact and breaks `C09_full`). `C09_full_witness`
shows that the fact is necessary (the same configuration without it duplicates rows).
One clause is still FALSE of the current tree (known finding, reproduced on the real code by the
harness): partitions whose files declare DIFFERENT tag sets (or none) lose rows that differ only in
an undeclared tag — `C09_level_witness`; `FullStatement` therefore carries the explicit carve-out
`UniformLevel`.
-/
namespace Arc.C09
open Arc.Generated.C09

/-- `QUALIFY ROW_NUMBER() OVER (PARTITION BY key ORDER BY time DESC) = 1` -/
def DedupSpec (d : Nat → List Row → List Row) : Prop :=
  ∀ L rows, MLe (d L rows) rows ∧ Covers L (d L rows) rows ∧ ((d L rows).map (keyAt L)).Nodup

theorem joinLevel_zero_right (a : Nat) : joinLevel a 0 = a := by
  unfold joinLevel
  by_cases h : (a == 0) = true
  · rw [if_pos h]; exact (beq_iff_eq.mp h).symm
  · rw [if_neg h]; rfl

theorem joinLevel_self (a : Nat) : joinLevel a a = a := by
  unfold joinLevel
  by_cases h : (a == 0) = true
  · rw [if_pos h]
  · rw [if_neg h, if_neg h, if_pos BEq.rfl]

theorem joinLevel_uniform {L a b : Nat} (ha : a = 0 ∨ a = L) (hb : b = 0 ∨ b = L) :
    joinLevel a b = 0 ∨ joinLevel a b = L := by
  rcases ha with rfl | rfl
  · exact hb
  · rcases hb with rfl | rfl
    · exact .inr (joinLevel_zero_right _)
    · exact .inr (joinLevel_self _)

theorem jobLevel_cases (cfg : Cfg) (L : Nat) (fs : List File) (h : ∀ f ∈ fs, f.level = 0 ∨ f.level = L) :
    jobLevel cfg fs = 0 ∨ jobLevel cfg fs = L := by
  unfold jobLevel
  split
  · exact List.foldlRecOn (motive := fun l => l = 0 ∨ l = L) fs _ (Or.inl rfl)
      (fun _ ha f hf => joinLevel_uniform ha (h f hf))
  · split
    · exact h _ (List.mem_of_find?_eq_some ‹_›)
    · split
      · -- some file declares level 1, so `L = 1`
        rename_i hany
        obtain ⟨f, hf, h1⟩ := List.any_eq_true.mp hany
        exact (h f hf).elim (fun h0 => absurd (h0 ▸ beq_iff_eq.mp h1) (by decide))
          (fun hL => .inr ((beq_iff_eq.mp h1).symm.trans hL))
      · exact .inl rfl

theorem compactOk_coll (L : Nat) (cfg : Cfg) (hd : DedupSpec cfg.dedupFn) : CompactOk (collRel L) cfg := by
  intro fs hok
  simp only [compactRows]
  by_cases hz : (jobLevel cfg fs == 0) = true
  · simp only [hz, if_true]; exact Coll.of_meq (MEq.refl _)
  · simp only [hz, Bool.false_eq_true, if_false]
    rcases jobLevel_cases cfg L fs hok with h | h
    · simp [h] at hz
    · rw [h]; exact ⟨(hd L _).1, (hd L _).2.1⟩

theorem compactOk_meq (cfg : Cfg) : CompactOk meqRel cfg := by
  intro fs hok
  have : jobLevel cfg fs = 0 := (jobLevel_cases cfg 0 fs fun f hf => Or.inl (hok f hf)).elim id id
  simp [compactRows, this]; exact MEq.refl _

/-! ## regenerated facts the proofs consume (a source edit re-checks them) -/

/-- `Job.Run`: manifest written before the upload, inputs deleted after it, manifest deleted last. -/
theorem C09_job_order : jobSteps = canonSteps := rfl

/-- `recoverManifest`: output missing ⇒ only the manifest goes; size mismatch ⇒ output then
manifest; output valid ⇒ inputs then manifest. -/
theorem C09_recovery_branches (a b : Nat) (d : Nat → List Row → List Row) : RecCanon (genCfg a b d) :=
  ⟨rfl, rfl, rfl⟩

/-- `runCycleInternal` recovers orphaned manifests before it looks for candidates, and
`GetFilesInManifests` tracks inputs AND outputs. -/
theorem C09_cycle_facts : cycleRecoversBeforeCandidates = true ∧ filterExcludesManifestInputs = true ∧
    filterExcludesManifestOutputs = true := ⟨rfl, rfl, rfl⟩

/-- behaviours the model hard-codes rather than interprets; if one flips in the source, this
obligation fails and the model has to be revisited: compaction outputs carry no `arc:tags` /
`arc:dedup_time` (no `KV_METADATA` in the COPY), dedup is switched on when ANY input is tagged,
the download phase skips inputs that no longer exist, recovery keeps the manifest when an input
delete fails. -/
theorem C09_model_assumptions : outputKeepsDedupMetadata = false ∧ dedupWhenAnyInputTagged = true ∧
    downloadSkipsMissing = true ∧ recKeepsManifestOnDeleteError = true ∧
    minFilesPerBatch = adaptiveMinBatch := ⟨rfl, rfl, rfl, rfl, rfl⟩

/-- No input is removed by a job before its rows are in a complete output: whenever the k-th
storage mutation of a job (started with no manifest pending) deletes input `p`, the state it is
applied to holds the job's manifest listing `p` and the complete output, and that output contains a
row with the (tags,time) of every row of `p`. For ALL states, input lists, k. -/
theorem C09_no_early_delete (rel : RowRel) (R0 : List Row) (a b : Nat) (d : Nat → List Row → List Row)
    (hC : CompactOk rel (genCfg a b d)) (s : St) (hs : Inv rel R0 s) (h0 : s.mans = []) (ins : List Path)
    (k : Nat) (p : Path) (hk : (jobProgram (genCfg a b d) s ins)[k]? = some (.delInput p)) :
    let t := applyMuts (bump s) ((jobProgram (genCfg a b d) s ins).take k)
    t.mans = [jobManifest s ins] ∧ p ∈ (jobManifest s ins).inputs ∧
    ∃ f, t.get (jobManifest s ins).out = some f ∧ f.complete = true ∧
      ∀ g, t.get p = some g → Covers rel.lvl f.rows g.rows := by
  have hsteps : (genCfg a b d).steps = canonSteps := C09_job_order
  obtain ⟨he, ⟨_, h⟩ | ⟨_, h⟩ | ⟨j, rfl, ⟨hj, q, hp, hq⟩ | ⟨_, h⟩⟩⟩ := jobProgram_getElem? hsteps hk
  · cases h
  · cases h
  · cases hq
    rw [job_take_dels hsteps hs h0 ins he j (Nat.le_of_lt hj)]
    exact ⟨rfl, hp, ((js_deleted hs h0 ins hC _ (fun _ hq => List.mem_of_mem_take hq)).2).covers hp⟩
  · cases h

/-- Manifest recovery removes an input only while the manifest's output is complete on storage
and contains its rows (invariant states with the manifest pending; deletes succeed). -/
theorem C09_no_early_delete_recovery (rel : RowRel) (R0 : List Row) (a b : Nat) (d : Nat → List Row → List Row)
    (s : St) (m : Manifest) (hs : Inv rel R0 s) (hm : s.mans = [m])
    (k : Nat) (p : Path) (hk : (recMuts (genCfg a b d) s m [])[k]? = some (.delInput p)) :
    let t := applyMuts s ((recMuts (genCfg a b d) s m []).take k)
    p ∈ m.inputs ∧ ∃ f, t.get m.out = some f ∧ f.complete = true ∧
      ∀ g, t.get p = some g → Covers rel.lvl f.rows g.rows := by
  have hM := invM_of_mans hs hm
  have hrec := C09_recovery_branches a b d
  -- only the branch for a complete output deletes inputs
  cases hg : s.get m.out with
  | none => rw [recMuts_missing hrec hg] at hk; cases List.mem_singleton.mp (List.mem_of_getElem? hk)
  | some f =>
    by_cases hc : f.complete = true
    · rw [recMuts_valid hrec hg hc] at hk ⊢
      rcases getElem?_dels hk with ⟨hj, q, hq, hqe⟩ | ⟨_, h⟩
      · cases hqe
        rw [List.take_append_of_le_length (by simpa using Nat.le_of_lt hj), ← List.map_take, applyMuts_delInputs]
        exact ⟨hq, (caseB_delKeys hM.1 (fun _ hq => List.mem_of_mem_take hq)
          (caseB_of_complete hM hg hc)).covers hq⟩
      · cases h
    · rw [recMuts_mismatch hrec hg (eq_false_of_ne_true hc)] at hk
      rcases List.mem_cons.mp (List.mem_of_getElem? hk) with h | h
      · cases h
      · cases List.mem_singleton.mp h

/-- Where manifests may be dropped (regenerated facts): `Job.Run`'s upload-failure branch deletes the
manifest, so `uploadFile` must fail ONLY with the error of the storage write itself (never after a
write that succeeded, e.g. a late `ctx.Err()`); and the stale-age check of `recoverManifest` only
warns — recovery does not depend on the manifest's age. -/
theorem C09_manifest_drop_sites : uploadErrorOnlyFromStorageWrite = true ∧ staleManifestWarnOnly = true :=
  ⟨rfl, rfl⟩

/-- A job deletes its manifest only in a state where the complete output is on storage and every
input the manifest lists is gone (all k, all states with no manifest pending). -/
theorem C09_manifest_deleted_last (rel : RowRel) (R0 : List Row) (a b : Nat) (d : Nat → List Row → List Row)
    (hC : CompactOk rel (genCfg a b d)) (s : St) (hs : Inv rel R0 s) (h0 : s.mans = []) (ins : List Path)
    (k mid : Nat) (hk : (jobProgram (genCfg a b d) s ins)[k]? = some (.delManifest mid)) :
    let t := applyMuts (bump s) ((jobProgram (genCfg a b d) s ins).take k)
    (∃ f, t.get (jobManifest s ins).out = some f ∧ f.complete = true) ∧
      ∀ p ∈ (jobManifest s ins).inputs, t.get p = none := by
  have hsteps : (genCfg a b d).steps = canonSteps := C09_job_order
  obtain ⟨he, ⟨_, h⟩ | ⟨_, h⟩ | ⟨j, rfl, ⟨_, q, _, h⟩ | ⟨rfl, -⟩⟩⟩ := jobProgram_getElem? hsteps hk
  · cases h
  · cases h
  · cases h
  rw [job_take_dels hsteps hs h0 ins he _ (Nat.le_refl _), List.take_length]
  obtain ⟨f, hlk, hc, _, _⟩ :=
    (js_deleted hs h0 ins hC (jobManifest s ins).inputs (fun _ hq => hq)).2
  exact ⟨⟨f, hlk, hc⟩, fun p hp => lookup_eq_none.mpr fun hm =>
    (mem_delKeys.mp (mem_keysOf.mp hm).choose_spec).2 hp⟩

/-- a partition as found: distinct input paths below `outBase`, all files complete -/
structure InitOk (fs : Files) : Prop where
  nodup : (keysOf fs).Nodup
  small : ∀ p ∈ keysOf fs, p < outBase
  complete : ∀ x ∈ fs, x.2.complete = true

/-- all files that carry dedup metadata declare the same tag set (level `L`) -/
def UniformLevel (L : Nat) (fs : Files) : Prop := ∀ x ∈ fs, x.2.level = 0 ∨ x.2.level = L

/-- The property at full strength, for a configuration `cfg`: for every partition, every history
of cycles with arbitrary kill/crash/torn-upload faults, after one more (fault-free) cycle no
manifest is pending, the visible rows are a collapse of the original rows at the partition's dedup
level (nothing new, nothing more often, every (tags,time) still there) and — when no file carries
dedup metadata — exactly the original multiset. -/
def FullStatement (cfg : Cfg) : Prop :=
  ∀ (fs : Files) (L : Nat) (plans : List (List Fault)), InitOk fs → UniformLevel L fs →
    let s' := (cycle cfg [] [] (runCycles cfg plans (initSt fs))).st
    s'.mans = [] ∧ Coll L (visible s') (rowsOf fs) ∧
    ((∀ x ∈ fs, x.2.level = 0) → (visible s').Perm (rowsOf fs))

theorem inv_init (rel : RowRel) {fs : Files} (h : InitOk fs) (hok : ∀ x ∈ fs, rel.okLevel x.2.level) :
    Inv rel (rowsOf fs) (initSt fs) :=
  ⟨⟨h.nodup, fun p hp => by simpa [initSt] using h.small p hp, hok⟩, Or.inl ⟨rfl, h.complete, rel.refl _⟩⟩

/-- the generic form: any configuration with the canonical job order and recovery branches, whose
retry path either recovers the dead job's manifest first or is never taken after a manifest write -/
theorem full_of {cfg : Cfg} (hd : DedupSpec cfg.dedupFn) (hsteps : cfg.steps = canonSteps) (hrec : RecCanon cfg)
    (hfirst : cfg.recoverFirst = true) {fs : Files} {L : Nat} {plans : List (List Fault)}
    (hsafe : ∀ p ∈ plans, cfg.retryRecovers = true ∨ PlanSafe p) (hi : InitOk fs) (hu : UniformLevel L fs) :
    let s' := (cycle cfg [] [] (runCycles cfg plans (initSt fs))).st
    s'.mans = [] ∧ Coll L (visible s') (rowsOf fs) ∧
    ((∀ x ∈ fs, x.2.level = 0) → (visible s').Perm (rowsOf fs)) := by
  have h1 := quiesce_inv0 (rel := collRel L) (compactOk_coll L cfg hd) hsteps hrec hfirst hsafe
    (inv_init (collRel L) hi hu)
  refine ⟨h1.1, h1.2, fun hz => ?_⟩
  have h2 := quiesce_inv0 (rel := meqRel) (compactOk_meq cfg) hsteps hrec hfirst hsafe
    (inv_init meqRel hi hz)
  exact List.perm_iff_count.mpr h2.2

/-- C09_full for the REPAIRED retry path (a failed job's own manifest is recovered before the
half-batch retry): holds for all partitions of uniform dedup level and ALL fault histories. -/
theorem C09_full_fixed (a b : Nat) (d : Nat → List Row → List Row) (hd : DedupSpec d) :
    FullStatement { genCfg a b d with retryRecovers := true } := by
  intro fs L plans hi hu
  exact full_of hd C09_job_order ⟨rfl, rfl, rfl⟩ rfl (fun _ _ => .inl rfl) hi hu

/-- The same for the configuration read off the CURRENT source, as soon as the regenerated fact says
that the retry path consults the manifests (it does since a5dca86: `C09_full`). -/
theorem C09_full_generated (h : retryConsultsManifests = true) (a b : Nat) (d : Nat → List Row → List Row)
    (hd : DedupSpec d) : FullStatement (genCfg a b d) := by
  intro fs L plans hi hu
  exact full_of hd C09_job_order (C09_recovery_branches a b d) rfl (fun _ _ => .inl h) hi hu

/-- C09_full for the current source under the carve-out `PlanSafe`: crashes and torn uploads at
EVERY storage mutation of every job, kills before a job's first mutation or after its last one —
i.e. everything except "job killed between its manifest write and its manifest delete, then
retried by `compactFilesAdaptively`". -/
theorem C09_full_partial (a b : Nat) (d : Nat → List Row → List Row) (hd : DedupSpec d)
    (fs : Files) (L : Nat) (plans : List (List Fault)) (hsafe : ∀ p ∈ plans, PlanSafe p)
    (hi : InitOk fs) (hu : UniformLevel L fs) :
    let s' := (cycle (genCfg a b d) [] [] (runCycles (genCfg a b d) plans (initSt fs))).st
    s'.mans = [] ∧ Coll L (visible s') (rowsOf fs) ∧
    ((∀ x ∈ fs, x.2.level = 0) → (visible s').Perm (rowsOf fs)) :=
  full_of hd C09_job_order (C09_recovery_branches a b d) rfl (fun p hp => .inr (hsafe p hp)) hi hu

/-- **C09_full** for the CURRENT source: every partition of uniform dedup level, every history of
cycles with kills, crashes and torn uploads at every storage mutation of every job, then one
fault-free cycle: no manifest pending, visible rows = collapse of the original rows (exactly the
original multiset without dedup metadata). Consumes the regenerated facts: job order, recovery
branches, recovery-before-candidates and `retryConsultsManifests = true`. -/
theorem C09_full (a b : Nat) (d : Nat → List Row → List Row) (hd : DedupSpec d) :
    FullStatement (genCfg a b d) :=
  C09_full_generated rfl a b d hd

def wrow (i : Nat) : Row := { rid := i, k1 := i, k2 := i, k3 := i, k4 := i }
def wfile (i : Nat) : Path × File := (i, { rows := [wrow i], level := 0, isOut := false, complete := true })
/-- four one-row files without dedup metadata -/
def wfiles : Files := [wfile 0, wfile 1, wfile 2, wfile 3]

/-- the source's configuration WITHOUT the retry repair (the tree before a5dca86) -/
def unrepaired : Cfg := { genCfg 2 30 dedupFirst with retryRecovers := false }

/-- Necessity of the repaired retry path (fixed finding 1): without it, a job killed after the
upload (2 mutations done) is re-compacted in halves by `compactFilesAdaptively` while its first
output stays: after the quiescing cycle row 0 is visible twice. -/
theorem C09_full_witness :
    (visible (cycle unrepaired [] []
      (runCycles unrepaired [[{ job := 0, pos := 2, kind := .kill }]] (initSt wfiles))).st).count (wrow 0) = 2
    ∧ (rowsOf wfiles).count (wrow 0) = 1 := by decide +kernel

/-- a legacy file (no metadata) whose two rows differ only in `region`, next to a file tagged `host` -/
def lfiles : Files :=
  [(0, { rows := [{ rid := 0, k1 := 0, k2 := 0, k3 := 0, k4 := 0 }, { rid := 1, k1 := 0, k2 := 0, k3 := 1, k4 := 1 }],
         level := 0, isOut := false, complete := true }),
   (1, { rows := [{ rid := 2, k1 := 1, k2 := 1, k3 := 2, k4 := 2 }], level := 2, isOut := false, complete := true })]

/-- Known finding (loss, no fault needed): the job dedups at the union level `host` although one input
declares no tags (and compaction outputs never do): rows differing in an undeclared tag collapse. -/
theorem C09_level_witness :
    (visible (cycle (genCfg 2 30 dedupFirst) [] [] (initSt lfiles)).st).count { rid := 1, k1 := 0, k2 := 0, k3 := 1, k4 := 1 } = 0 ∧
    (rowsOf lfiles).count { rid := 1, k1 := 0, k2 := 0, k3 := 1, k4 := 1 } = 1 ∧
    ((visible (cycle (genCfg 2 30 dedupFirst) [] [] (initSt lfiles)).st).filter (fun r => r.k3 == 1)).length = 0 := by
  decide +kernel

/-- keys are nested like the tag sets they are built from: equal on a finer key ⇒ equal on a coarser one
(a fact about how the harness abstracts rows; hypothesis of `C09_dedup_union`) -/
def KeyMono (rows : List Row) : Prop :=
  ∀ a b, levelLe a b → a ≠ 0 → ∀ r ∈ rows, ∀ r' ∈ rows, keyAt b r' = keyAt b r → keyAt a r' = keyAt a r

theorem join_facts : ∀ a, a < 5 → ∀ b, b < 5 →
    joinLevel a b < 5 ∧ levelLe a (joinLevel a b) ∧ levelLe b (joinLevel a b) := by decide +kernel
theorem levelLe_trans5 : ∀ a, a < 5 → ∀ b, b < 5 → ∀ c, c < 5 → levelLe a b → levelLe b c → levelLe a c := by decide +kernel

/-- valid level codes -/
def LevelsOk (fs : List File) : Prop := ∀ f ∈ fs, f.level < 5

/-- With the regenerated fact `dedupKeyIsUnionOfInputTags = true` the job's dedup level contains the
tag set of EVERY input. -/
theorem C09_dedup_key_is_union (a b : Nat) (d : Nat → List Row → List Row) (fs : List File) (hok : LevelsOk fs) :
    ∀ f ∈ fs, levelLe f.level (jobLevel (genCfg a b d) fs) := by
  intro f hf
  -- the level reached before `f` joins `f`'s level; what follows only goes up
  obtain ⟨pre, post, rfl⟩ := List.append_of_mem hf
  have hpre : ∀ g ∈ pre, g.level < 5 := fun g hg => hok g (List.mem_append_left _ hg)
  have hpost : ∀ g ∈ post, g.level < 5 := fun g hg => hok g (List.mem_append_right _ (List.mem_cons_of_mem _ hg))
  have h1 := List.foldlRecOn (motive := (· < 5)) pre (fun acc g => joinLevel acc g.level) (b := 0) (by decide)
    (fun acc ha g hg => (join_facts acc ha _ (hpre g hg)).1)
  have h2 := join_facts _ h1 f.level (hok f hf)
  show levelLe f.level ((pre ++ f :: post).foldl _ 0)
  rw [List.foldl_append, List.foldl_cons]
  exact (List.foldlRecOn (motive := fun l => l < 5 ∧ levelLe f.level l) post _ ⟨h2.1, h2.2.2⟩
    (fun acc ha g hg => have j := join_facts acc ha.1 _ (hpost g hg)
      ⟨j.1, levelLe_trans5 _ (hok f hf) _ ha.1 _ j.1 ha.2 j.2.1⟩)).2

/-- Consequence for rows (consumes the same fact): every row of every input that declares tags keeps,
in the job's output, a row with the same (tags,time) at the input's OWN level — no row of a tagged
file is collapsed under a key coarser than the one its file declares. (For inputs WITHOUT tags this
is false: `C09_level_witness`.) -/
theorem C09_dedup_union (a b : Nat) (d : Nat → List Row → List Row) (hd : DedupSpec d) (fs : List File)
    (hok : LevelsOk fs) (hmono : KeyMono (fs.flatMap (fun f => f.rows))) :
    ∀ f ∈ fs, f.level ≠ 0 → Covers f.level (compactRows (genCfg a b d) fs) f.rows := by
  intro f hf hne r hr
  have hle := C09_dedup_key_is_union a b d fs hok f hf
  have hmem : r ∈ fs.flatMap (fun f => f.rows) := List.mem_flatMap.mpr ⟨f, hf, hr⟩
  unfold compactRows
  split
  · exact ⟨r, hmem, rfl⟩
  · obtain ⟨hsub, hcov, _⟩ := hd (jobLevel (genCfg a b d) fs) (fs.flatMap fun f => f.rows)
    obtain ⟨r', h1, h2⟩ := hcov r hmem
    exact ⟨r', h1, hmono _ _ hle hne r hmem r' (hsub.mem h1) h2⟩

theorem chunks_flatten (n : Nat) : ∀ (k : Nat) (l : List Path), 1 ≤ k → (chunks n k l).flatten = l
  | 0, _, h => absurd h (by decide)
  | 1, l, _ => by simp [chunks]
  | k + 2, l, _ => by
    simp only [chunks, List.flatten_cons]
    rw [chunks_flatten n (k + 1) (l.drop n) (by omega), List.take_append_drop]

/-- more files than fit into one batch make at least one batch, also after the short last one is merged -/
theorem numBatches_pos (cfg : Cfg) {len n : Nat} (hn : 0 < n) (hlen : n < len) : 1 ≤ numBatches cfg len n := by
  have h2 : 2 ≤ (len + n - 1) / n := (Nat.le_div_iff_mul_le hn).mpr
    (Nat.le_sub_one_of_lt (Nat.two_mul n ▸ Nat.add_lt_add_right hlen n))
  simp only [numBatches]
  generalize (len + n - 1) / n = nb at h2 ⊢
  split <;> omega

/-- `SplitCandidateIntoBatches` partitions the candidate's file list, in order (no file lost, none
in two batches), whatever the configured batch size. -/
theorem C09_batches (a b : Nat) (d : Nat → List Row → List Row) (files : List Path) :
    (splitBatches (genCfg a b d) files).flatten = files := by
  have hpos : 0 < clampBatch (genCfg a b d) (genCfg a b d).maxBatch := by
    show 0 < (if b < 2 then 30 else if b > 500 then 500 else b)
    split
    · decide
    · split <;> omega
  simp only [splitBatches]
  split
  · exact List.append_nil _
  · exact chunks_flatten _ _ _ (numBatches_pos _ hpos (Nat.lt_of_not_le ‹_›))

/-- Output names are unique: the output of a job is named after the job counter, which every job
increments (real code: `_b{BatchNumber}` + nanosecond clock). -/
theorem C09_output_names (s : St) (ins : List Path) :
    (jobManifest s ins).out = outBase + s.njobs ∧ (jobManifest s ins).mid = s.njobs := ⟨rfl, rfl⟩

/-! ## non-vacuity: the hypotheses are satisfiable -/

theorem dedupFirstAux_sublist (L : Nat) : ∀ (rs : List Row) (seen : List Nat), (dedupFirstAux L seen rs).Sublist rs
  | [], _ => by simp [dedupFirstAux]
  | r :: rs, seen => by
    simp only [dedupFirstAux]
    split
    · exact (dedupFirstAux_sublist L rs seen).cons _
    · exact (dedupFirstAux_sublist L rs _).cons_cons _

theorem dedupFirstAux_covers (L : Nat) : ∀ (rs : List Row) (seen : List Nat), ∀ r ∈ rs,
    keyAt L r ∈ seen ∨ ∃ r' ∈ dedupFirstAux L seen rs, keyAt L r' = keyAt L r
  | [], _, r, h => by cases h
  | x :: rs, seen, r, h => by
    simp only [dedupFirstAux]
    by_cases hx : seen.contains (keyAt L x) = true
    · simp only [hx, if_true]
      rcases List.mem_cons.mp h with e | e
      · subst e; exact Or.inl (by simpa using hx)
      · exact dedupFirstAux_covers L rs seen r e
    · simp only [hx, Bool.false_eq_true, if_false]
      rcases List.mem_cons.mp h with e | e
      · subst e; exact Or.inr ⟨r, List.mem_cons_self, rfl⟩
      · rcases dedupFirstAux_covers L rs (keyAt L x :: seen) r e with h1 | ⟨r', h1, h2⟩
        · rcases List.mem_cons.mp h1 with e1 | e1
          · exact Or.inr ⟨x, List.mem_cons_self, e1.symm⟩
          · exact Or.inl e1
        · exact Or.inr ⟨r', List.mem_cons_of_mem _ h1, h2⟩

theorem dedupFirstAux_nodup (L : Nat) : ∀ (rs : List Row) (seen : List Nat),
    ((dedupFirstAux L seen rs).map (keyAt L)).Nodup ∧ ∀ r' ∈ dedupFirstAux L seen rs, keyAt L r' ∉ seen
  | [], _ => by simp [dedupFirstAux]
  | x :: rs, seen => by
    simp only [dedupFirstAux]
    by_cases hx : seen.contains (keyAt L x) = true
    · simp only [hx, if_true]; exact dedupFirstAux_nodup L rs seen
    · simp only [hx, Bool.false_eq_true, if_false]
      have ih := dedupFirstAux_nodup L rs (keyAt L x :: seen)
      refine ⟨List.nodup_cons.mpr ⟨fun hm => ?_, ih.1⟩, List.forall_mem_cons.mpr
        ⟨by simpa using hx, fun r' e hm => ih.2 r' e (List.mem_cons_of_mem _ hm)⟩⟩
      obtain ⟨r', h1, h2⟩ := List.mem_map.mp hm
      exact ih.2 r' h1 (h2 ▸ List.mem_cons_self)

/-- the model's own dedup function is one admissible DuckDB behaviour -/
theorem dedupFirst_spec : DedupSpec dedupFirst := by
  intro L rows
  exact ⟨fun r => (dedupFirstAux_sublist L rows []).count_le r,
    fun r hr => (dedupFirstAux_covers L rows [] r hr).resolve_left List.not_mem_nil,
    (dedupFirstAux_nodup L rows []).1⟩

/-- the full theorem instantiated: the current source's configuration with the model's dedup -/
example : FullStatement (genCfg 2 30 dedupFirst) := C09_full 2 30 dedupFirst dedupFirst_spec

example : InitOk wfiles ∧ UniformLevel 0 wfiles := by
  refine ⟨⟨by decide, by decide, by decide⟩, by unfold UniformLevel; decide⟩

example : PlanSafe [{ job := 0, pos := 3, kind := .crash }, { job := 1, pos := 0, kind := .kill }] := by
  intro f hf hk
  simp at hf
  rcases hf with rfl | rfl
  · cases hk
  · exact Or.inl rfl

/-- a state in which a job deletes an input: third mutation of the job over `wfiles` -/
example : (jobProgram (genCfg 2 30 dedupFirst) (initSt wfiles) [0, 1, 2, 3])[2]? = some (.delInput 0) := by decide +kernel

end Arc.C09
