import Arc.Model.C05
import Arc.Proofs.C05.Data
import Arc.Proofs.C05.LTS
/-!
# C05 — WAL crash recovery restores exactly the acknowledged rows

Property (properties.jsonl): if the process dies after a write was acknowledged and its WAL entry reached the
file, the next startup makes every such row queryable in the same database and measurement with the same
column names, values and timestamps; recovery never re-routes, rescales or drops columns, and a crash during
or just after recovery does not lose the rows being recovered.

FULL STATEMENTS (false of the current source — see the witnesses):

    theorem C05_replay_eq_live (san nowL nowR req rows) :
        liveRows san nowL req = .ok rows → replayRows san nowR (walEntry req) = .ok rows
    theorem C05_db_preserved (…) : … → ∀ r ∈ replayed rows, r.db = database of the request
    theorem C05_full (evs st) : run deleteNeedsAllReplayed flushBeforeRemove {} evs = some st → quiescent st →
        ∀ r ∈ st.rows, r.pers → r.s + r.sr = 1

What is proved: the same statements under explicit decidable carve-outs (`carve`, `evSafe`), kernel-evaluated
witnesses that each carve-out clause is necessary (each is a defect confirmed on the real code by the harness),
and the ties to the regenerated facts.
-/
namespace Arc.C05
open Arc.Generated.C05

/-- The shape of the recovery callbacks / WAL row builders the model and the proofs rely on: the row callback
looks first at exactly the two keys `columnarToWALRecords` writes (and writes LAST, so they win over same-named
columns), both are among the removed keys, every removed key is one the live path does not store either ('_'
prefix), `parseColumnarEntry` accepts integer measurements, the entry queued by AppendRaw* owns a copy of the
payload (so `walEntry req` — the bytes at acknowledgement time — is what reaches the file even when the request
buffer is re-used before the asynchronous writer drains it), the
columnar callback and the row callback use the same default database, the threshold table is the 1e10 / 1e13 /
1e16 ladder, and `os.Remove(walFile)` follows the callbacks (guarded by allEntriesSucceeded) with no flush
in between. -/
theorem C05_facts_tied :
    measKeys.head? = some walMeasKey ∧ dbKeys.head? = some walDbKey ∧
    removedKeys.contains walDbKey = true ∧ removedKeys.contains walMeasKey = true ∧
    colDbDefault = dbDefault ∧ walKeysLast = true ∧ replayAcceptsIntMeas = true ∧ queuedEntryOwnsCopy = true ∧
    removedKeys.all (fun k => !visible k && k != kTime) = true ∧
    thresholds = [(10000000000, 1000000), (10000000000000, 1000), (10000000000000000, 1)] ∧ elseMult = -1000 ∧
    removeAfterCallbacks = true ∧ removeGuardedByAllSucceeded = true ∧ callbackErrorsClearAllOk = true ∧
    walDirUsedVerbatim = true ∧ flushBeforeRemove = false := by
  decide +kernel

/-- `normalizeTimestampColumns` is the identity exactly on microsecond values in [1e13, 1e16): everything
earlier than 1970-04-26T17:46:40Z (all pre-1970 instants included) and everything from 2286-11-20 on is
rescaled when an already-normalised value passes through it again. -/
theorem C05_stable_range (t : Int) :
    usStable t = true ↔ (10000000000000 ≤ t ∧ t < 10000000000000000) := by
  simp only [usStable, Bool.and_eq_true, beq_iff_eq, decide_eq_true_eq]
  constructor
  · rintro ⟨⟨h, _⟩, _⟩
    rcases ite_cases h with ⟨_, h⟩ | ⟨_, h⟩
    · cases h
    rcases ite_cases h with ⟨_, h⟩ | ⟨h1, h⟩
    · cases h
    rcases ite_cases h with ⟨h2, _⟩ | ⟨_, h⟩
    · omega
    · cases h
  · rintro ⟨h1, h2⟩
    refine ⟨⟨?_, by omega⟩, by omega⟩
    show (if _ then _ else if _ then _ else if _ then _ else _) = _
    rw [if_neg (by omega), if_neg (by omega), if_pos (by omega)]

/-- C05_replay_eq_live inside the carve-out `carve`:
* raw entries (top-level MessagePack columnar): database header present (always, the handlers default it) and
  the body carries a time column (else the generated time differs, C05_generated_time_witness);
* row entries (line protocol, MessagePack rows, nested columnar): unique names and equal lengths (what a Go
  map of validated columns gives), every timestamp in the stable range (C05_rescale_witness), strings already
  sanitised.  No restriction on column NAMES any more: since c684d79 / 25d831b columns called `_database`,
  `_measurement`, `database`, `measurement`, `m` neither re-route nor disappear.
Then the rows startup recovery re-buffers for the persisted entry are exactly the rows the live path stored:
same database, measurement, column names, values, timestamps. -/
theorem C05_replay_eq_live_partial (san : Str → Str) (nowL nowR : Int) (req : Req) (rows : List Row)
    (hc : carve san req = true) (h : liveRows san nowL req = .ok rows) :
    replayRows san nowR (walEntry req) = .ok rows := by
  cases req with
  | raw db m cols =>
    simp only [carve, carveRaw, Bool.and_eq_true] at hc
    obtain ⟨hdb, ht⟩ := hc
    have hdb' : db ≠ [] := by simpa using hdb
    cases m with
    | other => cases h
    | str _ | int _ =>
      -- replay computes the measurement as `measOf` does, and the clock is not consulted
      simp only [walEntry, replayRows, replayRawG, replay_int, hdb', if_false, if_true]
      rw [ingestCols_now_irrel nowR nowL ht]
      exact h
  | pcol db meas cols | rgrp db meas pts => exact rows_replay_eq_live nowR hc h

example : carve id (.pcol [112] [99] [(kTime, [.int 1700000000000000, .int 1700000000000001]),
    ([118], [.flt 5, .null]), ([109], [.str [97], .str [98]]), (walDbKey, [.str [113], .null])]) = true ∧
    (liveRows id 0 (.pcol [112] [99] [(kTime, [.int 1700000000000000, .int 1700000000000001]),
      ([118], [.flt 5, .null]), ([109], [.str [97], .str [98]]), (walDbKey, [.str [113], .null])])).toOption.map
        List.length = some 2 := by
  decide +kernel

example : carve id (.raw [112] (.int 5) [(kTime, [.int 1700000000]), ([118], [.int 1])]) = true := by decide +kernel

def reqDb : Req → Str
  | .raw db _ _ => db
  | .pcol db _ _ => db
  | .rgrp db _ _ => db

theorem liveRows_db {san : Str → Str} {now : Int} {req : Req} {rows : List Row}
    (h : liveRows san now req = .ok rows) : ∀ r ∈ rows, r.db = reqDb req := by
  cases req with
  | raw db m cols =>
    simp only [liveRows] at h
    cases hm : measOf m with
    | none => rw [hm] at h; cases h
    | some meas =>
      rw [hm] at h
      obtain ⟨_, h⟩ := ingestCols_toRows h
      exact toRows_db h
  | pcol db meas cols | rgrp db meas pts => exact toRows_db h

/-- C05_db_preserved inside the carve-out: recovery never routes a row to another database. -/
theorem C05_db_preserved_partial (san : Str → Str) (nowL nowR : Int) (req : Req) (rows : List Row)
    (hc : carve san req = true) (h : liveRows san nowL req = .ok rows) :
    ∃ rows', replayRows san nowR (walEntry req) = .ok rows' ∧ ∀ r ∈ rows', r.db = reqDb req :=
  ⟨rows, C05_replay_eq_live_partial san nowL nowR req rows hc h, liveRows_db h⟩

/-! ### witnesses: every clause of the carve-out is necessary (each confirmed on the real code) -/

/-- (a) a line-protocol / row-format row at 1970-01-01T00:00:05Z (5 000 000 µs) is restored at 5·10¹² µs
(1970-02-27): replay re-detects "seconds" from an already-microsecond value. -/
theorem C05_rescale_witness :
    (liveRows id 0 (.pcol [112] [99] [(kTime, [.int 5000000]), ([118], [.int 1])])).toOption =
      some [{ db := [112], meas := [99], time := 5000000, cells := [([118], .i 1)] }] ∧
    (replayRows id 0 (walEntry (.pcol [112] [99] [(kTime, [.int 5000000]), ([118], [.int 1])]))).toOption =
      some [{ db := [112], meas := [99], time := 5000000000000, cells := [([118], .i 1)] }] := by
  decide +kernel

/-- (a') pre-1970 rows (negative µs) are multiplied by 10⁶. -/
theorem C05_rescale_pre1970_witness :
    (replayRows id 0 (walEntry (.pcol [112] [99] [(kTime, [.int (-8253000000)]), ([118], [.int 1])]))).toOption =
      some [{ db := [112], meas := [99], time := -8253000000000000, cells := [([118], .i 1)] }] := by
  decide +kernel

/-! Fixed in /repo (c684d79 routing keys written last, 25d831b callback consumes only those two keys, c631216
integer measurements replay): the next three witnesses are about the explicitly pre-fix definitions
`mkRecG false` / `replayRawG false`; for the current source `C05_replay_eq_live_partial` covers their inputs. -/

/-- pre-c684d79 (`mkRecG false`): a column named `_database` overwrote the routing key and re-routed the row;
with the keys written last (`mkRecG true`) the request's database wins. -/
theorem C05_prefix_reroute_witness :
    (rowCb id 0 (mkRecG false [112] [99] [(kTime, [.int 1700000000000000]), (walDbKey, [.str [113]]),
        ([118], [.int 1])] 0)).toOption.map (List.map (·.db)) = some [[113]] ∧
    (rowCb id 0 (mkRecG true [112] [99] [(kTime, [.int 1700000000000000]), (walDbKey, [.str [113]]),
        ([118], [.int 1])] 0)).toOption.map (List.map (·.db)) = some [[112]] := by
  decide +kernel

/-- pre-c684d79: a NULL in a column named `_measurement` made the row callback skip the row. -/
theorem C05_prefix_null_measurement_column_witness :
    (rowCb id 0 (mkRecG false [112] [99] [(kTime, [.int 1700000000000000]), (walMeasKey, [.null]),
        ([118], [.int 1])] 0)).toOption = some [] ∧
    (rowCb id 0 (mkRecG true [112] [99] [(kTime, [.int 1700000000000000]), (walMeasKey, [.null]),
        ([118], [.int 1])] 0)).toOption.map List.length = some 1 := by
  decide +kernel

/-- pre-c631216 (`replayRawG false`): a raw entry whose measurement was sent as an integer was dropped. -/
theorem C05_prefix_int_measurement_witness :
    (replayRawG false id 0 [112] (.int 5) [(kTime, [.int 1700000000000000]), ([118], [.int 1])]).toOption = some [] ∧
    (replayRawG true id 0 [112] (.int 5) [(kTime, [.int 1700000000000000]), ([118], [.int 1])]).toOption.map
        List.length = some 1 := by
  decide +kernel

/-- (g) a raw entry without a time column gets a NEW generated timestamp at replay time. -/
theorem C05_generated_time_witness :
    (liveRows id 1000 (.raw [112] (.str [99]) [([118], [.int 1])])).toOption.map (List.map (·.time)) =
      some [1000000000] ∧
    (replayRows id 2000 (walEntry (.raw [112] (.str [99]) [([118], [.int 1])]))).toOption.map (List.map (·.time)) =
      some [2000000000] := by
  decide +kernel

/-- C05_full inside the carve-out `evSafe` (no crash while an unflushed row has lost its WAL file or while a
flushed row's WAL entry still exists; no entry skipped by the reader), for the LTS of the CURRENT source
(order fact `removeAfterCallbacks` regenerated): at every quiescent state (process up, recovery complete,
everything flushed) every row that was acknowledged and whose WAL entry reached a file is stored exactly once.
Any trace, any number of crashes at any event boundary. -/
theorem C05_full_partial (evs : List Ev) (st : St)
    (hrun : runSafe deleteNeedsAllReplayed flushBeforeRemove {} evs = some st)
    (hq : quiescent st = true) :
    ∀ r ∈ st.rows, r.pers = true → r.s + r.sr = 1 := by
  have hord : deleteNeedsAllReplayed = true := rfl
  rw [hord] at hrun
  exact quiescent_once (runSafe_inv evs inv_init hrun) hq

/-- content of the stored copies of a row: live copies carry the live content, replayed copies the replayed
content -/
def storedContent {α : Type} (live rep : Nat → α) (r : RowSt) : List α :=
  List.replicate r.s (live r.rid) ++ List.replicate r.sr (rep r.rid)

/-- … with identical content, whenever the data part applies to the row (`rep rid = live rid`,
C05_replay_eq_live_partial). -/
theorem C05_full_content {α : Type} (live rep : Nat → α) (evs : List Ev) (st : St)
    (hrun : runSafe deleteNeedsAllReplayed flushBeforeRemove {} evs = some st)
    (hq : quiescent st = true) :
    ∀ r ∈ st.rows, r.pers = true → rep r.rid = live r.rid → storedContent live rep r = [live r.rid] := by
  intro r hr hp heq
  rw [storedContent, heq, List.replicate_append_replicate, C05_full_partial evs st hrun hq r hr hp]
  rfl

/-- non-vacuity: ack, persist, crash, restart, replay, flush, delete — safe, quiescent, stored once. -/
example : ∃ st, runSafe deleteNeedsAllReplayed flushBeforeRemove {}
      [.ack 0 [1, 2], .persist 0, .crash, .restart, .replay 0, .flush [1, 2], .delete 0] = some st ∧
    quiescent st = true ∧ st.rows.map (fun r => (r.pers, r.s + r.sr)) = [(true, 1), (true, 1)] := by
  refine ⟨_, rfl, ?_, ?_⟩ <;> decide +kernel

/-- (c) the unrestricted statement fails: RecoverWithOptions removes the WAL file right after re-buffering;
a crash before the next flush loses the recovered rows (acknowledged, persisted, stored 0 times). -/
theorem C05_full_loss_witness :
    (run deleteNeedsAllReplayed flushBeforeRemove {}
        [.ack 0 [1], .persist 0, .crash, .restart, .replay 0, .delete 0, .crash, .restart]).map
      (fun st => (quiescent st, st.rows.map fun r => (r.pers, r.s + r.sr))) = some (true, [(true, 0)]) := by
  decide +kernel

/-- (dup) … and rows flushed before a crash are replayed again from a WAL file that still exists. -/
theorem C05_full_dup_witness :
    (run deleteNeedsAllReplayed flushBeforeRemove {}
        [.ack 0 [1], .persist 0, .flush [1], .crash, .restart, .replay 0, .delete 0, .flush [1]]).map
      (fun st => (quiescent st, st.rows.map fun r => (r.pers, r.s + r.sr))) = some (true, [(true, 2)]) := by
  decide +kernel

/-- a WAL entry the reader cannot parse is skipped, its file deleted: the row is lost (no such entry is produced
by the current source for accepted requests; the carve-out keeps `skip` out). -/
theorem C05_full_skip_witness :
    (run deleteNeedsAllReplayed flushBeforeRemove {}
        [.ack 0 [1], .persist 0, .crash, .restart, .skip 0, .delete 0]).map
      (fun st => (quiescent st, st.rows.map fun r => (r.pers, r.s + r.sr))) = some (true, [(true, 0)]) := by
  decide +kernel

/-- A WAL file is deleted only when EVERY entry in it was replayed by a callback that succeeded: a failed
callback (`fail e`, which leaves the entry un-replayed) keeps the file for the next recovery pass. Holds for the
LTS of the current source because the three regenerated facts in `deleteNeedsAllReplayed` are true. -/
theorem C05_delete_only_after_all_callbacks_succeeded (st st' : St) (f : Nat)
    (h : stepCur st (.delete f) = some st') : ∀ r ∈ st.rows, r.w = some f → r.rp = true := by
  have hg := (Option.ite_some_none_eq_some.1 h).1
  exact fun r hr hw => (deleteGuard_row hg hr hw).1 rfl

/-- … and the failed entry's rows come back at the next start: fail, crash, restart, replay, flush, delete. -/
example : (run deleteNeedsAllReplayed flushBeforeRemove {}
      [.ack 0 [1], .persist 0, .crash, .restart, .fail 0, .delete 0]) = none ∧
    (runSafe deleteNeedsAllReplayed flushBeforeRemove {}
      [.ack 0 [1], .persist 0, .crash, .restart, .fail 0, .crash, .restart, .replay 0, .flush [1], .delete 0]).map
      (fun st => (quiescent st, st.rows.map fun r => (r.pers, r.s + r.sr))) = some (true, [(true, 1)]) := by
  decide +kernel

/-- The order fact is what the proof stands on: were `os.Remove` allowed before the callbacks, a SAFE trace
loses the row. -/
theorem C05_order_needed_witness :
    (runSafe false false {} [.ack 0 [1], .persist 0, .crash, .restart, .delete 0]).map
      (fun st => (quiescent st, st.rows.map fun r => (r.pers, r.s + r.sr))) = some (true, [(true, 0)]) := by
  decide +kernel

/-- Proposed repair (flush the re-buffered rows before `os.Remove(walFile)`; `flushBeforeRemove = true`):
a WAL file can then only be deleted when none of its rows is still in memory, so the state in which witness
(c) crashes is unreachable. -/
theorem C05_flush_first_guard (orderOk : Bool) (st : St) (f : Nat)
    (h : deleteGuard orderOk true st f = true) :
    ∀ r ∈ st.rows, r.w = some f → r.b + r.br = 0 := by
  exact fun r hr hw => (deleteGuard_row h hr hw).2 rfl

end Arc.C05
