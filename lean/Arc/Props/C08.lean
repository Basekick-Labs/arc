import Arc.Model.C08
import Arc.Generated.C08
import Arc.Proofs.C08.Path
import Arc.Proofs.C08.FS
import Arc.Base.Lists
/-!
# C08 — storage keys stay inside the root and files appear atomically

Confinement rests on the `Rel` check of `validatePath` alone, whatever `sanitizePath` does
(`C08_confined`); the statements about manifest paths and edge-sync keys are instances of it.
Atomicity: every write procedure names the final path in one op only, its last `rename`
(`staged_atomic`). The `_tied` theorems compare the regenerated call orders with the ones the proofs
are written for.
-/
namespace Arc.C08

/-- one guard of a validator written as an `if` chain: a result other than the guard's own means
the guard did not fire -/
theorem of_ite_eq {α : Type} {c : Prop} [Decidable c] {a b x : α}
    (h : (if c then a else b) = x) (ha : a ≠ x) : ¬c ∧ b = x :=
  (ite_cases h).resolve_left fun h' => ha h'.2

theorem checkRel_ok {base a p : Bytes} (h : checkRel base a = .ok p) :
    p = a ∧ ∃ r, rel base a = .ok r ∧ hasDotDotPrefix r = false := by
  unfold checkRel at h
  cases hr : rel base a with
  | err => rw [hr] at h; cases h
  | ok r =>
    rw [hr] at h
    obtain ⟨hd, h⟩ := of_ite_eq h nofun
    exact ⟨(VResult.ok.inj h).symm, r, rfl, eq_false_of_ne_true hd⟩

/-- `Rel` of two cleaned absolute paths works on their elements -/
theorem rel_cleanAbs {base p : Bytes} {bs ps : List Bytes} (hb : CleanAbs base bs) (hp : CleanAbs p ps) :
    rel base p = if p = base then .ok dot else relCore bs ps := by
  obtain ⟨rfl, hbg⟩ := hb
  obtain ⟨rfl, hpg⟩ := hp
  have hbd : renderAbs bs ≠ dot := by simp [renderAbs, dot]
  simp only [rel, clean_renderAbs hbg, clean_renderAbs hpg, if_neg hbd, isRooted_renderAbs,
    segsOf_renderAbs hbg, segsOf_renderAbs hpg, ne_eq, not_true_eq_false, if_false]

/-- The heart of the confinement argument: if `Rel` succeeds with an answer that does not start with
`..`, nothing of the base is left after the common elements are stripped. -/
theorem relCore_ok_prefix {bs ps : List Bytes} {r : Bytes} (hps : ∀ s ∈ ps, (47 : UInt8) ∉ s)
    (h : relCore bs ps = .ok r) (hnd : hasDotDotPrefix r = false) : ∃ extra, ps = bs ++ extra := by
  obtain ⟨common, h1, h2⟩ := stripCommon_spec bs ps
  unfold relCore at h
  cases hx : (stripCommon bs ps).1 with
  | nil =>
    rw [hx, List.append_nil] at h1
    exact ⟨(stripCommon bs ps).2, h1.symm ▸ h2⟩
  | cons x xs =>
    -- one `..` per remaining base element: the cleaned answer starts with `..`
    simp only [hx, List.cons_ne_nil, if_false, List.map_cons, List.cons_append] at h
    obtain ⟨-, h⟩ := of_ite_eq h nofun
    have hL : ∀ s ∈ xs.map (fun _ => dotdot) ++ (stripCommon bs ps).2, (47 : UInt8) ∉ s :=
      List.forall_mem_append.mpr ⟨List.forall_mem_map.mpr fun _ _ => by decide,
        fun s hs => hps s (h2 ▸ List.mem_append_right _ hs)⟩
    rw [← RelResult.ok.inj h, clean_up_has_dotdot_prefix _ hL] at hnd
    cases hnd

/-- **C08_confined.** For *every* key (any byte string: `..`, NUL, backslashes, invalid UTF-8, any
length) and every absolute cleaned base `/b₁/…/bₙ`: a key that `validatePath` accepts resolves to
`/b₁/…/bₙ/e₁/…/eₖ` (k ≥ 0) where every `eᵢ` is a real element — not empty, not `.`, not `..`,
without a separator. This holds whatever `sanitizePath` does (in particular although deleting NUL
*after* replacing `..` can re-create `..`): it is the `Rel` check that confines. -/
theorem C08_confined (base key p : Bytes) (bs : List Bytes) (hb : CleanAbs base bs)
    (h : validatePath base key = .ok p) :
    ∃ extra, p = renderAbs (bs ++ extra) ∧ ∀ s ∈ extra, GoodSeg s := by
  unfold validatePath at h
  by_cases hroot : isRooted (fpJoin base (sanitize key)) = true
  · rw [if_pos hroot, clean_rooted _ hroot] at h
    have hgood := cleanStack_rooted_good (fpJoin base (sanitize key))
    obtain ⟨rfl, r, hr, hnd⟩ := checkRel_ok h
    rw [rel_cleanAbs hb ⟨rfl, hgood⟩] at hr
    obtain ⟨extra, hex⟩ : ∃ extra, cleanStack true (splitSlash (fpJoin base (sanitize key))) = bs ++ extra := by
      by_cases hsame : renderAbs (cleanStack true (splitSlash (fpJoin base (sanitize key)))) = base
      · exact ⟨[], by rw [List.append_nil]; exact renderAbs_inj hgood hb.2 (hsame.trans hb.1)⟩
      · rw [if_neg hsame] at hr
        exact relCore_ok_prefix (fun s hs => (hgood s hs).2.2.2) hr hnd
    exact ⟨extra, by rw [hex], fun s hs => hgood s (hex ▸ List.mem_append_right _ hs)⟩
  · rw [if_neg hroot] at h; cases h

/-- `Clean(base) = base` and a leading `/` (what `filepath.Abs` in `NewLocalBackend` guarantees) is
the hypothesis `CleanAbs` of `C08_confined`. -/
theorem C08_cleanAbs_of_clean (base : Bytes) (hc : clean base = base) (hr : isRooted base = true) :
    ∃ bs, CleanAbs base bs :=
  ⟨cleanStack true (splitSlash base), by rw [← clean_rooted base hr, hc], cleanStack_rooted_good base⟩

/-- **C08_confined_str.** Byte-string form: the accepted path is the base itself or starts with
`base ++ "/"` (for the root directory `/` as base every absolute path qualifies, hence `base ≠ "/"`). -/
theorem C08_confined_str (base key p : Bytes) (hc : clean base = base) (hr : isRooted base = true)
    (hnr : base ≠ [47]) (h : validatePath base key = .ok p) :
    p = base ∨ (base ++ [47]) <+: p := by
  obtain ⟨bs, hb⟩ := C08_cleanAbs_of_clean base hc hr
  obtain ⟨extra, hp, _⟩ := C08_confined base key p bs hb h
  have hbs : bs ≠ [] := fun e => hnr (by rw [hb.1, e]; rfl)
  cases extra with
  | nil => left; rw [hp, List.append_nil, hb.1]
  | cons e es =>
    right
    rw [hp, hb.1]
    unfold renderAbs
    rw [joinSlash_append bs (e :: es) hbs (by simp)]
    exact ⟨joinSlash (e :: es), by simp⟩

def wBase : Bytes := [47, 100, 97, 116, 97, 47, 97, 114, 99]            -- "/data/arc"
def wKeyNul : Bytes := [46, 0, 46, 47, 46, 0, 46, 47, 120]               -- ".\0./.\0./x"

/-- **C08_nul_quirk_witness.** The ordering quirk is real: `sanitizePath` deletes NUL *after*
replacing `..`, so `.\0./.\0./x` leaves it as `../../x`; `validatePath` nevertheless rejects the key
(second check), exactly as `C08_confined` demands. -/
theorem C08_nul_quirk_witness :
    sanitize wKeyNul = [46, 46, 47, 46, 46, 47, 120] ∧ validatePath wBase wKeyNul = .escapes := by
  decide +kernel

/-- non-vacuity of `C08_confined`: an accepted adversarial key, and its resolution -/
example : validatePath wBase [47, 47, 97, 47, 46, 46, 46, 47, 0, 98, 47] =
    .ok (wBase ++ [47, 47, 97, 47, 95, 46, 47, 98].drop 1) ∧ CleanAbs wBase [[100, 97, 116, 97], [97, 114, 99]] := by
  unfold CleanAbs GoodSeg
  decide +kernel

theorem indexOfByte_none {b : UInt8} {p : Bytes} (h : indexOfByte b p = none) : b ∉ p := by
  induction p with
  | nil => exact List.not_mem_nil
  | cons c r ih =>
    unfold indexOfByte at h
    by_cases hc : c = b
    · rw [if_pos hc] at h; cases h
    · rw [if_neg hc] at h
      exact fun hm => (List.mem_cons.mp hm).elim (fun e => hc e.symm) (ih (Option.map_eq_none_iff.mp h))

/-- **C08_manifest_shape.** A manifest path accepted by `ValidateManifestPath` is non-empty, at most
`MaxManifestPathLen` bytes, contains neither NUL nor `:`, and does not start with `/` or `\`. -/
theorem C08_manifest_shape (k : Bytes) (h : validateManifestPath k = .ok) :
    k ≠ [] ∧ k.length ≤ Arc.Generated.C08.maxManifestPathLen ∧ (0 : UInt8) ∉ k ∧ (58 : UInt8) ∉ k ∧
    isAbsolutePath k = false ∧ hasParentTraversalSegment k = false := by
  unfold validateManifestPath at h
  obtain ⟨h1, h⟩ := of_ite_eq h nofun
  obtain ⟨h2, h⟩ := of_ite_eq h nofun
  obtain ⟨h3, h⟩ := of_ite_eq h nofun
  obtain ⟨h4, h⟩ := of_ite_eq h nofun
  obtain ⟨h5, h⟩ := of_ite_eq h nofun
  obtain ⟨h6, -⟩ := of_ite_eq h nofun
  refine ⟨h1, Nat.le_of_not_lt h2, by simpa using h3, ?_, eq_false_of_ne_true h5, eq_false_of_ne_true h6⟩
  -- a colon is tolerated only in a drive prefix, and those paths are absolute
  unfold colonCheck at h4
  cases hidx : indexOfByte 58 k with
  | none => exact indexOfByte_none hidx
  | some i => exact absurd (by simpa [hidx] using h4) (fun h : i = 1 ∧ isAbsolutePath k = true => h5 h.2)

/-- **C08_manifest_confined.** Any manifest path the FSM accepts, when handed to the local backend,
is rejected or resolves inside the root. -/
theorem C08_manifest_confined (base k p : Bytes) (bs : List Bytes) (hb : CleanAbs base bs)
    (_hm : validateManifestPath k = .ok) (h : validatePath base k = .ok p) :
    ∃ extra, p = renderAbs (bs ++ extra) ∧ ∀ s ∈ extra, GoodSeg s :=
  C08_confined base k p bs hb h

/-- **C08_edgesync_confined.** The hub-side key `NamespacedPath(spoke, path)` and the staging key
of an edge-sync upload, when handed to the local backend, are rejected or resolve inside the root. -/
theorem C08_edgesync_confined (base spoke sp p : Bytes) (bs : List Bytes) (hb : CleanAbs base bs)
    (_h1 : validateSpokeID spoke = .ok) (_h2 : validateSyncPath sp = .ok)
    (h : validatePath base (namespacedPath spoke sp) = .ok p ∨
         validatePath base (stagingPathFor spoke sp) = .ok p) :
    ∃ extra, p = renderAbs (bs ++ extra) ∧ ∀ s ∈ extra, GoodSeg s := by
  cases h with
  | inl h | inr h => exact C08_confined base _ p bs hb h

/-- **C08_edgesync_shape.** What the two edge-sync validators guarantee about their inputs. -/
theorem C08_edgesync_shape (spoke sp : Bytes) (h1 : validateSpokeID spoke = .ok)
    (h2 : validateSyncPath sp = .ok) :
    (spoke ≠ [] ∧ (47 : UInt8) ∉ spoke ∧ (92 : UInt8) ∉ spoke ∧ (0 : UInt8) ∉ spoke ∧ spoke.head? ≠ some 46) ∧
    (sp ≠ [] ∧ (0 : UInt8) ∉ sp ∧ (92 : UInt8) ∉ sp ∧ sp.head? ≠ some 47 ∧ sp.head? ≠ some 46 ∧
      containsDotDot sp = false ∧ ∀ s ∈ splitSlash sp, s ≠ []) := by
  constructor
  · unfold validateSpokeID at h1
    obtain ⟨a1, h1⟩ := of_ite_eq h1 nofun
    obtain ⟨a2, h1⟩ := of_ite_eq h1 nofun
    obtain ⟨a3, h1⟩ := of_ite_eq h1 nofun
    obtain ⟨a4, -⟩ := of_ite_eq h1 nofun
    simp at a2 a4
    exact ⟨a1, a2.1, a2.2, a4, a3⟩
  · unfold validateSyncPath at h2
    obtain ⟨b1, h2⟩ := of_ite_eq h2 nofun
    obtain ⟨b2, h2⟩ := of_ite_eq h2 nofun
    obtain ⟨b3, h2⟩ := of_ite_eq h2 nofun
    obtain ⟨b4, h2⟩ := of_ite_eq h2 nofun
    obtain ⟨b5, h2⟩ := of_ite_eq h2 nofun
    obtain ⟨b6, h2⟩ := of_ite_eq h2 nofun
    obtain ⟨b7, -⟩ := of_ite_eq h2 nofun
    simp at b2 b4 b6
    exact ⟨b1, b2, b4, b3, b7, eq_false_of_ne_true b5, fun s hs e => b6 (e ▸ hs)⟩

example : validateManifestPath [100, 98, 47, 109, 47, 102] = .ok := by decide +kernel
example : validateSpokeID [101, 49] = .ok ∧
    validateSyncPath [100, 47, 102, 46, 112, 97, 114, 113, 117, 101, 116] = .ok := by decide +kernel

theorem writeOps_eq (f t : Bytes) (chunks : List Bytes) :
    writeOps f t chunks =
      ([Op.mkdirAll [], Op.createExcl t] ++ chunks.map (fun ch => Op.write t ch) ++ [Op.close t])
        ++ [Op.rename t f] := by
  simp [writeOps, proc, Arc.Generated.C08.writeSuccess, inst, Params.path]

theorem writeReaderOps_eq (f : Bytes) (chunks : List Bytes) :
    writeReaderOps f chunks =
      ([Op.mkdirAll [], Op.openTrunc (partPath f)] ++ chunks.map (fun ch => Op.write (partPath f) ch)
        ++ [Op.close (partPath f)]) ++ [Op.rename (partPath f) f] := by
  simp [writeReaderOps, proc, Arc.Generated.C08.writeReaderSuccess, inst, Params.path]

/-- `AppendReader`: the staging ops, then `rename` and the deferred `close` when the byte count fits -/
theorem appendReaderOps_eq (f : Bytes) (chunks : List Bytes) (asz : Int) :
    appendReaderOps f chunks asz =
      ([Op.openAppend (partPath f)] ++ chunks.map (fun ch => Op.write (partPath f) ch)
        ++ [Op.close (partPath f)]) ++
      if (totalLen chunks : Int) = asz then [Op.rename (partPath f) f, Op.close (partPath f)] else [] := by
  by_cases h : (totalLen chunks : Int) = asz <;>
    simp [appendReaderOps, h, proc, Arc.Generated.C08.appendSuccess, Arc.Generated.C08.appendPromote,
      Arc.Generated.C08.appendDeferred, inst, Params.path]

/-- the staging part of a write procedure (`o` creates or opens the staging file `t`) and the
`rename`, run to the end: the data is at the final path and the staging name is gone -/
theorem staged_complete {fs0 : FS} {f t c : Bytes} {chunks : List Bytes} {o : Op} (htf : t ≠ f)
    (ho : step fs0 o = some (fs0.set t c)) {ops : List Op}
    (hops : ops = [Op.mkdirAll [], o] ++ chunks.map (fun ch => Op.write t ch) ++ [Op.close t] ++ [Op.rename t f]) :
    run fs0 ops f = some (c ++ chunks.flatten) ∧ run fs0 ops t = none := by
  subst hops
  simp only [List.cons_append, List.nil_append, List.append_assoc]
  rw [run_cons_of_step rfl, run_cons_of_step ho, run_writes t chunks _ _ c (if_pos rfl)]
  simp [run, step, FS.set, FS.del, htf]

/-- the same sequence cut short by a crash: the final path is untouched or as at the end -/
theorem staged_crash {fs0 : FS} {f t : Bytes} {chunks : List Bytes} {o : Op} (htf : t ≠ f) {ops : List Op}
    (hops : ops = [Op.mkdirAll [], o] ++ chunks.map (fun ch => Op.write t ch) ++ [Op.close t] ++ [Op.rename t f])
    (hof : o.touches f = false) :
    ∀ st ∈ crashStates fs0 ops, st f = fs0 f ∨ st f = run fs0 ops f := by
  subst hops
  exact staged_atomic (staging_spares htf (spares_pair rfl hof)) (List.forall_mem_nil _)

/-- **C08_part_ne_final.** The staging name `<final>.part` is never the final name. -/
theorem C08_part_ne_final (f : Bytes) : partPath f ≠ f :=
  fun h => absurd (List.append_right_eq_self.mp h) (by decide)

/-- **C08_write_complete.** `Write` run to the end leaves exactly the data at the final path and no
temp file (the temp name is fresh — `O_EXCL` — and differs from the final name). -/
theorem C08_write_complete (fs0 : FS) (f t : Bytes) (chunks : List Bytes) (htf : t ≠ f)
    (hfresh : fs0 t = none) :
    run fs0 (writeOps f t chunks) f = some chunks.flatten ∧ run fs0 (writeOps f t chunks) t = none :=
  staged_complete (c := []) htf (by simp [step, hfresh]) (writeOps_eq f t chunks)

/-- **C08_atomic_write.** Crash at any point of `Write` (= any prefix of its op sequence, for any
way the kernel cuts the data into `write(2)` pieces): the final path holds what it held before
(absent or the previous content) or the complete data. -/
theorem C08_atomic_write (fs0 : FS) (f t : Bytes) (chunks : List Bytes) (htf : t ≠ f)
    (hfresh : fs0 t = none) :
    ∀ st ∈ crashStates fs0 (writeOps f t chunks), st f = fs0 f ∨ st f = some chunks.flatten := by
  rw [← (C08_write_complete fs0 f t chunks htf hfresh).1]
  exact staged_crash htf (writeOps_eq f t chunks) (decide_eq_false htf)

theorem C08_write_reader_complete (fs0 : FS) (f : Bytes) (chunks : List Bytes) :
    run fs0 (writeReaderOps f chunks) f = some chunks.flatten ∧
    run fs0 (writeReaderOps f chunks) (partPath f) = none :=
  staged_complete (c := []) (C08_part_ne_final f) rfl (writeReaderOps_eq f chunks)

/-- **C08_atomic_write_reader.** Crash at any point of `WriteReader` — whatever was at the final
path and at `<final>.part` before: the final path is unchanged or holds the complete stream. The
`.part` file may hold any prefix, but (C08_part_ne_final) it is never the final name. -/
theorem C08_atomic_write_reader (fs0 : FS) (f : Bytes) (chunks : List Bytes) :
    ∀ st ∈ crashStates fs0 (writeReaderOps f chunks), st f = fs0 f ∨ st f = some chunks.flatten := by
  rw [← (C08_write_reader_complete fs0 f chunks).1]
  exact staged_crash (C08_part_ne_final f) (writeReaderOps_eq f chunks) (decide_eq_false (C08_part_ne_final f))

/-- **C08_atomic_append.** Crash at any point of `AppendReader` (resumed append): the final path is
unchanged, or — only when the call delivered exactly `appendSize` bytes — holds the previously staged
bytes followed by all appended bytes. If the byte count differs the final path is never touched. -/
theorem C08_atomic_append (fs0 : FS) (f p0 : Bytes) (chunks : List Bytes) (asz : Int)
    (hpart : fs0 (partPath f) = some p0) :
    ∀ st ∈ crashStates fs0 (appendReaderOps f chunks asz),
      st f = fs0 f ∨ ((totalLen chunks : Int) = asz ∧ st f = some (p0 ++ chunks.flatten)) := by
  have hA := staging_spares (C08_part_ne_final f) (pre := [Op.openAppend (partPath f)]) (chunks := chunks)
    (List.forall_mem_singleton.mpr rfl)
  intro st hst
  rw [appendReaderOps_eq] at hst
  by_cases hsz : (totalLen chunks : Int) = asz
  · rw [if_pos hsz] at hst
    refine (staged_atomic hA (List.forall_mem_singleton.mpr rfl) st hst).imp_right fun h => ⟨hsz, h.trans ?_⟩
    simp only [List.cons_append, List.nil_append, List.append_assoc]
    rw [run_cons_of_step (fs' := fs0) (by simp [step, hpart]), run_writes _ chunks _ _ p0 hpart]
    simp [run, step, FS.set]
  · rw [if_neg hsz, List.append_nil] at hst
    obtain ⟨k, rfl⟩ := mem_crashStates.mp hst
    exact Or.inl (run_untouched (fun o ho => hA o (List.mem_of_mem_take ho)))

/-- non-vacuity of the atomicity theorems: a previous file, a stale `.part`, three write pieces -/
example :
    let f : Bytes := [47, 114, 47, 102]
    let fs0 : FS := (FS.empty.set f [1, 2, 3]).set (partPath f) [9]
    (crashStates fs0 (writeReaderOps f [[7], [8, 8], [9]])).map (fun st => (st f, st (partPath f))) =
      [(some [1,2,3], some [9]), (some [1,2,3], some [9]), (some [1,2,3], some []), (some [1,2,3], some [7]),
       (some [1,2,3], some [7,8,8]), (some [1,2,3], some [7,8,8,9]), (some [1,2,3], some [7,8,8,9]),
       (some [7,8,8,9], none)] ∧
    (crashStates fs0 (appendReaderOps f [[7], [8]] 2)).map (fun st => (st f, st (partPath f))) =
      [(some [1,2,3], some [9]), (some [1,2,3], some [9]), (some [1,2,3], some [9,7]), (some [1,2,3], some [9,7,8]),
       (some [1,2,3], some [9,7,8]), (some [9,7,8], none), (some [9,7,8], none)] := by
  decide +kernel

/-- **C08_staging_ops_spare_final.** Every operation of the three procedures except the last
`rename` leaves the final path alone: the partial content only ever lives under the temp / `.part`
name. (`dropLast` of the append sequence with promotion drops the deferred `close`; the `rename`
is then the last element.) -/
theorem C08_staging_ops_spare_final (f t : Bytes) (chunks : List Bytes) (htf : t ≠ f) :
    (∀ o ∈ (writeOps f t chunks).dropLast, o.touches f = false) ∧
    (∀ o ∈ (writeReaderOps f chunks).dropLast, o.touches f = false) := by
  rw [writeOps_eq, writeReaderOps_eq, List.dropLast_concat, List.dropLast_concat]
  have hp := C08_part_ne_final f
  exact ⟨staging_spares htf (spares_pair rfl (decide_eq_false htf)),
    staging_spares hp (spares_pair rfl (decide_eq_false hp))⟩

theorem writeRetryOps_eq (f t : Bytes) (chunks : List Bytes) :
    writeRetryOps f t chunks = Op.mkdirAll [] :: writeOps f t chunks := by
  rw [writeOps_eq]
  simp [writeRetryOps, proc, Arc.Generated.C08.writeSuccess, Arc.Generated.C08.writeOnError, inst,
    Params.path]

theorem writeReaderRetryOps_eq (f : Bytes) (chunks : List Bytes) :
    writeReaderRetryOps f chunks = Op.mkdirAll [] :: writeReaderOps f chunks := by
  rw [writeReaderOps_eq]
  simp [writeReaderRetryOps, proc, Arc.Generated.C08.writeReaderSuccess,
    Arc.Generated.C08.writeReaderOnError, inst, Params.path]

/-- **C08_atomic_write_retry.** The retry branch of `Write` (partition directory cached but deleted
behind the backend's back: failed `CreateTemp`, then — regenerated error-block steps — mkdir and a new
`CreateTemp`, then write/close/rename) is atomic as well: it still creates the final name only by
`rename`. -/
theorem C08_atomic_write_retry (fs0 : FS) (f t : Bytes) (chunks : List Bytes) (htf : t ≠ f)
    (hfresh : fs0 t = none) :
    ∀ st ∈ crashStates fs0 (writeRetryOps f t chunks), st f = fs0 f ∨ st f = some chunks.flatten := by
  intro st hst
  rw [writeRetryOps_eq] at hst
  exact C08_atomic_write fs0 f t chunks htf hfresh st (crashStates_mkdir_cons hst)

/-- **C08_atomic_write_reader_retry.** Same for the retry branch of `WriteReader`. -/
theorem C08_atomic_write_reader_retry (fs0 : FS) (f : Bytes) (chunks : List Bytes) :
    ∀ st ∈ crashStates fs0 (writeReaderRetryOps f chunks), st f = fs0 f ∨ st f = some chunks.flatten := by
  intro st hst
  rw [writeReaderRetryOps_eq] at hst
  exact C08_atomic_write_reader fs0 f chunks st (crashStates_mkdir_cons hst)

open Arc.Generated.C08 in
/-- all skeleton steps found inside error-handling blocks and `defer`s of the three procedures -/
def errorSteps : List Step :=
  writeOnError ++ writeDeferred ++ writeReaderOnError ++ writeReaderDeferred ++ appendOnError ++ appendDeferred

/-- **C08_error_paths_spare_final.** (regenerated fact, by evaluation) No call in an error block or
a `defer` of `Write`/`WriteReader`/`AppendReader` names the final path: cleanup only removes the
temp file, retries only re-create the staging file. -/
theorem C08_error_paths_spare_final :
    ∀ s ∈ errorSteps, s.a ≠ .final ∧ s.b ≠ .final ∧ s.call ≠ .rename := by decide +kernel

theorem inst_spares_final (w : Params) (s : Arc.Generated.C08.Step)
    (hs : s.a ≠ .final ∧ s.b ≠ .final ∧ s.call ≠ .rename)
    (h1 : w.staging ≠ w.final) (h2 : w.dir ≠ w.final) (h3 : w.final ≠ []) :
    ∀ o ∈ inst w s, o.touches w.final = false := by
  obtain ⟨ha, -, hc⟩ := hs
  have hpa : w.path s.a ≠ w.final := by
    cases hsa : s.a with
    | dir => exact h2
    | staging => exact h1
    | final => exact absurd hsa ha
    | none => exact h3.symm
  unfold inst
  cases hcall : s.call with
  | ensureDir | openAppend | sync | close => exact List.forall_mem_singleton.mpr rfl
  | createTemp => exact List.forall_mem_singleton.mpr (decide_eq_false h1)
  | openTrunc | remove => exact List.forall_mem_singleton.mpr (decide_eq_false hpa)
  | write =>
    intro o ho
    obtain ⟨ch, _, rfl⟩ := List.mem_map.mp ho
    exact decide_eq_false hpa
  | rename => exact absurd hcall hc

/-- **C08_error_cleanup_inert.** Whatever subsequence of error-path / deferred calls runs — from
whatever state a failure or a crash prefix left — the final path is not modified. -/
theorem C08_error_cleanup_inert (w : Params) (steps : List Arc.Generated.C08.Step)
    (hsub : ∀ s ∈ steps, s ∈ errorSteps)
    (h1 : w.staging ≠ w.final) (h2 : w.dir ≠ w.final) (h3 : w.final ≠ []) (fs : FS) :
    run fs (proc steps w) w.final = fs w.final := by
  apply run_untouched
  intro o ho
  unfold proc at ho
  simp only [List.mem_flatMap] at ho
  obtain ⟨s, hs, ho⟩ := ho
  exact inst_spares_final w s (C08_error_paths_spare_final s (hsub s hs)) h1 h2 h3 o ho

open Arc.Generated.C08 in
/-- **C08_order_tied.** The success-path call order (and path roles) the theorems above were proved
for is the one extracted from the current source. -/
theorem C08_order_tied :
    writeSuccess = [⟨.ensureDir, .dir, .none⟩, ⟨.createTemp, .dir, .none⟩, ⟨.write, .staging, .none⟩,
      ⟨.close, .staging, .none⟩, ⟨.rename, .staging, .final⟩] ∧
    writeReaderSuccess = [⟨.ensureDir, .dir, .none⟩, ⟨.openTrunc, .staging, .none⟩, ⟨.write, .staging, .none⟩,
      ⟨.close, .staging, .none⟩, ⟨.rename, .staging, .final⟩] ∧
    appendSuccess = [⟨.openAppend, .staging, .none⟩, ⟨.write, .staging, .none⟩] ∧
    appendPromote = [⟨.close, .staging, .none⟩, ⟨.rename, .staging, .final⟩] ∧
    appendDeferred = [⟨.close, .staging, .none⟩] := ⟨rfl, rfl, rfl, rfl, rfl⟩

/-- **C08_validate_chain_tied.** `validatePath` is still sanitize → Join(base,·) → Abs → Rel(base,·) →
reject on a `..` prefix → return the absolute path; `sanitizePath` still has its three statements in
the modelled order. -/
theorem C08_validate_chain_tied :
    Arc.Generated.C08.validateChain =
      ["sanitizePath(path)", "filepath.Join(b.basePath,sanitized)", "filepath.Abs(fullPath)",
       "filepath.Rel(b.basePath,absPath)", "strings.HasPrefix(relPath,\"..\")", "return absPath"] ∧
    Arc.Generated.C08.sanitizeSteps = [.trimLeadingSlash, .replaceDotDot, .removeNul] := ⟨rfl, rfl⟩

/-! ## the staging file is inside the root too (FIXED finding, commit 0cc3d06)

Before the fix the three write procedures obtained their final path from `validatePath`, which
accepts keys resolving to the root itself (`""`, `"/"`, `"."`, `"a/.\0."` …, `p = base`); the staging
name `partPath p = base ++ ".part"` (and `Write`'s temp file in `Dir(base)`) is then a *sibling* of
the root. `C08_root_key_witness` records that fact about `validatePath` (still true: reads, lists and
deletes legitimately address the root) and that `validateFilePath` now refuses the key. -/

/-- **C08_root_key_witness.** `validatePath` accepts the empty key as the root; its staging name
`/data/arc.part` would be neither the root nor below it; `validateFilePath` rejects the key. -/
theorem C08_root_key_witness :
    validatePath wBase [] = .ok wBase ∧
    partPath wBase = [47, 100, 97, 116, 97, 47, 97, 114, 99, 46, 112, 97, 114, 116] ∧
    partPath wBase ≠ wBase ∧ (wBase ++ [47]).isPrefixOf (partPath wBase) = false ∧
    validateFilePath wBase [] = .rootKey := by decide +kernel

/-- **C08_root_guard_tied.** (regenerated facts) `Write`, `WriteReader`, `AppendReader` all obtain
their final path from `validateFilePath`, which is `validatePath` followed by the rejection of
`fullPath == b.basePath`. -/
theorem C08_root_guard_tied :
    Arc.Generated.C08.writersRejectRootKey = true ∧
    Arc.Generated.C08.writeValidators = ["validateFilePath", "validateFilePath", "validateFilePath"] ∧
    Arc.Generated.C08.validateFileChain =
      ["fullPath,err:=b.validatePath(path)", "if err != nil return \"\",err",
       "if fullPath == b.basePath return \"\",error", "return fullPath,nil"] := ⟨rfl, rfl, rfl⟩

theorem validateFilePath_ok {base key p : Bytes} (h : validateFilePath base key = .ok p) :
    validatePath base key = .ok p ∧ p ≠ base := by
  unfold validateFilePath at h
  cases hv : validatePath base key with
  | ok q =>
    rw [hv] at h
    obtain ⟨hq, h⟩ := of_ite_eq h nofun
    cases h
    exact ⟨rfl, fun e => hq (by simp [e, Arc.Generated.C08.writersRejectRootKey])⟩
  | needsCwd | relFailed | escapes | rootKey => rw [hv] at h; cases h

/-- **C08_file_key_below_root.** Every key the write procedures accept resolves *strictly* below the
root: `/b₁/…/bₙ/e₁/…/eₖ` with k ≥ 1 real elements (so `Dir(p)`, where `Write` creates its temp file,
is the root or below it). -/
theorem C08_file_key_below_root (base key p : Bytes) (bs : List Bytes) (hb : CleanAbs base bs)
    (h : validateFilePath base key = .ok p) :
    ∃ extra, extra ≠ [] ∧ p = renderAbs (bs ++ extra) ∧ ∀ s ∈ extra, GoodSeg s := by
  obtain ⟨hv, hne⟩ := validateFilePath_ok h
  obtain ⟨extra, hp, hg⟩ := C08_confined base key p bs hb hv
  exact ⟨extra, fun e => hne (by rw [hp, e, List.append_nil, hb.1]), hp, hg⟩

/-- a file name stays a real path element when a separator-free suffix longer than `..` is appended -/
theorem goodSeg_append {s suf : Bytes} (hs : (47 : UInt8) ∉ s) (hsuf : (47 : UInt8) ∉ suf)
    (hlen : 2 < suf.length) : GoodSeg (s ++ suf) := by
  have hne (t : Bytes) (ht : t.length ≤ 2) : s ++ suf ≠ t := fun e => by
    have := congrArg List.length e
    rw [List.length_append] at this
    omega
  exact ⟨hne _ (Nat.zero_le 2), hne _ (Nat.le_succ 1), hne _ (Nat.le_refl 2),
    fun h => (List.mem_append.mp h).elim hs hsuf⟩

/-- **C08_staging_confined.** (full statement, no carve-out) For every key `Write`/`WriteReader`/
`AppendReader` accept, the `.part` staging file is strictly inside the root as well. -/
theorem C08_staging_confined (base key p : Bytes) (bs : List Bytes) (hb : CleanAbs base bs)
    (h : validateFilePath base key = .ok p) :
    ∃ extra, extra ≠ [] ∧ partPath p = renderAbs (bs ++ extra) ∧ ∀ s ∈ extra, GoodSeg s := by
  obtain ⟨extra, hex, rfl, hg⟩ := C08_file_key_below_root base key p bs hb h
  -- the suffix goes onto the last element, the final file name
  obtain ⟨init, last, rfl⟩ : ∃ init last, extra = init ++ [last] :=
    ⟨extra.dropLast, extra.getLast hex, (List.dropLast_concat_getLast hex).symm⟩
  refine ⟨init ++ [last ++ Arc.Generated.C08.partSuffix], by simp, ?_, ?_⟩
  · unfold partPath renderAbs
    rw [← List.append_assoc, List.cons_append, joinSlash_snoc_append, List.append_assoc]
  · exact forall_mem_snoc (fun s hs => hg s (List.mem_append_left _ hs))
      (goodSeg_append (hg last (by simp)).2.2.2 (by decide) (by decide))

example : validateFilePath wBase [100, 47, 102] = .ok (wBase ++ [47, 100, 47, 102]) := by decide +kernel

end Arc.C08
