import Arc.Model.C17
import Arc.Generated.C17
import Arc.Proofs.C17.Time
import Arc.Proofs.C17.Like
import Arc.Proofs.C17.Url
import Arc.Proofs.C17.Floor
import Arc.Proofs.C17.UrlGuard
/-!
# C17 — performance rewrites do not change query results

FULL STATEMENT (property text): for every row, arc's rewrites of `date_trunc`, `time_bucket`, the
URL-domain regex and the LIKE/`<> ''` predicate order give the same value / filter decision as DuckDB on
the original expression.  Status per clause on /repo 075e59e:

    3-argument time_bucket (whole-second origin; others are not rewritten)   PROVED  C17_time_bucket3_full
    LIKE / `<> ''` reordering                                                PROVED  C17_like_optimize_full
    URL-domain REGEXP_REPLACE / REGEXP_EXTRACT (the two exact patterns)       PROVED  C17_url_replace_full, C17_url_extract_full
    date_trunc (second..week) and 2-argument time_bucket                     FALSE   (existing tests pin the
        epoch template): ∀ u t, rewrite2 semX G.dtExpr u.secs t = dateTrunc u t  and
        ∀ s t, 0 < s → rewrite2 semX G.tb2Expr s t = timeBucket (s·10⁶) defaultOriginUs t  do not hold.

For the false clause: the EXACT characterisation of the inputs on which rewrite = original (`*_exact`, an
`↔` for all timestamps / widths), full-strength equality under explicit decidable carve-outs (`*_partial`),
a "never equal" theorem for `week` (for widths that do not divide the default-origin offset the `↔` of
`C17_time_bucket2_exact` says the same) and witnesses reproduced by the harness (10 known-finding keys).  Theorems named `*_prefix_*` are HISTORY: they are about the
templates/CASE that were in the source before the fix commits and document the fixed findings.

DuckDB's function semantics (Model/C17.lean header) are ASSUMPTIONS validated by the harness against the
real DuckDB; theorems are over the exact arithmetic `semX`, which coincides with DuckDB's binary64
arithmetic `semF` for |t| ≤ 2⁵³ µs (validated on every generated timestamp; `C17_far_future_witness`
shows they part beyond — `to_timestamp(seconds)` multiplies in binary64 in every template).
`G` = `Arc.Generated.C17`, regenerated from the source on every run.
-/
namespace Arc.C17
open Arc.Generated.C17

/-! ## tie to the current source (regenerated facts) -/

/-- the `fmt.Sprintf` templates of `rewriteTimeBucket` / `rewriteDateTrunc`, parsed by factgen, are the
epoch-arithmetic expressions the theorems below are about. -/
theorem C17_generated_templates : tb2Expr = tmpl2 ∧ tb3Expr = tmpl3Floor ∧ dtExpr = tmpl2 := ⟨rfl, rfl, rfl⟩

/-- `intervalToSeconds` maps every unit to the number of seconds DuckDB's fixed-length interval has
(0 = leave to DuckDB: month), every unit the `date_trunc` regex accepts is one of them, and the amount is
parsed in base 10 (as DuckDB reads interval literals: `'010 minutes'` is ten minutes), which is what the
model's `intervalToSeconds` (a `Nat` amount read from the decimal digits) assumes. -/
theorem C17_generated_units :
    (∀ u : TUnit, lookupUnit unitTable u.name = u.secs) ∧
    dtUnits.all (fun u => (TUnit.ofString? u).isSome) = true ∧
    amountParseBase = 10 := by
  refine ⟨fun u => ?_, by decide +kernel, rfl⟩
  cases u <;> decide +kernel

/-- `buildURLDomainCASEExact`: the four scheme/`www.` prefixes, longest first, `substr` starting right
after the prefix, the WHEN format with its `LIKE '<p>_%'` / `'<p>_%/%'` tails, the first-character and
newline guards, and the two exact regexes for which the rewrite fires — as the model (`armOk`,
`caseGuarded`, `regexReplace`, `regexExtract`) assumes. -/
theorem C17_generated_case_arms :
    caseArmsTbl = expectedArms ∧
    caseWhenFmt = "WHEN %s LIKE '%s%s' AND substr(%s, %d, 1) <> '/'%s THEN split_part(substr(%s, %d), '/', 1) " ∧
    caseLikeTail = "_%" ∧ caseLikeTailSlash = "_%/%" ∧ caseGuardFmt = " AND position(chr(10) in %s) = 0" ∧
    urlCanonicalPatterns = ["^https?://(?:www\\.)?([^/]+)/.*$", "^https?://(?:www\\.)?([^/]+)"] :=
  ⟨rfl, rfl, rfl, rfl, rfl, rfl⟩

/-- capture-group permutations of the two LIKE reorderings (`${1}${4}${3}${2}` and
`parts[1]+parts[4]+parts[3]+parts[2]+parts[5]`): the empty check (group 4) is moved in front of the text
of group 2, which is what `reorder1` / `reorder2` model; pattern 2 is guarded by the `OR`-keyword regex
(`if patternOrKeyword.MatchString(parts[2]) { return match }`, presence checked by factgen). -/
theorem C17_generated_like_orders :
    likeOrder1 = [1, 4, 3, 2] ∧ likeOrder2 = [1, 4, 3, 2, 5] ∧ likeOrGuard = "(?i)\\bOR\\b" := ⟨rfl, rfl, rfl⟩

/-! ## A. date_trunc / time_bucket -/

/-- FULL (since /repo ee4a0eb; origins with a sub-second part are not rewritten since c931596): the
3-argument `time_bucket` rewrite with a whole-second origin `o` equals DuckDB's `time_bucket` for every
timestamp — sub-second, before the origin, pre-1970 — and every positive width. -/
theorem C17_time_bucket3_full (o s t : Int) (hs : 0 < s) :
    rewrite3 semX tb3Expr o s t = timeBucket (s * usPerSec) (o * usPerSec) t := by
  rw [C17_generated_templates.2.1]; exact rewrite3_floor o s t hs

/-- the rows of the old witnesses are now bucketed like DuckDB does. -/
example : rewrite3 semX tb3Expr 1704067200 86400 1704063600000000 = 1703980800000000 := by decide +kernel
example : rewrite3 semX tb3Expr 1704069000 1 1700000000500001 = 1700000000000000 := by decide +kernel

/-- HISTORY (template before /repo ee4a0eb, `tmpl3`; findings `time_bucket:before-origin-truncates-toward-zero`,
now fixed). EXACT: 3-argument `time_bucket` with a whole-second origin `o`: the OLD rewrite equals DuckDB iff
truncating division of the rounded second count agrees with flooring division of the exact one, i.e.
(at/after the origin and not rounded up onto a bucket edge) or (before the origin, not rounded up, and
exactly on a bucket edge). -/
theorem C17_time_bucket3_prefix_exact (o s t : Int) (hs : 0 < s) :
    rewrite3 semX tmpl3 o s t = timeBucket (s * usPerSec) (o * usPerSec) t ↔
      Exact (secOf t - o) (upOf t) s :=
  tb3_iff o s t hs

example : Exact (secOf 1700000000400000 - 1704067200) (upOf 1700000000400000) 60 ↔ False := by decide +kernel
example : Exact (secOf 1710000000400000 - 1704067200) (upOf 1710000000400000) 60 := by decide +kernel

/-- HISTORY (before /repo c931596, which leaves such calls to DuckDB; finding
`time_bucket:origin-subsecond-truncated`, now fixed). NEVER: an origin with a sub-second part `r` was truncated by `originTime.Unix()`; the rewrite is
then a whole second, DuckDB's bucket is not. -/
theorem C17_time_bucket3_prefix_subsecond_origin_never (o r s t : Int) (hr : 0 < r ∧ r < usPerSec) :
    rewrite3 semX tmpl3 o s t ≠ timeBucket (s * usPerSec) (o * usPerSec + r) t := by
  rw [rewrite3_tmpl3, timeBucket, ← Int.mul_assoc]
  intro h
  have := congrArg (· % usPerSec) h
  simp only [Int.mul_emod_left, Int.add_mul_emod_self_right, Int.add_comm (o * usPerSec) r,
    Int.emod_eq_of_lt (Int.le_of_lt hr.1) hr.2] at this
  omega

example : (0 : Int) < 500000 ∧ (500000 : Int) < usPerSec := by decide +kernel

/-- EXACT: 2-argument `time_bucket`: DuckDB buckets from 2000-01-03, the rewrite from 1970-01-01; they
agree iff the width divides the offset 946857600 s AND the 3-argument condition holds with o = 0. -/
theorem C17_time_bucket2_exact (s t : Int) (hs : 0 < s) :
    rewrite2 semX tb2Expr s t = timeBucket (s * usPerSec) defaultOriginUs t ↔
      (defaultOriginSec % s = 0 ∧ Exact (secOf t) (upOf t) s) := by
  rw [C17_generated_templates.1]
  have hW : 0 < s * usPerSec := Int.mul_pos hs (by decide)
  by_cases hd : defaultOriginSec % s = 0
  · obtain ⟨k, hk⟩ := Int.dvd_of_emod_eq_zero hd
    have : defaultOriginUs = s * usPerSec * k := by rw [defaultOriginUs, hk, Int.mul_right_comm]
    rw [this, timeBucket_shift _ _ _ (Int.ne_of_gt hW), tb2_iff s t hs, and_iff_right hd]
  · refine iff_of_false (fun h => hd ?_) fun h => hd h.1
    -- modulo the width the rewrite is 0 and DuckDB's bucket is the default origin
    have h1 : (Int.tdiv (secOf t + upOf t) s * s * usPerSec) % (s * usPerSec) = 0 := by
      rw [Int.mul_assoc]; exact Int.mul_emod_left _ _
    rw [← rewrite2_tmpl2, h, timeBucket, Int.add_mul_emod_self_right, defaultOriginUs,
      Int.mul_comm defaultOriginSec, Int.mul_comm s, Int.mul_emod_mul_of_pos _ _ (by decide)] at h1
    exact (Int.mul_eq_zero.1 h1).resolve_left (by decide)

example : defaultOriginSec % 3600 = 0 ∧ Exact (secOf 1700000000400000) (upOf 1700000000400000) 3600 := by decide +kernel

/-- EXACT: `date_trunc` for second/minute/hour/day. -/
theorem C17_date_trunc_exact (u : TUnit) (hu : u = .second ∨ u = .minute ∨ u = .hour ∨ u = .day) (t : Int) :
    rewrite2 semX dtExpr u.secs t = dateTrunc u t ↔ Exact (secOf t) (upOf t) u.secs := by
  rw [C17_generated_templates.2.2]
  rcases hu with rfl | rfl | rfl | rfl <;> exact tb2_iff _ t (by decide)

example : Exact (secOf 1700000001400000) (upOf 1700000001400000) TUnit.hour.secs := by decide +kernel

/-- NEVER: `date_trunc('week', ·)` is Monday-based, multiples of 604800 s since the epoch are Thursdays. -/
theorem C17_date_trunc_week_never (t : Int) : rewrite2 semX dtExpr 604800 t ≠ dateTrunc .week t := by
  rw [C17_generated_templates.2.2, rewrite2_tmpl2]
  unfold dateTrunc timeBucket mondayUs usPerSec
  generalize Int.tdiv (secOf t + upOf t) 604800 = x
  simp only
  omega

/-- PARTIAL (carve-out: width divides the default-origin offset, t ≥ 0, sub-second part below one half):
full-strength equality of the 2-argument rewrite. -/
theorem C17_time_bucket2_partial (s t : Int) (hs : 0 < s) (hdiv : defaultOriginSec % s = 0)
    (hge : 0 ≤ t) (hfrac : fracOf t < 500000) :
    rewrite2 semX tb2Expr s t = timeBucket (s * usPerSec) defaultOriginUs t :=
  (C17_time_bucket2_exact s t hs).2 ⟨hdiv, exact_of_nonneg s hge hfrac⟩

example : defaultOriginSec % 900 = 0 ∧ (0 : Int) ≤ 1700000000400000 ∧ fracOf 1700000000400000 < 500000 := by decide +kernel

/-- PARTIAL (carve-out: t ≥ 0, sub-second part below one half): full-strength equality of the `date_trunc`
rewrite for second/minute/hour/day. -/
theorem C17_date_trunc_partial (u : TUnit) (hu : u = .second ∨ u = .minute ∨ u = .hour ∨ u = .day) (t : Int)
    (hge : 0 ≤ t) (hfrac : fracOf t < 500000) :
    rewrite2 semX dtExpr u.secs t = dateTrunc u t :=
  (C17_date_trunc_exact u hu t).2 (exact_of_nonneg _ hge hfrac)

example : (0 : Int) ≤ 1700000000400000 ∧ fracOf 1700000000400000 < 500000 := by decide +kernel

/-! ### witnesses (each reproduced by the harness on the real code + DuckDB) -/

/-- 1970-01-01 12:59:59.7: `date_trunc('hour')` = 12:00, rewrite = 13:00. -/
theorem C17_date_trunc_subsecond_witness :
    rewrite2 semX dtExpr 3600 46799700000 = 46800000000 ∧ dateTrunc .hour 46799700000 = 43200000000 := by
  decide +kernel

/-- 1969-12-31 23:59:59.999999: `date_trunc('hour')` = 23:00, rewrite = 1970-01-01 00:00. -/
theorem C17_date_trunc_pre1970_witness :
    rewrite2 semX dtExpr 3600 (-1) = 0 ∧ dateTrunc .hour (-1) = -3600000000 := by decide +kernel

/-- 2024-01-03 (a Wednesday): `date_trunc('week')` = Mon 2024-01-01, rewrite = Thu 2023-12-28. -/
theorem C17_date_trunc_week_witness :
    rewrite2 semX dtExpr 604800 1704240000000000 = 1703721600000000 ∧
    dateTrunc .week 1704240000000000 = 1704067200000000 := by decide +kernel

/-- `time_bucket('7 hours', 2024-01-03 05:00)`: DuckDB 01:00, rewrite 03:00. -/
theorem C17_time_bucket_default_origin_witness :
    rewrite2 semX tb2Expr 25200 1704258000000000 = 1704250800000000 ∧
    timeBucket (25200 * usPerSec) defaultOriginUs 1704258000000000 = 1704243600000000 := by decide +kernel

/-- HISTORY (pre-ee4a0eb template): origin 2024-01-01, 1-day buckets, a row one hour before the origin:
DuckDB 2023-12-31, old rewrite 2024-01-01. -/
theorem C17_time_bucket_before_origin_prefix_witness :
    rewrite3 semX tmpl3 1704067200 86400 1704063600000000 = 1704067200000000 ∧
    timeBucket (86400 * usPerSec) (1704067200 * usPerSec) 1704063600000000 = 1703980800000000 := by decide +kernel

/-- year 128 723: DuckDB's double arithmetic (`semF`) moves even a whole-second timestamp by 64 µs. -/
theorem C17_far_future_witness :
    rewrite2 semF dtExpr 1 4000000000001000000 = 4000000000000999936 ∧
    dateTrunc .second 4000000000001000000 = 4000000000001000000 ∧
    rewrite2 semX dtExpr 1 4000000000001000000 = 4000000000001000000 := by decide +kernel

/-! ## B. LIKE / `<> ''` reordering -/

/-- FULL: pattern 1 (`WHERE <like> AND <col <> ''>` → swapped) preserves the three-valued value of the
WHERE clause on every row, whatever follows. -/
theorem C17_like_reorder1_full (v : Atom → B3) (w : Where) : evalW v (reorder1 w) = evalW v w :=
  reorder1_eval v w

example : reorder1 [[.atom (.like 0 0), .atom (.nonEmpty 1), .atom (.eq 2 0)], [.atom (.eq 0 0)]]
    = [[.atom (.nonEmpty 1), .atom (.like 0 0), .atom (.eq 2 0)], [.atom (.eq 0 0)]] := by decide +kernel

/-- FULL (since /repo e4d9758, which added the `\bOR\b` guard): `OptimizeLikePatterns` preserves the
three-valued value of the WHERE clause — hence the filter decision — on every row, for every clause
mixing AND/OR/NOT/parentheses and every valuation of the atoms. -/
theorem C17_like_optimize_full (endOk : Bool) (v : Atom → B3) (w : Where) :
    evalW v (optimize endOk w) = evalW v w :=
  optimize_eval endOk v w

/-- non-vacuity: the ClickBench Q23 shape is reordered … -/
example : optimize true [[.atom (.like 0 0), .atom (.notLike 1 1), .atom (.nonEmpty 2)]]
    = [[.atom (.nonEmpty 2), .atom (.like 0 0), .atom (.notLike 1 1)]] := by decide +kernel
/-- … and a clause with a top-level OR is now left alone. -/
example : optimize true [[.atom (.like 0 0)], [.atom (.eq 1 0), .atom (.nonEmpty 2)]]
    = [[.atom (.like 0 0)], [.atom (.eq 1 0), .atom (.nonEmpty 2)]] := by decide +kernel

def witnessV : Atom → B3
  | .like _ _ => some true
  | _ => some false

/-- HISTORY (pre-fix model `optimizePreFix`, the code before e4d9758; finding
`like-reorder:empty-check-moved-across-top-level-OR`, now fixed):
`WHERE c0 LIKE '%google%' OR c1 = 'abc' AND c2 <> ''` was rewritten to
`WHERE c2 <> '' AND c0 LIKE '%google%' OR c1 = 'abc'`; a row with c0 matching, c1 ≠ 'abc', c2 = '' was
selected by the original and dropped by the rewrite. -/
theorem C17_like_prefix_witness :
    optimizePreFix true [[.atom (.like 0 0)], [.atom (.eq 1 0), .atom (.nonEmpty 2)]]
      = [[.atom (.nonEmpty 2), .atom (.like 0 0)], [.atom (.eq 1 0)]] ∧
    evalW witnessV [[.atom (.like 0 0)], [.atom (.eq 1 0), .atom (.nonEmpty 2)]] = some true ∧
    evalW witnessV (optimizePreFix true [[.atom (.like 0 0)], [.atom (.eq 1 0), .atom (.nonEmpty 2)]]) = some false := by
  decide +kernel

/-! ## C. URL-domain regex → CASE/split_part -/

/-- FULL (since /repo c3f571e + 075e59e): for every byte string, the guarded CASE expression that replaces
`REGEXP_REPLACE(s, '^https?://(?:www\.)?([^/]+)/.*$', '\1')` has the value of that call (a WHEN arm
fires only where the string functions agree with the regex; every other row evaluates the call). -/
theorem C17_url_replace_full (s : Bytes) :
    caseGuarded true regexReplace caseArmsTbl s = regexReplace s := by
  rw [C17_generated_case_arms.1]; exact replace_guarded s

/-- FULL: the same for `REGEXP_EXTRACT(s, '^https?://(?:www\.)?([^/]+)', 1)`. -/
theorem C17_url_extract_full (s : Bytes) :
    caseGuarded false regexExtract caseArmsTbl s = regexExtract s := by
  rw [C17_generated_case_arms.1]; exact extract_guarded s

/-- non-vacuity: on "https://www.a.com/x" the first WHEN arm fires (the fast path is really taken) … -/
example : armOk true ((bHttps ++ bWww ++ [97, 46, 99, 111, 109, 47, 120]).drop 12)
    (bHttps ++ bWww ++ [97, 46, 99, 111, 109, 47, 120]) = true ∧
    caseGuarded true (fun _ => []) caseArmsTbl (bHttps ++ bWww ++ [97, 46, 99, 111, 109, 47, 120])
      = [97, 46, 99, 111, 109] := by decide +kernel
/-- … and on "http://a.b" (no path) no arm fires. -/
example : caseGuarded true (fun _ => [1]) caseArmsTbl (bHttp ++ [97, 46, 98]) = [1] := by decide +kernel

/-! ### HISTORY: the unguarded CASE of `buildURLDomainCASE` (`caseExpr`), used until c3f571e
(findings `url-replace:*`, `url-extract:*`, now fixed) -/

/-- EXACT (old CASE): it equalled `REGEXP_REPLACE(…)` iff s has no scheme and no '/', or s has a scheme and
the (www-stripped) remainder is `host/…` with a non-empty host, a '/' after it and no newline in the path. -/
theorem C17_url_prefix_replace_exact (s : Bytes) : caseExpr s = regexReplace s ↔ ReplaceOk s :=
  replace_exact s

/-- EXACT (old CASE): it equalled `REGEXP_EXTRACT(…)` iff s has no scheme and starts with '/' or is empty,
or s has a scheme and is not `www.` followed by '/' or the end. -/
theorem C17_url_prefix_extract_exact (s : Bytes) : caseExpr s = regexExtract s ↔ ExtractOk s :=
  extract_exact s

/-- WITNESS (old CASE) "http://a.b" (no path): regexp_replace leaves the input, the CASE returned "a.b". -/
theorem C17_url_prefix_witness_nopath :
    regexReplace (bHttp ++ [97, 46, 98]) = bHttp ++ [97, 46, 98] ∧
    caseExpr (bHttp ++ [97, 46, 98]) = [97, 46, 98] := by decide +kernel

/-- WITNESS (old CASE) "a/b" (no scheme): regexp_replace leaves "a/b", regexp_extract gives "", the CASE gave "a". -/
theorem C17_url_prefix_witness_noscheme :
    regexReplace [97, 47, 98] = [97, 47, 98] ∧ regexExtract [97, 47, 98] = [] ∧
    caseExpr [97, 47, 98] = [97] := by decide +kernel

/-- WITNESS (old CASE) "https://www./x": both regexes backtrack to host "www.", the CASE gave "". -/
theorem C17_url_prefix_witness_www :
    regexReplace (bHttps ++ bWww ++ [47, 120]) = bWww ∧ regexExtract (bHttps ++ bWww ++ [47, 120]) = bWww ∧
    caseExpr (bHttps ++ bWww ++ [47, 120]) = [] := by decide +kernel

end Arc.C17
