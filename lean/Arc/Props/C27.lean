import Arc.Proofs.C27.Ledger
import Arc.Proofs.C27.Hub
import Arc.Proofs.C27.Retry
import Arc.Generated.C27
/-!
# C27 — edge sync delivers each file exactly once with verified content

Four independent parts. (1) Facts regenerated from the source, compared with what the model assumes. (2) The
ledger (`Proofs/C27/Ledger.lean`): every change of a row that an agent run logs, under every fault script and
crash point, is an edge of the table of the method that wrote it. (3) The hub object of one (spoke, path)
(`Proofs/C27/Hub.lean`) under ALL histories of receive calls, reconciles, compactions and sweeps: content,
exactly-once, soundness of acknowledgments. (4) The per-file retry loop (`Proofs/C27/Retry.lean`) ends once
faults stop.
The check audits every theorem of this file whose name starts with `C27_`; helper lemmas are named otherwise.
-/
namespace Arc.C27

/-! ## 1. regenerated facts -/

/-- **C27_table_tied.** The transition table the model's ledger operations implement is exactly the
one factgen read from the SQL literals (`SET state = …`, `WHERE … state IN (…)`) of the current
`ledger.go`. Editing a guard or a target state in the source breaks this `decide`. -/
theorem C27_table_tied : Arc.Generated.C27.ledgerTransitions = specTable := by decide +kernel

/-- the documented transition graph (ledger.go: comments of the `State*` constants and of each
`Mark*`/`Recover*`/`Requeue*`/`Revert*`/`Dismiss*` method). -/
def documentedEdges : List (String × String) :=
  [("pending", "in_flight"), ("pending", "synced"), ("in_flight", "synced"), ("exported", "synced"),
   ("pending", "exported"), ("exported", "pending"), ("pending", "failed"), ("in_flight", "failed"),
   ("in_flight", "pending"), ("failed", "pending"), ("skipped", "pending"), ("failed", "skipped"),
   ("pending", "skipped"), ("in_flight", "skipped")]

/-- **C27_transitions_table.** Over the table generated from the current source: every (source,
target) pair of every guarded UPDATE is a documented edge, no UPDATE can leave `synced`, and the only
method that can write `synced` is `MarkSynced`. -/
theorem C27_transitions_table :
    ∀ t ∈ Arc.Generated.C27.ledgerTransitions, ∀ a ∈ t.2.1, ∀ b ∈ t.2.2,
      (a, b) ∈ documentedEdges ∧ a ≠ "synced" ∧ (b = "synced" → t.1 = "MarkSynced") := by decide +kernel

/-- **C27_ack_sites.** In the current `agent.go`, `MarkSynced` is called at exactly two places: for
the paths the hub's reconcile answer lists as present, and in the `Done()` (committed /
already-present) arm of the transfer outcome. -/
theorem C27_ack_sites : Arc.Generated.C27.markSyncedSites =
    ["reconcileAndSend:range reconciled.Present", "sendOne:case res.Outcome.Done()"] := rfl

/-- **C27_receive_order.** `Receiver.Receive` still performs: receipt pre-check, existence check,
resolveExisting, stage, hash check, promote, register, record — in this order (verify before promote
before record), as the model's `receive` does. -/
theorem C27_receive_order : Arc.Generated.C27.receiveSkeleton =
    ["index.Lookup", "backend.Exists", "resolveExisting", "stage", "hash-check", "promote", "register",
     "recordReceived"] := rfl

/-- **C27_receipt_before_exists.** In the current `Receive` the compacted-receipt pre-check
(`index.Lookup`) comes BEFORE the storage-existence branch (`backend.Exists` → `resolveExisting`), as
in the model's `receive` (`compactedSha` is matched first). Otherwise a redelivery that arrives between
hub compaction's mark and its source deletion goes through `resolveExisting`, whose re-record clears
`compacted_at` — and the file is later accepted a second time. -/
theorem C27_receipt_before_exists :
    Arc.Generated.C27.receiveSkeleton.idxOf "index.Lookup" <
      Arc.Generated.C27.receiveSkeleton.idxOf "backend.Exists" ∧
    Arc.Generated.C27.receiveSkeleton.idxOf "backend.Exists" <
      Arc.Generated.C27.receiveSkeleton.idxOf "resolveExisting" := by decide +kernel

theorem C27_initial_state_tied : Arc.Generated.C27.initialState = St.pending.name := rfl

/-- **C27_recover_every_pass.** In the current `agent.go`, `Agent.Run` itself calls
`a.ledger.RecoverInFlight` — unconditionally, as a top-level statement, before any other call — so
EVERY pass (not only the first pass of an Agent/process) starts by reverting `in_flight` rows, exactly
as the model's `runAgent` starts with `recover`. This is what makes a row stranded in `in_flight` by a
pass whose context died (contact window / run timeout closing mid-transfer on a long-lived agent)
eligible again on the next pass; the model therefore does not distinguish a fresh Agent from a
reused one. A once-per-process recovery breaks this `decide`. -/
theorem C27_recover_every_pass :
    Arc.Generated.C27.runFirstCall = "a.ledger.RecoverInFlight" ∧
    (Arc.Generated.C27.runLedgerCalls.filter (fun c => c.2 = "RecoverInFlight")).length = 1 := by decide +kernel

/-- **C27_stale_from_candidates.** In `Reconciler.confirmPresent` every path appended to `stale` (the
receipts `ForgetBatch` then deletes) is drawn from `candidates` — the entries that HAVE a
non-compacted receipt and whose existence was checked — never from a differently indexed collection
such as `entries`. The model's `reconcile` forgets exactly the checked entry's own receipt
(`forgetStale` on that key). -/
theorem C27_stale_from_candidates :
    Arc.Generated.C27.staleRoots ≠ [] ∧ ∀ r ∈ Arc.Generated.C27.staleRoots, r = "candidates" := by decide +kernel

/-! ## 2. ledger transitions under every run -/

/-- the model-level edge relation agrees with the documented graph (names as in the source). -/
theorem C27_model_edges_documented :
    ∀ m ∈ Method.all, ∀ a ∈ m.src, ∀ b ∈ m.dst, (a.name, b.name) ∈ documentedEdges := by decide +kernel

/-- **C27_transitions.** For every spoke state whose log is clean, every hub state, every agent
configuration, every crash point and every per-call fault script: every entry the run appends to the
ledger's transition log is an edge of the (source-generated, `C27_table_tied`) table of the method
that wrote it — in particular a documented edge (`C27_model_edges_documented`), never out of
`synced`, and into `synced` only through `MarkSynced` (which the agent calls only on an
acknowledgment: `C27_ack_sites`). -/
theorem C27_transitions (H : Bytes → Bytes) (cfg : Cfg) (sid : String) (sp : Spoke) (hub : Hub)
    (crashAt : Option Nat) (faults : List Fault) (h : ∀ e ∈ sp.log, e.ok = true) :
    ∀ e ∈ (runAgent H cfg sid sp hub crashAt faults).sp.log, e.ok = true := by
  have h1 : LogInv (recover { sp := sp, hub := hub, crashIn := crashAt, faults := faults }) := recover_inv _ h
  have h2 := discover_inv H _ h1
  unfold runAgent; dsimp only
  split
  · exact h1
  · split
    · exact h2
    · exact pagesLoop_inv H cfg sid _ none _ h2

/-- what `LogE.ok` says, spelled out. -/
theorem C27_log_ok_meaning (e : LogE) (h : e.ok = true) :
    (e.old = none → e.new = .pending) ∧
    (∀ a, e.old = some a → a ≠ .synced ∧ ∃ m, e.via = some m ∧ a ∈ m.src ∧ e.new ∈ m.dst ∧
      (e.new = .synced → m = .markSynced)) := by
  unfold LogE.ok at h
  split at h
  · rename_i ho _
    exact ⟨fun _ => by simpa using h, fun a ha => by rw [ho] at ha; cases ha⟩
  · rename_i a m ho hv
    simp only [Bool.and_eq_true, decide_eq_true_eq, bne_iff_ne, ne_eq, Bool.or_eq_true, beq_iff_eq] at h
    obtain ⟨⟨⟨h1, h2⟩, h3⟩, h4⟩ := h
    refine ⟨fun hn => (by rw [ho] at hn; cases hn), fun a' ha' => ?_⟩
    rw [ho] at ha'; cases ha'
    exact ⟨h3, m, hv, h1, h2, fun hs => h4.resolve_left (not_not_intro hs)⟩
  · cases h

/-! ## 3. the hub object of one (spoke, path) under all histories -/

/-- **C27_hub_content.** HYPOTHESIS: the digest is collision free. For one (spoke, path) whose spoke
file is `orig` (paths are immutable; every request declares `H orig` — that is what discovery stores
in the ledger row), under EVERY history of receive calls with arbitrary offsets and bodies,
reconciles, hub compactions, staging sweeps and hub-side deletions, starting from the empty object:
whatever the hub exposes at the final path is byte-for-byte the spoke's file. (Foreign writers —
`plant` — are excluded: they are not the receiver.) -/
theorem C27_hub_content (H : Bytes → Bytes) (hcf : CollisionFree H) (orig : Bytes) (evs : List HEv)
    (hdecl : ∀ q, HEv.recv q ∈ evs → q.sha = H orig) (hnp : ∀ e ∈ evs, isPlant e = false) :
    ∀ b, (hrun H {} evs).final = some b → b = orig :=
  hrun_content hcf evs {} hdecl hnp nofun

/-- non-vacuity: a truncated upload, a corrupted resume, a clean resend — the hub ends with `orig`. -/
example :
    let orig : Bytes := [1, 2, 3, 4]
    let q (off : Nat) (body : Bytes) : Req := { sha := orig, size := 4, off := off, body := body, bodyErr := false, failRec := false }
    (hrun id {} [.recv (q 0 [1, 2]), .recv (q 2 [9, 4]), .recv (q 2 [3, 4]), .recv (q 0 [1, 2, 3, 4])]).final = some orig ∧
    (hrun id {} [.recv (q 0 [1, 2]), .recv (q 2 [9, 4])]).final = none := by decide +kernel

/-
FULL STATEMENT (false of the current code — see `C27_hub_once_witness`):
  theorem C27_hub_once_full (H) (evs) (hnd : no delete) (hnp : no plant) : (hrun H {} evs).promotes ≤ 1
-/

/-- **C27_hub_once_witness.** FINDING. The index write after promote fails (hub-side error; the
spoke gets an error and will retry), hub compaction consumes the — unreceipted — file
(`MarkCompacted` is an UPDATE and marks nothing), the spoke's retry is accepted and promoted again:
the same spoke file has been stored twice (its rows now live in the compacted output and in the raw
file) although nothing was ever genuinely removed. -/
theorem C27_hub_once_witness :
    let orig : Bytes := [1, 2, 3]
    let q (failRec : Bool) : Req := { sha := orig, size := 3, off := 0, body := orig, bodyErr := false, failRec := failRec }
    (hrun id {} [.recv (q true), .compact true, .recv (q false)]).promotes = 2 := by decide +kernel

/-- **C27_hub_once_partial.** Carve-out: no hub compaction consumes a promoted file that still lacks
its receipt (`noOrphanCompact`, decidable on the history). Then under EVERY history of receive calls
(any offsets/bodies, including failing index writes — so also redeliveries between a compaction job's
mark and its deferred source deletion), reconciles, compaction marks, source deletions (`wfJobs`) and
sweeps — without a genuine removal or a foreign writer — the receiver promotes the file of one (spoke, path) at most
once: a second upload is answered from the stored file or from the (compacted) receipt. -/
theorem C27_hub_once_partial (H : Bytes → Bytes) (evs : List HEv)
    (hc : noOrphanCompact H {} evs = true) (hw : wfJobs H {} false evs = true)
    (hnd : ∀ e ∈ evs, isDelete e = false)
    (hnp : ∀ e ∈ evs, isPlant e = false) : (hrun H {} evs).promotes ≤ 1 := by
  have := hrun_once evs (.fresh rfl rfl rfl) (by simp) hc hw hnd hnp
  cases this with
  | fresh h1 _ _ | once h1 _ => omega

/-- non-vacuity: commit, lost ack + resend, compaction, another resend — one promote. -/
example :
    let orig : Bytes := [1, 2, 3]
    let q : Req := { sha := orig, size := 3, off := 0, body := orig, bodyErr := false, failRec := false }
    let evs : List HEv := [.recv q, .recv q, .recon, .compact false, .recv q, .recon, .cdel, .recon, .recv q]
    noOrphanCompact id {} evs = true ∧ wfJobs id {} false evs = true ∧
      (hrun id {} evs).promotes = 1 ∧ (hrun id {} evs).final = none := by decide +kernel

/-- **C27_synced_sound.** HYPOTHESIS: collision-free digest. The only two events on which the agent
marks a row synced (`C27_ack_sites`, and `C27_transitions`: `synced` is entered only by `MarkSynced`
and never left) are a transfer answered committed/already-present and a reconcile answering present.
After ANY earlier history (any uploads, faults, compactions, sweeps, deletions), at either
acknowledgment the hub holds the spoke's file with identical content — or the compacted receipt for
it — and keeps holding it through EVERY later history of uploads (any offset/body), reconciles,
compactions (mark and deferred source deletion as separate events, `wfJobs`: a source deletion
belongs to a job that stamped the receipt; `m` = such a job is already in progress at the
acknowledgment) and sweeps; only a genuine hub-side removal or a foreign writer can end that. -/
theorem C27_synced_sound (H : Bytes → Bytes) (hcf : CollisionFree H) (orig : Bytes)
    (before after : List HEv)
    (hdecl : ∀ q, HEv.recv q ∈ before → q.sha = H orig) (hnp : ∀ e ∈ before, isPlant e = false)
    (hnd' : ∀ e ∈ after, isDelete e = false) (hnp' : ∀ e ∈ after, isPlant e = false) :
    (∀ q m, q.sha = H orig → isAck (receive H (hrun H {} before) q).2 = true →
      (m = true → (compactedSha (receive H (hrun H {} before) q).1).isSome = true) →
      wfJobs H (receive H (hrun H {} before) q).1 m after = true →
      Holds H orig (hrun H (receive H (hrun H {} before) q).1 after)) ∧
    (∀ m, classify (forgetStale (hrun H {} before)) (H orig) = .present →
      (m = true → (compactedSha (forgetStale (hrun H {} before))).isSome = true) →
      wfJobs H (forgetStale (hrun H {} before)) m after = true →
      Holds H orig (hrun H (forgetStale (hrun H {} before)) after)) := by
  constructor
  · intro q m hq hack hm hw
    exact hrun_holds after (ack_put_holds hcf hq hack) hm hw hnd' hnp'
  · intro m hp hm hw
    exact hrun_holds after (ack_recon_holds (hrun_content hcf before {} hdecl hnp nofun) hp) hm hw hnd' hnp'

/-- non-vacuity: lost ack, then reconcile says present; the file is compacted away; still held. -/
example :
    let orig : Bytes := [7, 8]
    let q : Req := { sha := orig, size := 2, off := 0, body := orig, bodyErr := false, failRec := false }
    classify (forgetStale (hrun id {} [.recv q])) orig = .present ∧
    wfJobs id (forgetStale (hrun id {} [.recv q])) false [.compact false, .recv q, .cdel, .recv q, .recon] = true ∧
    (hrun id (forgetStale (hrun id {} [.recv q])) [.compact false, .recv q, .cdel, .recv q, .recon]).idx = some (orig, true) := by
  decide +kernel

/-! ## 4. termination of the per-file retry loop -/

/-- **C27_terminates.** Whatever the hub answers (acknowledgment, conflict, any retryable failure
with or without a new checkpoint) and whether or not the source file still exists: a pending file
that is attempted in `maxAttempts` passes ends `synced`, `skipped` or `failed` — it cannot stay
pending, because every attempt increments `attempts` (MarkInFlight) and a failure at
`attempts ≥ maxAttempts` is terminal (MarkFailed's CASE), and the three end states are absorbing.
(That every pending row is attempted in every fault-free pass — paging, splitting — is what the
harness checks on the real code: monitor `not-terminated`.) -/
theorem C27_terminates (cfg : Cfg) (hmax : 1 ≤ cfg.maxAttempts) (r : Row) (hr : r.state = .pending)
    (outs : List Outcome) (hlen : cfg.maxAttempts ≤ outs.length) :
    terminal (outs.foldl (fun r o => passRow cfg o r) r).state = true :=
  passes_terminal cfg outs r hr (fun h => by subst h; exact absurd (Nat.le_trans hmax hlen) (by decide)) (by omega)

/-- non-vacuity: three retryable failures with `maxAttempts = 3` end in `failed`; a success in `synced`. -/
example :
    let cfg : Cfg := { maxAttempts := 3 }
    let r : Row := { id := 1, path := "p", sha := [], size := 4, pt := 0, state := .pending, attempts := 0, sent := 0 }
    ([Outcome.retry (some 2), .retry none, .retry none].foldl (fun r o => passRow cfg o r) r).state = .failed ∧
    ([Outcome.retry (some 2), .done, .retry none].foldl (fun r o => passRow cfg o r) r).state = .synced := by decide +kernel

end Arc.C27
