import Arc.Model.C22
import Arc.Generated.C22
import Arc.Proofs.C22.Files
import Arc.Proofs.C22.RestoreParents
import Arc.Model.C22.PreFix
import Arc.Proofs.C22.Tokens
import Arc.Proofs.C22.Members
/-!
# C22 — cluster state machine: replay determinism and snapshot fidelity

Property: for any sequence of committed cluster commands, every node that applies it — from an
empty state or from a snapshot taken after any prefix — ends in the same state, and restoring a
snapshot reproduces exactly the state it was taken from; batched file operations take effect
all-or-nothing; lookup indexes always agree with the primary records.

Stated here about the CURRENT FSM (after fixes 464463f "UpdateFile indexes an empty database" and
305f0ae "UpdateToken validates a changed name"). Full strength, every history (any commands at any
log indexes, restores anywhere): determinism, batch atomicity, `filesByDB` agreement
(`C22_files_index`), snapshot fidelity and replay-from-any-prefix for the manifest and node parts
(`C22_restore_manifest`, `C22_replay_manifest`), completeness of the RBAC traversal indexes, and —
for histories whose log indexes are strictly increasing, which is what Raft delivers — exact
agreement of `tokensByName` / `tokensByPrefix` with `tokens` and snapshot fidelity of the token part
(`C22_token_indexes`, `C22_restore_tokens`).
The two defect classes found before the fixes survive as `C22_prefix_*_witness` statements about the
explicitly named pre-fix functions (`Arc.C22.PreFix`).
-/
namespace Arc.C22
open SMap

/-! ## tie to the source: dispatch table, purity of the apply functions, validator pairing, caps -/

/-- the model's `apply` dispatch, as (type number, Go constant, Go apply function, takes log index) -/
def expectedDispatch : List (Nat × String × String × Bool) := [
  (1, "CommandAddNode", "applyAddNode", false),
  (2, "CommandRemoveNode", "applyRemoveNode", false),
  (3, "CommandUpdateNode", "applyUpdateNode", false),
  (4, "CommandUpdateNodeState", "applyUpdateNodeState", false),
  (5, "CommandPromoteWriter", "applyPromoteWriter", false),
  (6, "CommandDemoteWriter", "applyDemoteWriter", false),
  (7, "CommandRegisterFile", "applyRegisterFile", true),
  (8, "CommandDeleteFile", "applyDeleteFile", false),
  (9, "CommandAssignCompactor", "applyAssignCompactor", false),
  (10, "CommandBatchFileOps", "applyBatchFileOps", true),
  (11, "CommandUpdateFile", "applyUpdateFile", true),
  (12, "CommandCreateToken", "applyCreateToken", true),
  (13, "CommandUpdateToken", "applyUpdateToken", true),
  (14, "CommandRevokeToken", "applyRevokeToken", true),
  (15, "CommandDeleteToken", "applyDeleteToken", true),
  (16, "CommandRotateToken", "applyRotateToken", true),
  (17, "CommandCreateOrganization", "applyCreateOrganization", true),
  (18, "CommandUpdateOrganization", "applyUpdateOrganization", true),
  (19, "CommandDeleteOrganization", "applyDeleteOrganization", true),
  (20, "CommandCreateTeam", "applyCreateTeam", true),
  (21, "CommandUpdateTeam", "applyUpdateTeam", true),
  (22, "CommandDeleteTeam", "applyDeleteTeam", true),
  (23, "CommandCreateRole", "applyCreateRole", true),
  (24, "CommandUpdateRole", "applyUpdateRole", true),
  (25, "CommandDeleteRole", "applyDeleteRole", true),
  (26, "CommandCreateMeasurementPermission", "applyCreateMeasurementPermission", true),
  (27, "CommandDeleteMeasurementPermission", "applyDeleteMeasurementPermission", true),
  (28, "CommandAddTokenToTeam", "applyAddTokenToTeam", true),
  (29, "CommandRemoveTokenFromTeam", "applyRemoveTokenFromTeam", true)]

/-- **C22_dispatch_tied.** The `switch cmd.Type` of the current `ClusterFSM.Apply` (regenerated from
`/repo` on every run) is the dispatch the model implements: same 29 types, same apply function per
type, same use of the log index. -/
theorem C22_dispatch_tied :
    Arc.Generated.C22.dispatch = expectedDispatch ∧ Arc.Generated.C22.commandCount = 29 := by decide +kernel

/-- **C22_apply_pure.** No apply function, nor `Snapshot`/`Persist`/`Restore`, reaches a clock, a
random source, the OS, a goroutine or a `select` inside package raft (regenerated fact): `Apply` is a
function of (state, log index, command bytes) only — which is what lets the model be a pure function
`apply : State → Nat → Cmd → State × Res`. -/
theorem C22_apply_pure : ∀ p ∈ Arc.Generated.C22.nondet, p.2 = [] := by decide +kernel

/-- the validators the model applies per entry point (`Valid.lean`), by their Go names -/
def expectedValidators : List (String × List String) := [
  ("applyAddNode", []), ("applyRemoveNode", []), ("applyUpdateNode", []), ("applyUpdateNodeState", []),
  ("applyPromoteWriter", []), ("applyDemoteWriter", []),
  ("applyRegisterFile", ["ValidateManifestPath"]), ("applyDeleteFile", []), ("applyAssignCompactor", []),
  ("applyBatchFileOps", ["ValidateManifestPath"]), ("applyUpdateFile", ["ValidateManifestPath"]),
  ("applyCreateToken", ["validatePermissionString", "validateTokenEntry", "validateTokenHashAndPrefix"]),
  ("applyUpdateToken", ["validatePermissionString"]),
  ("applyRevokeToken", []), ("applyDeleteToken", []),
  ("applyRotateToken", ["validateTokenHashAndPrefix"]),
  ("applyCreateOrganization", ["validateOrganizationEntry"]), ("applyUpdateOrganization", []),
  ("applyDeleteOrganization", []),
  ("applyCreateTeam", ["validateTeamEntry"]), ("applyUpdateTeam", []), ("applyDeleteTeam", []),
  ("applyCreateRole", ["validatePermissionString", "validateRoleEntry"]),
  ("applyUpdateRole", ["validatePermissionString"]), ("applyDeleteRole", []),
  ("applyCreateMeasurementPermission", ["validateMeasurementPermissionEntry", "validatePermissionString"]),
  ("applyDeleteMeasurementPermission", []),
  ("applyAddTokenToTeam", ["validateTokenMembershipEntry"]), ("applyRemoveTokenFromTeam", []),
  ("Restore", ["ValidateManifestPath", "validateMeasurementPermissionEntry", "validateOrganizationEntry",
    "validatePermissionString", "validateRoleEntry", "validateTeamEntry", "validateTokenEntry",
    "validateTokenHashAndPrefix", "validateTokenMembershipEntry"]),
  ("Snapshot", []), ("Persist", [])]

/-- **C22_validators_tied.** Which validator each apply function (and `Restore`) calls in the current
source is what the model pairs them with; `applyUpdateToken` additionally applies the inline name rule
of `validateTokenEntry` to a changed name and `applyUpdateFileStruct` indexes every database, the empty
one included (the two fixes; reverting either flips a regenerated fact). The length caps are the
model's literals. -/
theorem C22_validators_tied :
    Arc.Generated.C22.validators = expectedValidators ∧
    Arc.Generated.C22.updateTokenValidatesName = true ∧
    Arc.Generated.C22.updateFileIndexesEveryDatabase = true ∧
    Arc.Generated.C22.maxManifestPathLen = 4096 ∧ Arc.Generated.C22.maxTokenHashLen = 512 ∧
    Arc.Generated.C22.maxTokenPrefixLen = 256 ∧ Arc.Generated.C22.rbacNameMaxLen = 256 ∧
    Arc.Generated.C22.rbacPatternMaxLen = 256 ∧ Arc.Generated.C22.rbacDescriptionMaxLen = 1024 := by
  decide +kernel

/-- **C22_snapshot_isolated_tied.** `Snapshot()` copies every one of the eight primary maps entry by
entry BY VALUE (`c := *v; m[k] = &c`; regenerated fact per map) — never by reusing the live pointer.
That is what makes the model's `snapshot` (a pure value) right even though several apply functions
mutate entries in place: commands applied between `Snapshot()` and `Persist()` cannot leak into the
persisted snapshot (harness: `hold k … held k`, monitor `snapshot-not-isolated:*`). -/
theorem C22_snapshot_isolated_tied :
    Arc.Generated.C22.snapshotCopies =
      [("nodes", true), ("files", true), ("tokens", true), ("organizations", true), ("teams", true),
       ("roles", true), ("measurementPermissions", true), ("tokenMemberships", true)] := by decide +kernel

/-- **C22_restore_nil_maps_tied.** The only snapshot map `Restore` installs without building a fresh
map is `Nodes`, and that field is NOT `omitempty`: an empty node map is persisted as `{}` and decodes
to an empty (non-nil) map, so a restored replica can apply AddNode/UpdateNode like any other. (All other
maps are rebuilt into fresh maps by the quarantine passes.) In the model maps are lists and
`restore (snapshot s) = s` holds with every component empty: -/
theorem C22_restore_nil_maps_tied :
    Arc.Generated.C22.restoreUnguardedMaps = [("Nodes", false)] ∧
    restore (snapshot State.empty) = State.empty ∧
    (apply (restore (snapshot State.empty)) 1
      (.addNode { id := "n1", name := "", role := "writer", cluster := "", address := "", api := "",
                  state := "", version := "", wstate := "", cores := 0 })).2 = .ok := by decide +kernel

/-- the length function and limit a (function, argument) check uses in the current source -/
def lenOf (f arg : String) : Option (String × String) :=
  (Arc.Generated.C22.lengthChecks.find? (fun c => c.1 == f && c.2.1 == arg)).map (fun c => c.2.2)

/-- every name/pattern/description check on an UPDATE path, paired with the check `Restore` (and
Create) applies to the same field through `validate*Entry` -/
def updateRestorePairs : List ((String × String) × (String × String)) := [
  (("applyUpdateToken", "p.Name"), ("validateTokenEntry", "entry.Name")),
  (("applyUpdateOrganization", "p.Name"), ("validateOrganizationEntry", "entry.Name")),
  (("applyUpdateOrganization", "p.Description"), ("validateOrganizationEntry", "entry.Description")),
  (("applyUpdateTeam", "p.Name"), ("validateTeamEntry", "entry.Name")),
  (("applyUpdateTeam", "p.Description"), ("validateTeamEntry", "entry.Description")),
  (("applyUpdateRole", "p.DatabasePattern"), ("validateRoleEntry", "entry.DatabasePattern"))]

/-- **C22_length_checks_tied.** Every length test in the validators and in the update paths measures
BYTES (`len`, what the model's `blen` is) — none uses a rune count — and each update-path test uses
exactly the length function and the limit of the `validate*Entry` test that `Restore` re-applies to
the same field: whatever an update accepts, a restore keeps. (Regenerated from `/repo`; counting runes
on one side only flips this.) -/
theorem C22_length_checks_tied :
    (∀ c ∈ Arc.Generated.C22.lengthChecks, c.2.2.1 = "len") ∧
    (∀ pr ∈ updateRestorePairs, (lenOf pr.1.1 pr.1.2).isSome = true ∧ lenOf pr.1.1 pr.1.2 = lenOf pr.2.1 pr.2.2) ∧
    Arc.Generated.C22.lengthChecks.length = 16 := by decide +kernel

/-! ## determinism -/

/-- **C22_deterministic.** Two nodes that start from the same state and apply the same committed
log (same indexes, same commands, snapshot installs at the same places) end in the same state. (The
model is a pure function by construction; that the real `Apply` is one is `C22_apply_pure` plus the
harness's peer-FSM monitor.) -/
theorem C22_deterministic (s₁ s₂ : State) (evs : List Ev) (h : s₁ = s₂) :
    runEv s₁ evs = runEv s₂ evs := by rw [h]

/-! ## batched file operations are all-or-nothing -/

/-- **C22_batch_atomic.** `CommandBatchFileOps` either is refused by the pre-validation pass —
then the state is unchanged — or it succeeds and its effect is exactly that of its ops applied
one by one, in order, as single Register/Update/Delete commands at the same log index. There is no
third outcome (the apply loop cannot fail midway). For every state, index and op list. -/
theorem C22_batch_atomic (s : State) (i : Nat) (ops : List BatchOp) :
    ((apply s i (.batch ops)).2 ≠ .ok ∧ (apply s i (.batch ops)).1 = s) ∨
    ((apply s i (.batch ops)).2 = .ok ∧
      (apply s i (.batch ops)).1 = (ops.map opCmd).foldl (fun st c => (apply st i c).1) s) := by
  have hA : apply s i (.batch ops) = liftF s (applyBatch s.fs i ops) := rfl
  rw [hA]
  unfold applyBatch
  by_cases hp : prevalidate ops = .ok
  · right
    rw [if_pos hp, applyOps_of_pre s.fs i ops hp, foldl_batch_eq_cmds]
    exact ⟨rfl, rfl⟩
  · left
    rw [if_neg hp]
    exact ⟨hp, rfl⟩

/-- a successful batch never stops early: every op reports success at the state it is applied to -/
theorem C22_batch_no_partial_failure (s : FileSt) (i : Nat) (ops : List BatchOp)
    (h : prevalidate ops = .ok) : (applyOps s i ops).2 = .ok := by
  rw [applyOps_of_pre s i ops h]

def fileA (path db : String) : FileEntry :=
  { path := path, sha := "s", size := 1, db := db, meas := "m", ptime := 0, origin := "n1", tier := "hot",
    ctime := 1700000000, lsn := 0 }

/-- non-vacuity: an accepted three-op batch, and a batch refused because of its LAST op -/
example :
    (apply State.empty 1 (.batch [.register (fileA "a/f1" "db"), .delete "a/f1", .update (fileA "a/f2" "db")])).2 = .ok ∧
    apply State.empty 1 (.batch [.register (fileA "a/f1" "db"), .update (fileA "s3://x" "db")])
      = (State.empty, .invalid) := by decide +kernel

/-! ## the by-database file index, snapshot fidelity and replay for manifest + nodes -/

theorem fileInv_run (s : State) (evs : List Ev) (h : FileInv s.fs) : FileInv (runEv s evs).fs :=
  runEv_inv (P := fun s => FileInv s.fs) (fun s i c h => apply_fs s i c ▸ fileInv_step h i c)
    (fun s h => show FileInv (restoreFs s.fs.files) from (restoreFs_id h).symm ▸ h) s evs h

/-- **C22_files_index.** For EVERY history — any commands, valid or not, any log indexes, restores
anywhere — `filesByDB` agrees exactly with `files`: `filesByDB[db]` lists `p` iff `files[p]` exists
with that database (the empty database included); no empty inner set is left behind; all maps are in
canonical form; every key is its entry's path and passes `ValidateManifestPath`. -/
theorem C22_files_index (evs : List Ev) : FileInv (runEv State.empty evs).fs :=
  fileInv_run State.empty evs fileInv_empty

example :
    let s := runEv State.empty [.cmd 1 (.updateFile (fileA "a/f1" "")), .cmd 2 (.registerFile (fileA "a/f2" "")),
      .restore, .cmd 3 (.batch [.update (fileA "a/f1" "db1"), .delete "a/f2", .register (fileA "../x" "db")])]
    get2? s.fs.filesByDB "" "a/f1" = some () ∧ get2? s.fs.filesByDB "" "a/f2" = some () := by decide +kernel

/-- **C22_restore_manifest.** The node part and the manifest part (primary map AND index) of every
reachable state survive snapshot + restore unchanged. -/
theorem C22_restore_manifest (evs : List Ev) :
    (restore (snapshot (runEv State.empty evs))).fs = (runEv State.empty evs).fs ∧
    (restore (snapshot (runEv State.empty evs))).cl = (runEv State.empty evs).cl :=
  ⟨restoreFs_id (C22_files_index evs), rfl⟩

/-- the manifest part and the node part of a history each evolve on their own (a command touches one
part of the state, `Restore` rebuilds each part from itself) -/
theorem runEv_fs_cl_congr (evs : List Ev) (a b : State) (h : a.fs = b.fs ∧ a.cl = b.cl) :
    (runEv a evs).fs = (runEv b evs).fs ∧ (runEv a evs).cl = (runEv b evs).cl := by
  induction evs generalizing a b with
  | nil => exact h
  | cons e es ih =>
    cases e with
    | cmd i c =>
      exact ih _ _ ⟨(apply_fs a i c).trans (h.1 ▸ (apply_fs b i c).symm),
        (apply_cl a i c).trans (h.2 ▸ (apply_cl b i c).symm)⟩
    | restore =>
      exact ih _ _ ⟨congrArg (fun f : FileSt => restoreFs f.files) h.1, h.2⟩

/-- **C22_replay_manifest.** Replay from a snapshot taken after ANY prefix equals replay from
empty, for the file manifest (primary map and `filesByDB`) and the node/role part: a node that
installs the snapshot and then applies any suffix (restores included) ends with the same manifest
and the same nodes / primary writer / compactor as a node that applied prefix ++ suffix from the
empty state. No carve-out. -/
theorem C22_replay_manifest (pre suf : List Ev) :
    (runEv (restore (snapshot (runEv State.empty pre))) suf).fs = (runEv State.empty (pre ++ suf)).fs ∧
    (runEv (restore (snapshot (runEv State.empty pre))) suf).cl = (runEv State.empty (pre ++ suf)).cl := by
  rw [runEv_append]
  exact runEv_fs_cl_congr suf _ _ (C22_restore_manifest pre)

/-! ## the pre-fix counterexamples (statements about `Arc.C22.PreFix`, not about the current code) -/

def tokA : TokenEntry :=
  { id := 0, name := "tA", desc := "", perms := "read", hash := "h", pfx := "p", created := 5,
    expires := 0, enabled := true, lsn := 0 }

/-- pre-464463f: one `UpdateFile` with an empty database left the file out of `filesByDB[""]`;
`Restore` re-indexed it, so the snapshot did not reproduce the state and a replay from it diverged -/
theorem C22_prefix_files_witness :
    let s := PreFix.runEv State.empty [.cmd 1 (.updateFile (fileA "a/f1" ""))]
    (s.fs.files.get? "a/f1").isSome = true ∧ get2? s.fs.filesByDB "" "a/f1" = none ∧
    restore (snapshot s) ≠ s ∧
    PreFix.runEv (restore (snapshot s)) [.cmd 2 (.registerFile (fileA "a/f2" ""))] ≠
      PreFix.runEv s [.cmd 2 (.registerFile (fileA "a/f2" ""))] := by decide +kernel

/-- pre-305f0ae: `UpdateToken` could set the name to `""`; `Restore` then quarantined the token -/
theorem C22_prefix_token_witness :
    let s := PreFix.runEv State.empty [.cmd 1 (.createToken tokA), .cmd 2 (.updateToken 1 "" "" "" 0 ["name"])]
    s.au.tokens.length = 1 ∧ (restore (snapshot s)).au.tokens = [] ∧ restore (snapshot s) ≠ s := by decide +kernel

/-- the same two histories on the CURRENT functions: indexed / refused, and restore is the identity -/
theorem C22_prefix_histories_now_fine :
    let s1 := runEv State.empty [.cmd 1 (.updateFile (fileA "a/f1" ""))]
    let s2 := runEv State.empty [.cmd 1 (.createToken tokA), .cmd 2 (.updateToken 1 "" "" "" 0 ["name"])]
    get2? s1.fs.filesByDB "" "a/f1" = some () ∧ restore (snapshot s1) = s1 ∧
    (apply (runEv State.empty [.cmd 1 (.createToken tokA)]) 2 (.updateToken 1 "" "" "" 0 ["name"])).2 = .invalid ∧
    restore (snapshot s2) = s2 := by decide +kernel

/-! ## the token part: indexes by name and by prefix, snapshot fidelity -/

/-- **C22_token_indexes.** For every history with strictly increasing log indexes ≥ 1 (restores
anywhere): `tokensByName[n] = id` iff token `id` exists with name `n` (hence names are unique);
`tokensByPrefix[p]` lists exactly the ids of the tokens with prefix `p`, without duplicates, and no
empty slice is kept; every key is its token's id and is a log index already used; every stored token
passes `validateTokenEntry` (what `Restore` re-checks); all three maps are in canonical form. -/
theorem C22_token_indexes (evs : List Ev) (hinc : idxIncreasing 1 evs = true) :
    TokInv (runEv State.empty evs).au (nextIdx 1 evs : Nat) :=
  tokInv_runEv State.empty 1 evs (tokInv_empty _) hinc

/-- **C22_restore_tokens.** … and therefore snapshot + restore reproduces the token part exactly:
the primary map (nothing is quarantined) and both rebuilt indexes. -/
theorem C22_restore_tokens (evs : List Ev) (hinc : idxIncreasing 1 evs = true) :
    (restore (snapshot (runEv State.empty evs))).au.tokens = (runEv State.empty evs).au.tokens ∧
    (restore (snapshot (runEv State.empty evs))).au.byName = (runEv State.empty evs).au.byName ∧
    (restore (snapshot (runEv State.empty evs))).au.byPrefix = (runEv State.empty evs).au.byPrefix :=
  have h := restoreAu_tok (C22_token_indexes evs hinc)
  ⟨congrArg (·.1) h, congrArg (·.2.1) h, congrArg (·.2.2) h⟩

/-- non-vacuity: create, rename, rotate onto a shared prefix, restore, delete -/
example :
    let evs : List Ev :=
      [.cmd 1 (.createToken tokA), .cmd 2 (.createToken { tokA with name := "tB" }),
       .cmd 3 (.updateToken 1 "tC" "" "" 0 ["name"]), .cmd 5 (.rotateToken 2 "h2" "q"), .restore,
       .cmd 6 (.rotateToken 1 "h3" "q"), .cmd 7 (.updateToken 2 "" "" "" 0 ["name"]), .cmd 9 (.deleteToken 1)]
    idxIncreasing 1 evs = true ∧ (runEv State.empty evs).au.byName = [("tB", 2)] ∧
    (runEv State.empty evs).au.byPrefix = [("q", [2])] := by decide +kernel

/-! ## the three membership indexes agree exactly with the membership records -/

/-- **C22_membership_indexes_agree.** For every history with strictly increasing log indexes ≥ 1
(restores anywhere), through AddTokenToTeam / RemoveTokenFromTeam and the team, organization and
token cascades:
`tokenMembershipsByPair[tok][team] = id` iff membership `id` exists with that token and team (so
UNIQUE(token, team) holds and a duplicate AddTokenToTeam is refused);
`tokenMembershipsByToken[tok]` lists `id` iff membership `id` exists with token `tok`;
`tokenMembershipsByTeam[team]` lists `id` iff membership `id` exists with team `team`.
(index ⊆ records: `MemInv.s1–s3`; records ⊆ index: `MemInv.c1` and `PInv.c4`.) -/
theorem C22_membership_indexes_agree (evs : List Ev) (hinc : idxIncreasing 1 evs = true) :
    let a := (runEv State.empty evs).au
    (∀ tok tm id, get2? a.memByPair tok tm = some id ↔
        ∃ e, a.members.get? id = some e ∧ e.token = tok ∧ e.team = tm) ∧
    (∀ tok id, get2? a.memByToken tok id = some () ↔ ∃ e, a.members.get? id = some e ∧ e.token = tok) ∧
    (∀ tm id, get2? a.memByTeam tm id = some () ↔ ∃ e, a.members.get? id = some e ∧ e.team = tm) := by
  have hm := memInv_runEv State.empty 1 evs (memInv_empty _) hinc
  have hp := pinv_runEv State.empty evs pinv_empty
  refine ⟨?_, ?_, ?_⟩
  · intro tok tm id
    constructor
    · exact hm.s1 tok tm id
    · rintro ⟨e, he, h1, h2⟩; rw [← h1, ← h2]; exact hm.c1 id e he
  · intro tok id
    constructor
    · exact hm.s2 tok id
    · rintro ⟨e, he, h1⟩; rw [← h1]; exact (hp.c4 id e he).1
  · intro tm id
    constructor
    · exact hm.s3 tm id
    · rintro ⟨e, he, h1⟩; rw [← h1]; exact (hp.c4 id e he).2

/-- non-vacuity: one token in two teams, two tokens in one team, a partial removal, a team cascade, a
restore — the pair index still knows the surviving memberships -/
example :
    let mk (t tm : Int) : Cmd := .addMember { id := 0, token := t, team := tm, created := 5, lsn := 0 }
    let evs : List Ev :=
      [.cmd 1 (.createOrg { id := 0, name := "acme", desc := "", created := 5, updated := 0, enabled := false, lsn := 0 }),
       .cmd 2 (.createTeam { id := 0, org := 1, name := "core", desc := "", created := 5, updated := 0, enabled := false, lsn := 0 }),
       .cmd 3 (.createTeam { id := 0, org := 1, name := "ops", desc := "", created := 5, updated := 0, enabled := false, lsn := 0 }),
       .cmd 4 (.createToken tokA), .cmd 5 (.createToken { tokA with name := "tB" }),
       .cmd 6 (mk 4 2), .cmd 7 (mk 4 3), .cmd 8 (mk 5 2), .cmd 9 (.removeMember 5 2), .cmd 10 (.deleteTeam 2), .restore]
    idxIncreasing 1 evs = true ∧ get2? (runEv State.empty evs).au.memByPair 4 3 = some 7 ∧
    (runEv State.empty evs).au.members.length = 1 ∧
    (apply (runEv State.empty evs) 11 (mk 4 3)).2 = .exists := by decide +kernel

/-! ## traversal indexes of the RBAC hierarchy are complete (full strength) -/

/-- **C22_cascade_indexes_complete.** For every history (any commands, any indexes, restores
anywhere) each team/role/measurement permission/membership in the primary maps is listed in
`teamsByOrg` / `rolesByTeam` / `measurementPermsByRole` / `tokenMembershipsByToken` /
`tokenMembershipsByTeam` under its parent — the direction of index agreement the cascades rely on. -/
theorem C22_cascade_indexes_complete (evs : List Ev) :
    let a := (runEv State.empty evs).au
    (∀ k e, a.teams.get? k = some e → get2? a.teamsByOrg e.org e.name = some k) ∧
    (∀ k e, a.roles.get? k = some e → get2? a.rolesByTeam e.team k = some ()) ∧
    (∀ k e, a.mperms.get? k = some e → get2? a.mpermsByRole e.role k = some ()) ∧
    (∀ k e, a.members.get? k = some e →
      get2? a.memByToken e.token k = some () ∧ get2? a.memByTeam e.team k = some ()) :=
  let h := pinv_runEv State.empty evs pinv_empty
  ⟨h.c1, h.c2, h.c3, h.c4⟩

end Arc.C22
