import Arc.Proofs.C28.Ops
import Arc.Generated.C28
/-!
# C28 — query rate limits and quotas are never exceeded

Both limiters are followed through arbitrary histories of operations: `swTrace` / `qTrace` list the
decisions taken, an invariant (`Good`, `QInv`) ties the limiter's counters to the decisions so far,
and every decision is shown to respect the limit w.r.t. the history up to it (`SafeBy`).
-/
namespace Arc.C28

inductive SWEv
  | allow (now : Int)      -- `Allow()` at clock reading `now`
  | touch (now : Int)      -- `Remaining()` / `RetryAfterSec()` (they run `advance`)
  | setLimit (l : Int)     -- `UpdateLimit(l)`
deriving Repr

structure SWEntry where
  now   : Int    -- clock reading of the request
  slot  : Int    -- `lastSlotTime` after `advance` (the limiter's truncated notion of "now")
  adm   : Bool   -- admitted?
  limit : Int    -- the limit in force for this request
deriving Repr

/-- the admit/reject decisions (with their times) of a history of operations on one limiter. -/
def swTrace (s : SW) : List SWEv → List SWEntry
  | [] => []
  | .allow now :: es =>
    ⟨now, (swAllow s now).1.last, (swAllow s now).2, (swAllow s now).1.limit⟩ :: swTrace (swAllow s now).1 es
  | .touch now :: es => swTrace (advance s now) es
  | .setLimit l :: es => swTrace (swSetLimit s l) es

/-- admitted entries whose slot lies strictly after `lo`. -/
def cntAfter (lo : Int) (tr : List SWEntry) : Nat := tr.countP (fun x => x.adm && decide (lo < x.slot))

theorem cntAfter_mono (tr : List SWEntry) {a b : Int} (h : a ≤ b) : cntAfter b tr ≤ cntAfter a tr :=
  countP_and_mono _ fun _ _ hx => Int.lt_of_le_of_lt h hx

theorem cntAfter_snoc (lo : Int) (past : List SWEntry) (e : SWEntry) :
    cntAfter lo (past ++ [e]) = cntAfter lo past + (if e.adm && decide (lo < e.slot) then 1 else 0) := by
  simp [cntAfter, List.countP_append, List.countP_cons]

/-- The ring of `s` is well formed and, read as ending with the slot that starts at `L`, accounts for
the decisions `past`: its newest `k` slots hold at least the requests admitted with slot after
`L - k·d`. (`L` is `s.last` except half-way through `advance`.) -/
structure GoodAt (L : Int) (s : SW) (past : List SWEntry) : Prop where
  dpos : 0 < s.d
  npos : 0 < s.n
  len  : s.recent.length = s.n
  tot  : s.total = (s.recent.sum : Nat)
  cov  : ∀ k : Nat, k ≤ s.n → cntAfter (L - k * s.d) past ≤ (s.recent.take k).sum

abbrev Good (s : SW) (past : List SWEntry) : Prop := GoodAt s.last s past

theorem goodAt_later {L L' : Int} {s : SW} {past : List SWEntry} (h : GoodAt L s past) (hL : L ≤ L') :
    GoodAt L' s past :=
  { h with cov := fun k hk => Nat.le_trans (cntAfter_mono past (by omega)) (h.cov k hk) }

theorem good_total_ge {L : Int} {s : SW} {past : List SWEntry} (h : GoodAt L s past) :
    (cntAfter (L - s.n * s.d) past : Int) ≤ s.total := by
  have := h.cov s.n (Nat.le_refl _)
  rw [List.take_of_length_le (Nat.le_of_eq h.len)] at this
  rw [h.tot]
  exact Int.ofNat_le.mpr this

theorem shift1_goodAt {L : Int} {s : SW} {past : List SWEntry} (h : GoodAt L s past) :
    GoodAt (L + s.d) (shift1 s) past := by
  have hn := h.npos
  have hd := h.dpos
  refine ⟨hd, hn, ?_, ?_, fun k hk => ?_⟩
  · show (0 :: s.recent.dropLast).length = s.n
    rw [List.length_cons, List.length_dropLast, h.len]; omega
  · show s.total - (lastOr0 s.recent : Nat) = ((0 :: s.recent.dropLast).sum : Nat)
    have := sum_dropLast_lastOr0 s.recent
    rw [h.tot, List.sum_cons]; omega
  · show cntAfter (L + s.d - k * s.d) past ≤ ((0 :: s.recent.dropLast).take k).sum
    have hk : k ≤ s.n := hk
    cases k with
    | zero => exact Nat.le_trans (cntAfter_mono past (by omega)) (h.cov 0 hk)
    | succ k' =>
      have e1 : L + s.d - ((k' + 1 : Nat) : Int) * s.d = L - (k' : Int) * s.d := by
        rw [Int.natCast_add, Int.add_mul]; omega
      have e2 : s.recent.dropLast.take k' = s.recent.take k' := by
        rw [List.dropLast_eq_take, List.take_take, h.len, Nat.min_eq_left (by omega)]
      rw [e1, List.take_succ_cons, List.sum_cons, Nat.zero_add, e2]
      exact h.cov k' (by omega)

theorem shiftN_goodAt {past : List SWEntry} {L' : Int} : ∀ (j : Nat) {s : SW} {L : Int}, GoodAt L s past →
    L + j * s.d ≤ L' → GoodAt L' (shiftN j s) past
  | 0, _, _, h, hL => goodAt_later h (by omega)
  | j + 1, s, L, h, hL =>
    shiftN_goodAt j (shift1_goodAt h) (by
      rw [Int.natCast_add, Int.add_mul] at hL
      show L + s.d + j * s.d ≤ L'
      omega)

theorem advance_good (s : SW) (past : List SWEntry) (now : Int) (h : Good s past) :
    Good (advance s now) past := by
  have hd := h.dpos
  unfold advance
  generalize trunc s.d now = T
  split
  · exact h
  · have hle : (T - s.last) / s.d * s.d ≤ T - s.last := Int.ediv_mul_le _ (by omega)
    split
    · -- the whole window has expired: nothing admitted so far has a slot after `last`
      rename_i hk
      have hge := Int.mul_le_mul_of_nonneg_right hk (Int.le_of_lt hd)
      have h0 : cntAfter s.last past ≤ 0 := by simpa using h.cov 0 (Nat.zero_le _)
      refine ⟨hd, h.npos, List.length_replicate .., by simp [swReset], fun k hkn => ?_⟩
      have hkd : (k : Int) * s.d ≤ s.n * s.d := Int.mul_le_mul_of_nonneg_right (Int.ofNat_le.mpr hkn) (Int.le_of_lt hd)
      exact Nat.le_trans (cntAfter_mono past (show s.last ≤ T - k * s.d by omega)) (Nat.le_trans h0 (Nat.zero_le _))
    · have hj : (((T - s.last) / s.d).toNat : Int) = (T - s.last) / s.d :=
        Int.toNat_of_nonneg (Int.ediv_nonneg (by omega) (by omega))
      have := shiftN_goodAt (L' := T) _ h (by rw [hj]; omega)
      -- `GoodAt` does not read the field `last`
      exact ⟨this.dpos, this.npos, this.len, this.tot, this.cov⟩

theorem good_snoc_rejected {s : SW} {past : List SWEntry} (h : Good s past) (e : SWEntry)
    (he : e.adm = false) : Good s (past ++ [e]) :=
  { h with cov := fun k hk => by rw [cntAfter_snoc, he]; exact h.cov k hk }

theorem good_snoc_counted {s : SW} {past : List SWEntry} (h : Good s past) (e : SWEntry)
    (he : e.slot = s.last) : Good (countIn s) (past ++ [e]) := by
  have hlen := h.len
  have htot := h.tot
  obtain ⟨x, xs, hr⟩ : ∃ x xs, s.recent = x :: xs := List.exists_cons_of_ne_nil fun h0 => by
    rw [h0] at hlen; exact Nat.ne_of_gt h.npos hlen.symm
  have hb : (countIn s).recent = (x + 1) :: xs := by simp only [countIn, hr, bump]
  rw [hr] at hlen htot
  refine ⟨h.dpos, h.npos, by rw [hb]; exact hlen, ?_, fun k hk => ?_⟩
  · show s.total + 1 = _
    rw [hb, htot]; simp only [List.sum_cons]; omega
  · show cntAfter (s.last - k * s.d) (past ++ [e]) ≤ ((countIn s).recent.take k).sum
    have := h.cov k hk
    rw [cntAfter_snoc, hb]
    cases k with
    | zero => simpa [he] using this
    | succ k' =>
      rw [hr] at this
      simp only [List.take_succ_cons, List.sum_cons] at this ⊢
      split <;> omega

/-- the slot-level statement for one admitted request `e`: among `e` and everything before it, the
admitted requests whose slot is one of the `n` newest (as of `e`) number at most the limit. -/
def SlotOK (d : Int) (n : Nat) (e : SWEntry) (upto : List SWEntry) : Prop :=
  e.adm = true → 0 < e.limit → (cntAfter (e.slot - n * d) upto : Int) ≤ e.limit

/-- the trace entry of `Allow()` at `now`. -/
def swEntry (s : SW) (now : Int) : SWEntry :=
  ⟨now, (swAllow s now).1.last, (swAllow s now).2, (swAllow s now).1.limit⟩

theorem allow_good (s : SW) (past : List SWEntry) (now : Int) (h : Good s past) :
    Good (swAllow s now).1 (past ++ [swEntry s now]) ∧
      SlotOK s.d s.n (swEntry s now) (past ++ [swEntry s now]) := by
  have ha := advance_good s past now h
  obtain ⟨hd, hn, _⟩ := advance_frame s now
  rw [← hd, ← hn]
  simp only [swEntry, swAllow]
  generalize advance s now = a at ha
  by_cases hf : swFull a = true
  · simp only [if_pos hf]
    exact ⟨good_snoc_rejected ha _ rfl, fun hadm => Bool.noConfusion hadm⟩
  · simp only [if_neg hf]
    refine ⟨good_snoc_counted ha _ rfl, fun _ hlim => ?_⟩
    -- not full under a positive limit: the ring total, which covers the `n` newest slots, is below it
    have hlt : a.total < a.limit := by
      have hlim' : 0 < a.limit := hlim
      simpa [swFull, hlim'] using hf
    have := good_total_ge ha
    show (cntAfter (a.last - a.n * a.d) (past ++ [_]) : Int) ≤ a.limit
    rw [cntAfter_snoc]
    split <;> omega

/-- Every state reachable from a good one is good, and every decision taken on the way satisfies
`SlotOK`: the invariant behind `C28_window_slots`, for any starting state. -/
theorem swTrace_safe (evs : List SWEv) : ∀ {s : SW} {past : List SWEntry} {d : Int} {n : Nat},
    s.d = d → s.n = n → Good s past → SafeBy (SlotOK d n) past (swTrace s evs) := by
  induction evs with
  | nil => intros; trivial
  | cons ev es ih =>
    intro s past d n hd hn h
    subst hd hn
    cases ev with
    | allow now =>
      obtain ⟨hd, hn, _⟩ := swAllow_frame s now
      obtain ⟨hgood, hok⟩ := allow_good s past now h
      exact ⟨hok, ih hd hn hgood⟩
    | touch now =>
      obtain ⟨hd, hn, _⟩ := advance_frame s now
      exact ih hd hn (advance_good s past now h)
    | setLimit l =>
      -- `GoodAt` does not read the field `limit`
      exact ih (s := swSetLimit s l) rfl rfl ⟨h.dpos, h.npos, h.len, h.tot, h.cov⟩

theorem swNew_good (w slots limit now : Int) : Good (swNew w slots limit now) [] := by
  refine ⟨swNew_d_pos _ _ _ _, ?_, by simp [swNew], by simp [swNew], fun k _ => Nat.zero_le _⟩
  simp only [swNew]; split
  · decide
  · omega

/-! ### from slots to clock readings (non-decreasing clock) -/

/-- the clock readings of a history are non-decreasing and not before `t`. Forward jumps of any
size are allowed. -/
def MonoFrom : Int → List SWEv → Prop
  | _, [] => True
  | t, .allow now :: es => t ≤ now ∧ MonoFrom now es
  | t, .touch now :: es => t ≤ now ∧ MonoFrom now es
  | t, .setLimit _ :: es => MonoFrom t es

/-- under a non-decreasing clock the limiter never sees a reading before its `lastSlotTime`, so
every request is handled in the slot of its own reading. -/
theorem trace_slots (evs : List SWEv) : ∀ (s : SW) (t : Int) {d : Int}, s.d = d → 0 < d → s.last ≤ trunc d t →
    MonoFrom t evs → ∀ x ∈ swTrace s evs, x.slot = trunc d x.now := by
  induction evs with
  | nil => intro _ _ _ _ _ _ _ x hx; cases hx
  | cons ev es ih =>
    intro s t d hsd hd hl hm x hx
    subst hsd
    cases ev with
    | allow now =>
      obtain ⟨hsd, _, _, hlast⟩ := swAllow_frame s now
      rw [advance_last s hd hl hm.1] at hlast
      rcases List.mem_cons.mp hx with rfl | hx
      · exact hlast
      · exact ih _ now hsd hd (Int.le_of_eq hlast) hm.2 x hx
    | touch now =>
      exact ih _ now (advance_frame s now).1 hd (Int.le_of_eq (advance_last s hd hl hm.1)) hm.2 x hx
    | setLimit l => exact ih (swSetLimit s l) t rfl hd hl hm x hx

/-- **C28_window_slots** (all histories, any clock — also one that jumps backwards). For every
admitted request `e` of any history of `Allow`/`Remaining`/`RetryAfterSec`/`UpdateLimit` calls on a
limiter created by `newSlidingWindowCounter(w, slots, limit)`: the admitted requests up to and
including `e` whose slot (the limiter's `lastSlotTime` when they were handled) is among the `n`
slots ending with `e`'s number at most the limit in force for `e`. -/
theorem C28_window_slots (w slots limit t0 : Int) (evs : List SWEv)
    (pre : List SWEntry) (e : SWEntry) (suf : List SWEntry)
    (htr : swTrace (swNew w slots limit t0) evs = pre ++ e :: suf)
    (hadm : e.adm = true) (hlim : 0 < e.limit) :
    (cntAfter (e.slot - (swNew w slots limit t0).n * (swNew w slots limit t0).d) (pre ++ [e]) : Int) ≤ e.limit := by
  have hs := swTrace_safe evs rfl rfl (swNew_good w slots limit t0)
  rw [htr] at hs
  exact SafeBy.split hs hadm hlim

/-- admitted requests among `tr` that lie at most `len` ns before `e` (closed window `[e.now-len, e.now]`). -/
def cntWithin (len : Int) (e : SWEntry) (tr : List SWEntry) : Nat :=
  tr.countP (fun x => x.adm && decide (e.now - x.now ≤ len))

/-
The property as stated would be (W = the configured window, `n·d` for the two call sites):

  theorem C28_window_full … (hmono : MonoFrom t0 evs) … :
      (cntWithin (W - 1) e (pre ++ [e]) : Int) ≤ e.limit          -- any window of length W

It is FALSE for the code as written (`C28_window_full_witness` below; reproduced on the real
limiter by the harness, keys `window-exceeded:*`): the ring covers the current, partly elapsed
slot plus `n-1` older ones, i.e. only `(n-1)·d … n·d` of real time.  What the code guarantees:
-/

/-- **C28_window_partial.** Under a non-decreasing clock (arbitrary forward jumps, bursts, limit
updates): in every window of length `(n-1)·d` ending at an admitted request — `59 s` for the
per-minute limiter, `59 min` for the per-hour limiter — at most `limit` requests are admitted,
`limit` being the limit in force for that request. -/
theorem C28_window_partial (w slots limit t0 : Int) (evs : List SWEv)
    (hmono : MonoFrom t0 evs)
    (pre : List SWEntry) (e : SWEntry) (suf : List SWEntry)
    (htr : swTrace (swNew w slots limit t0) evs = pre ++ e :: suf)
    (hadm : e.adm = true) (hlim : 0 < e.limit) :
    (cntWithin (((swNew w slots limit t0).n - 1) * (swNew w slots limit t0).d) e (pre ++ [e]) : Int) ≤ e.limit := by
  have hd := swNew_d_pos w slots limit t0
  have hslots := fun x hx => trace_slots evs (swNew w slots limit t0) t0 rfl hd (Int.le_refl _) hmono x
    (mem_of_split htr x hx)
  refine Int.le_trans (Int.ofNat_le.mpr (countP_and_mono _ fun x hx hp => ?_))
    (C28_window_slots w slots limit t0 evs pre e suf htr hadm hlim)
  -- a reading less than `(n-1)·d` before `e.now` lies in a slot less than `n·d` before `e`'s
  rw [hslots x hx, hslots e (by simp)]
  have b1 := trunc_bounds _ x.now hd
  have b2 := trunc_bounds _ e.now hd
  rw [Int.sub_mul] at hp
  omega

/-- **C28_window_full_witness.** The per-minute limiter (`window = 60 s`, `60` slots) with limit 2
admits 4 requests that all lie within 59.000000001 s: two at the very end of one slot and two at
the start of the slot 60 later. Same shape for the per-hour limiter (59 min + 1 ns). -/
theorem C28_window_full_witness :
    (swTrace (swNew 60000000000 60 2 0)
        [.allow 999999999, .allow 999999999, .allow 60000000000, .allow 60000000000]).map
      (fun x => (x.now, x.adm, x.limit))
      = [(999999999, true, 2), (999999999, true, 2), (60000000000, true, 2), (60000000000, true, 2)] := by
  decide +kernel

/-- … in the vocabulary of the full statement: the last of these requests sees 4 admitted requests in
the window of length `W` ending at it, under limit 2. -/
theorem C28_window_full_witness_count :
    let tr := swTrace (swNew 60000000000 60 2 0)
      [.allow 999999999, .allow 999999999, .allow 60000000000, .allow 60000000000]
    cntWithin (60000000000 - 1) ⟨60000000000, 60000000000, true, 2⟩ tr = 4 := by
  decide +kernel

/-- non-vacuity of `C28_window_partial`: a monotone history with a rejection, a limit update, a
forward jump and admitted requests (the last one, under limit 3, satisfies every hypothesis). -/
example :
    let evs : List SWEv := [.allow 5, .allow 6, .allow 7, .setLimit 3, .touch 2000000000, .allow 58999999999, .allow 61000000000]
    MonoFrom 0 evs ∧
    (swTrace (swNew 60000000000 60 2 0) evs).map (fun x => (x.adm, x.limit)) =
      [(true, 2), (true, 2), (false, 2), (true, 3), (true, 3)] := by
  refine ⟨by simp only [MonoFrom, and_true]; omega, by decide +kernel⟩

/-! ### with a constant limit: at most `2·limit` per configured window -/

def NoSetLimit : List SWEv → Prop
  | [] => True
  | .setLimit _ :: _ => False
  | _ :: es => NoSetLimit es

/-- admitted entries handled in exactly the slot starting at `S`. -/
def cntAt (S : Int) (tr : List SWEntry) : Nat := tr.countP (fun x => x.adm && decide (x.slot = S))

theorem cntAt_snoc (S : Int) (past : List SWEntry) (e : SWEntry) :
    cntAt S (past ++ [e]) = cntAt S past + (if e.adm && decide (e.slot = S) then 1 else 0) := by
  simp [cntAt, List.countP_append, List.countP_cons]

theorem cntAt_le_cntAfter {S lo : Int} (past : List SWEntry) (h : lo < S) : cntAt S past ≤ cntAfter lo past :=
  countP_and_mono _ fun _ _ hx => hx ▸ h

def PerSlotOK (L : Int) (_e : SWEntry) (upto : List SWEntry) : Prop := ∀ S, (cntAt S upto : Int) ≤ L

/-- Under a constant limit `L` no single slot ever holds more than `L` admitted requests: when a
request is admitted, those of its own slot are among the ones `SlotOK` bounds. -/
theorem perSlot_of_slotOK {d : Int} {n : Nat} {L : Int} (hnd : 0 < n * d) (hpos : 0 < L) :
    ∀ {tr past : List SWEntry}, SafeBy (SlotOK d n) past tr → (∀ x ∈ tr, x.limit = L) →
      (∀ S, (cntAt S past : Int) ≤ L) → SafeBy (PerSlotOK L) past tr
  | [], _, _, _, _ => trivial
  | e :: tr, past, hs, hl, hp => by
    have key : ∀ S, (cntAt S (past ++ [e]) : Int) ≤ L := by
      intro S
      by_cases h : e.adm = true ∧ e.slot = S
      · obtain ⟨hadm, rfl⟩ := h
        have h1 := hs.1 hadm (by rw [hl e (List.mem_cons_self ..)]; exact hpos)
        rw [hl e (List.mem_cons_self ..)] at h1
        exact Int.le_trans (Int.ofNat_le.mpr (cntAt_le_cntAfter _ (by omega))) h1
      · rw [cntAt_snoc, if_neg (by simpa using h)]; exact hp S
    exact ⟨key, perSlot_of_slotOK hnd hpos hs.2 (fun x hx => hl x (List.mem_cons_of_mem _ hx)) key⟩

theorem trace_limit (evs : List SWEv) : NoSetLimit evs → ∀ (s : SW), ∀ x ∈ swTrace s evs, x.limit = s.limit := by
  induction evs with
  | nil => intro _ s x hx; cases hx
  | cons ev es ih =>
    intro hns s x hx
    cases ev with
    | setLimit l => exact hns.elim
    | touch now =>
      obtain ⟨_, _, hlim⟩ := advance_frame s now
      rw [ih hns _ x hx, hlim]
    | allow now =>
      obtain ⟨_, _, hlim, _⟩ := swAllow_frame s now
      rcases List.mem_cons.mp hx with rfl | hx
      · exact hlim
      · rw [ih hns _ x hx, hlim]

/-- **C28_window_2x.** With a constant limit and a non-decreasing clock, every window of the
configured kind of length `n·d` (= the configured window for both call sites, `C28_sites_cover`)
ending at an admitted request contains at most `2·limit` admitted requests — the exact price of
the slot granularity (`C28_window_full_witness` reaches it). -/
theorem C28_window_2x (w slots limit t0 : Int) (evs : List SWEv)
    (hns : NoSetLimit evs) (hmono : MonoFrom t0 evs) (hpos : 0 < limit)
    (pre : List SWEntry) (e : SWEntry) (suf : List SWEntry)
    (htr : swTrace (swNew w slots limit t0) evs = pre ++ e :: suf) (hadm : e.adm = true) :
    (cntWithin ((swNew w slots limit t0).n * (swNew w slots limit t0).d) e (pre ++ [e]) : Int) ≤ 2 * limit := by
  have hg := swNew_good w slots limit t0
  have hd := hg.dpos
  have hmem := mem_of_split htr
  have hlimit : ∀ x ∈ swTrace (swNew w slots limit t0) evs, x.limit = limit := trace_limit evs hns _
  have hslots := fun x hx => trace_slots evs (swNew w slots limit t0) t0 rfl hd (Int.le_refl _) hmono x (hmem x hx)
  have hs := swTrace_safe evs rfl rfl hg
  have hps := perSlot_of_slotOK (Int.mul_pos (Int.ofNat_lt.mpr hg.npos) hd) hpos hs hlimit
    (fun S => Int.le_of_lt hpos)
  rw [htr] at hs hps
  have hle := hlimit e (hmem e (by simp))
  -- the `n` newest slots as of `e` hold at most `limit`, the one before them at most `limit`
  have h1 := SafeBy.split hs hadm (by rw [hle]; exact hpos)
  have h2 := SafeBy.split hps (e.slot - (swNew w slots limit t0).n * (swNew w slots limit t0).d)
  rw [hle] at h1
  refine Int.le_trans (Int.ofNat_le.mpr (Nat.le_trans (List.countP_mono_left ?_) (countP_or_le _ _ _)))
    (by rw [Int.natCast_add, Int.two_mul]; exact Int.add_le_add h1 h2)
  intro x hx hp
  simp only [Bool.and_eq_true, decide_eq_true_eq, Bool.or_eq_true] at hp ⊢
  rw [hslots x hx, hslots e (by simp)]
  rcases slot_cases _ _ x.now e.now hd hp.2 with h | h
  · exact Or.inl ⟨hp.1, h⟩
  · exact Or.inr ⟨hp.1, h⟩

inductive QEv
  | allow (now : Int)           -- `AllowQuery()` at clock reading `now`
  | touch (now : Int)           -- `GetUsage()` (runs `maybeReset`)
  | setLimits (mh md : Int)     -- `UpdateLimits(mh, md)`
deriving Repr

structure QEntry where
  eff  : Int    -- effective time: the largest clock reading the tracker has seen so far
                -- (= the request's own reading while the clock never goes backwards)
  ok   : Bool
  maxH : Int    -- limits in force for this request
  maxD : Int
deriving Repr

def imax (a b : Int) : Int := if a ≤ b then b else a

/-- decisions of a history of operations on one tracker; `m` = largest reading seen so far. -/
def qTrace (q : QT) (m : Int) : List QEv → List QEntry
  | [] => []
  | .allow now :: es =>
    ⟨imax m now, decide ((qtAllow q now).2 = .ok), (qtAllow q now).1.maxH, (qtAllow q now).1.maxD⟩ ::
      qTrace (qtAllow q now).1 (imax m now) es
  | .touch now :: es => qTrace (maybeReset q now) (imax m now) es
  | .setLimits a b :: es => qTrace (qtSetLimits q a b) m es

/-- admitted requests of clock hour `k` (`[k·1h, (k+1)·1h)`). -/
def cntHour (k : Int) (tr : List QEntry) : Nat :=
  tr.countP (fun x => x.ok && decide (x.eff / 3600000000000 = k))

/-- admitted requests of UTC day `k`. -/
def cntDay (k : Int) (tr : List QEntry) : Nat :=
  tr.countP (fun x => x.ok && decide (x.eff / 86400000000000 = k))

/-- admitted requests of period `k` of length `P`; `cntHour` and `cntDay` are its two instances. -/
def cntPer (P k : Int) (tr : List QEntry) : Nat := tr.countP (fun x => x.ok && decide (x.eff / P = k))

theorem cntPer_snoc (P k : Int) (past : List QEntry) (e : QEntry) :
    cntPer P k (past ++ [e]) = cntPer P k past + (if e.ok && decide (e.eff / P = k) then 1 else 0) := by
  simp [cntPer, List.countP_append, List.countP_cons]

theorem imax_ge (m now : Int) : m ≤ imax m now := by unfold imax; split <;> omega

/-- One periodic counter of the tracker — `c` with reset time `r`, period `P` — after readings up
to `m` and the decisions `past`: `r` is the end of `m`'s period, and `c` bounds what was admitted
in that period. -/
structure PInv (P c r m : Int) (past : List QEntry) : Prop where
  next : r = (m / P + 1) * P
  cnt  : (cntPer P (m / P) past : Int) ≤ c

theorem pinv_reset {P c r m : Int} {past : List QEntry} (hP : 0 < P) (hoff : goEpochOffNs % P = 0)
    (hle : ∀ x ∈ past, x.eff ≤ m) (h : PInv P c r m past) (now : Int) :
    PInv P (if r ≤ now then 0 else c) (if r ≤ now then trunc P now + P else r) (imax m now) past := by
  have key : r ≤ now ↔ m / P < now / P := h.next ▸ next_period_le_iff P m now hP
  by_cases hr : r ≤ now
  · -- `now` lies in a later period than everything seen so far
    have hm : imax m now = now :=
      if_pos (Int.le_of_lt (Int.lt_of_lt_of_le (h.next ▸ Int.lt_ediv_add_one_mul_self m hP) hr))
    rw [if_pos hr, if_pos hr, hm]
    refine ⟨trunc_add_period P now hP hoff, Int.le_of_eq (congrArg _ (List.countP_eq_zero.mpr fun x hx => ?_))⟩
    have := Int.ediv_le_ediv hP (hle x hx)
    have := key.mp hr
    simp only [Bool.and_eq_true, decide_eq_true_eq]
    omega
  · -- still the period of `m`
    have hm : imax m now / P = m / P := by
      unfold imax; split
      · exact Int.le_antisymm (Int.not_lt.mp (mt key.mpr hr)) (Int.ediv_le_ediv hP ‹_›)
      · rfl
    rw [if_neg hr, if_neg hr]
    exact ⟨hm ▸ h.next, hm ▸ h.cnt⟩

/-- what the theorems claim of one admitted request `e`, for the period `P` and the limit `lim e`:
the requests admitted so far in `e`'s period number at most the limit. -/
def PerOK (P : Int) (lim : QEntry → Int) (e : QEntry) (upto : List QEntry) : Prop :=
  e.ok = true → 0 < lim e → (cntPer P (e.eff / P) upto : Int) ≤ lim e

theorem pinv_admit {P c r m : Int} {past : List QEntry} (h : PInv P c r m past) (lim : QEntry → Int)
    (e : QEntry) (he : e.eff = m) (hc : ¬ (0 < lim e ∧ lim e ≤ c)) :
    PInv P (c + 1) r m (past ++ [e]) ∧ PerOK P lim e (past ++ [e]) := by
  have hcnt : (cntPer P (m / P) (past ++ [e]) : Int) ≤ c + 1 := by
    have := h.cnt
    rw [cntPer_snoc]
    split <;> omega
  exact ⟨⟨h.next, hcnt⟩, fun _ hpos => by rw [he]; omega⟩

theorem pinv_reject {P c r m : Int} {past : List QEntry} (h : PInv P c r m past) (lim : QEntry → Int)
    (e : QEntry) (he : e.ok = false) :
    PInv P c r m (past ++ [e]) ∧ PerOK P lim e (past ++ [e]) :=
  ⟨⟨h.next, by rw [cntPer_snoc, he]; exact h.cnt⟩, fun hok => by rw [he] at hok; cases hok⟩

/-- invariant of the tracker: `m` = largest reading seen, `past` = decisions so far. -/
structure QInv (q : QT) (m : Int) (past : List QEntry) : Prop where
  le   : ∀ x ∈ past, x.eff ≤ m
  hour : PInv 3600000000000 q.h q.hourResetAt m past
  day  : PInv 86400000000000 q.dc q.dayResetAt m past

def QuotaOK (e : QEntry) (upto : List QEntry) : Prop :=
  PerOK 3600000000000 (·.maxH) e upto ∧ PerOK 86400000000000 (·.maxD) e upto

theorem maybeReset_qinv (q : QT) (m now : Int) (past : List QEntry) (h : QInv q m past) :
    QInv (maybeReset q now) (imax m now) past := by
  rw [maybeReset_eq]
  exact ⟨fun x hx => Int.le_trans (h.le x hx) (imax_ge m now),
    pinv_reset (by decide) (by decide) h.le h.hour now, pinv_reset (by decide) (by decide) h.le h.day now⟩

/-- the trace entry of `AllowQuery()` at `now`. -/
def qEntry (q : QT) (m now : Int) : QEntry :=
  ⟨imax m now, decide ((qtAllow q now).2 = .ok), (qtAllow q now).1.maxH, (qtAllow q now).1.maxD⟩

theorem allow_qinv (q : QT) (m now : Int) (past : List QEntry) (h : QInv q m past) :
    QInv (qtAllow q now).1 (imax m now) (past ++ [qEntry q m now]) ∧
      QuotaOK (qEntry q m now) (past ++ [qEntry q m now]) := by
  obtain ⟨hle, hh, hd⟩ := maybeReset_qinv q m now past h
  by_cases hv : qtVerdict (maybeReset q now) = .ok
  · have hvo := verdict_ok _ hv
    have e : qtAllow q now = _ := if_pos hv
    simp only [qEntry, e, decide_true]
    let e0 : QEntry := ⟨imax m now, true, (maybeReset q now).maxH, (maybeReset q now).maxD⟩
    have h1 := pinv_admit hh (·.maxH) e0 rfl hvo.1
    have h2 := pinv_admit hd (·.maxD) e0 rfl hvo.2
    exact ⟨⟨forall_mem_snoc hle (Int.le_refl _), h1.1, h2.1⟩, h1.2, h2.2⟩
  · have e : qtAllow q now = _ := if_neg hv
    simp only [qEntry, e, decide_eq_false hv]
    let e0 : QEntry := ⟨imax m now, false, (maybeReset q now).maxH, (maybeReset q now).maxD⟩
    have h1 := pinv_reject hh (·.maxH) e0 rfl
    have h2 := pinv_reject hd (·.maxD) e0 rfl
    exact ⟨⟨forall_mem_snoc hle (Int.le_refl _), h1.1, h2.1⟩, h1.2, h2.2⟩

/-- Every state reachable from one satisfying `QInv` satisfies it, and every decision on the way
respects both quotas: the invariant behind `C28_quota_hour` / `C28_quota_day`, for any start. -/
theorem qTrace_safe (evs : List QEv) : ∀ {q : QT} {m : Int} {past : List QEntry}, QInv q m past →
    SafeBy QuotaOK past (qTrace q m evs) := by
  induction evs with
  | nil => intros; trivial
  | cons ev es ih =>
    intro q m past h
    cases ev with
    | allow now =>
      obtain ⟨hinv, hok⟩ := allow_qinv q m now past h
      exact ⟨hok, ih hinv⟩
    | touch now => exact ih (maybeReset_qinv q m now past h)
    | setLimits a b => exact ih (q := qtSetLimits q a b) ⟨h.le, h.hour, h.day⟩

theorem qtNew_qinv (mh md t0 : Int) : QInv (qtNew mh md t0) t0 [] := by
  refine ⟨fun _ hx => (by cases hx), ⟨?_, Int.le_refl 0⟩, ⟨?_, Int.le_refl 0⟩⟩ <;>
    exact trunc_add_period _ t0 (by decide) (by decide)

/-- **C28_quota_hour.** For every history of `AllowQuery`/`GetUsage`/`UpdateLimits` calls (any
clock, including forward and backward jumps; `eff` = largest reading seen so far, which is the
request's own reading under a non-decreasing clock, `qTrace_eff`): when a query is admitted under
an hourly quota `maxH > 0`, the queries admitted so far in its clock hour number at most `maxH`.
(Until /repo 9f59e62 this held only with a carve-out for queries arriving at the exact reset
instant; the strict `now.After` is gone — `C28_reset_tied`, `C28_quota_boundary_instant`.) -/
theorem C28_quota_hour (mh md t0 : Int) (evs : List QEv)
    (pre : List QEntry) (e : QEntry) (suf : List QEntry)
    (htr : qTrace (qtNew mh md t0) t0 evs = pre ++ e :: suf) (hok : e.ok = true) (hmax : 0 < e.maxH) :
    (cntHour (e.eff / 3600000000000) (pre ++ [e]) : Int) ≤ e.maxH := by
  have hs := qTrace_safe evs (qtNew_qinv mh md t0)
  rw [htr] at hs
  exact (SafeBy.split hs).1 hok hmax

/-- **C28_quota_day.** The same for the daily quota and the UTC day. -/
theorem C28_quota_day (mh md t0 : Int) (evs : List QEv)
    (pre : List QEntry) (e : QEntry) (suf : List QEntry)
    (htr : qTrace (qtNew mh md t0) t0 evs = pre ++ e :: suf) (hok : e.ok = true) (hmax : 0 < e.maxD) :
    (cntDay (e.eff / 86400000000000) (pre ++ [e]) : Int) ≤ e.maxD := by
  have hs := qTrace_safe evs (qtNew_qinv mh md t0)
  rw [htr] at hs
  exact (SafeBy.split hs).2 hok hmax

/-- **C28_quota_boundary_instant.** The former counterexamples: with quota 1, a query at exactly
01:00:00.000000000 (resp. at exactly midnight of day 1) resets the counter and is admitted, the one
a nanosecond later is rejected. -/
theorem C28_quota_boundary_instant :
    (qTrace (qtNew 1 0 0) 0 [.allow 3600000000000, .allow 3600000000001]).map (fun x => (x.eff, x.ok, x.maxH))
      = [(3600000000000, true, 1), (3600000000001, false, 1)] ∧
    (qTrace (qtNew 0 1 0) 0 [.allow 86400000000000, .allow 86400000000001]).map (fun x => (x.eff, x.ok, x.maxD))
      = [(86400000000000, true, 1), (86400000000001, false, 1)] := by
  decide +kernel

/-- non-vacuity of the quota theorems: a history with a rejection, a limit update, a backward
clock jump and a day change, ending with an admitted query. -/
example :
    (qTrace (qtNew 2 3 0) 0 [.allow 5, .allow 7, .allow 9, .setLimits 3 3, .allow 8, .allow 86400000000009,
        .touch 86400000000010, .allow 86400000000011]).map (fun x => (x.eff, x.ok, x.maxH, x.maxD)) =
      [(5, true, 2, 3), (7, true, 2, 3), (9, false, 2, 3), (9, true, 3, 3), (86400000000009, true, 3, 3),
       (86400000000011, true, 3, 3)] := by
  decide +kernel

/-- clock readings of the `AllowQuery` calls of a history. -/
def allowTimes : List QEv → List Int
  | [] => []
  | .allow now :: es => now :: allowTimes es
  | _ :: es => allowTimes es

def QMonoFrom : Int → List QEv → Prop
  | _, [] => True
  | t, .allow now :: es => t ≤ now ∧ QMonoFrom now es
  | t, .touch now :: es => t ≤ now ∧ QMonoFrom now es
  | t, .setLimits _ _ :: es => QMonoFrom t es

/-- under a non-decreasing clock the effective time of every request is its own clock reading. -/
theorem qTrace_eff (evs : List QEv) : ∀ (q : QT) (m : Int), QMonoFrom m evs →
    (qTrace q m evs).map (·.eff) = allowTimes evs := by
  induction evs with
  | nil => intro q m _; rfl
  | cons ev es ih =>
    intro q m h
    cases ev with
    | allow now =>
      show imax m now :: (qTrace _ (imax m now) es).map (·.eff) = now :: allowTimes es
      rw [show imax m now = now from if_pos h.1, ih _ now h.2]
    | touch now =>
      show (qTrace _ (imax m now) es).map (·.eff) = allowTimes es
      rw [show imax m now = now from if_pos h.1, ih _ now h.2]
    | setLimits a b => exact ih _ m h

/-- **C28_reject_free.** A query rejected by the rate limit consumes no quota: the handler returns
the rate-limit verdict without running `CheckQuota`, and the token's quota tracker (its presence,
counters and reset times) is exactly what it was before the request. -/
theorem C28_reject_free (m : Mgr) (t now : Int) (v : Verdict)
    (hrej : (checkRateLimit (m.get t) (m.policy t) now).2 = some v) :
    (query m t now).2 = v ∧ ((query m t now).1.get t).qt = (m.get t).qt := by
  unfold query
  simp only [get_put]
  unfold handleTok
  simp only [hrej]
  exact ⟨trivial, (checkRateLimit_qt_ne_admitted _ _ _).1⟩

/-- **C28_order.** Conversely the quota is only consulted — and only then possibly consumed — after
the rate limit let the request pass; the final verdict is `admit` iff both checks pass. -/
theorem C28_order (k : Tok) (p : Policy) (now : Int) :
    (handleTok k p now).2 = .admitted ↔
      (checkRateLimit k p now).2 = none ∧ (checkQuota (checkRateLimit k p now).1 p now).2 = none := by
  have h1 := (checkRateLimit_qt_ne_admitted k p now).2
  have h2 := checkQuota_ne_admitted (checkRateLimit k p now).1 p now
  unfold handleTok
  cases hr : (checkRateLimit k p now).2 with
  | some v => exact ⟨fun h => absurd (h ▸ hr) h1, fun h => nomatch h.1⟩
  | none =>
    cases hq : (checkQuota (checkRateLimit k p now).1 p now).2 with
    | some v => exact ⟨fun h => absurd (h ▸ hq) h2, fun h => nomatch h.2⟩
    | none => exact ⟨fun _ => ⟨rfl, rfl⟩, fun _ => rfl⟩

/-- **C28_tokens_independent.** A request of token `t` leaves the limiters, tracker and policy of
every other token untouched ("for every token"). -/
theorem C28_tokens_independent (m : Mgr) (t t' now : Int) (h : t' ≠ t) :
    (query m t now).1.get t' = m.get t' ∧ (query m t now).1.policy t' = m.policy t' := by
  unfold query Mgr.policy
  simp only
  rw [get_put_ne _ _ _ _ h]
  exact ⟨rfl, by simp [Mgr.put]⟩

/-- **C28_update_next_rate.** After `UpdateLimit(l)` the very next `Allow()` is decided against `l`
(and against the same usage the limiter would have had without the update): it is admitted iff
`l ≤ 0` (unlimited) or the current window total is below `l`. -/
theorem C28_update_next_rate (s : SW) (l now : Int) :
    (swAllow (swSetLimit s l) now).2 = !(decide (0 < l) && decide (l ≤ (advance s now).total)) := by
  rw [swAllow_snd, advance_setLimit]
  rfl

/-- **C28_update_next_quota.** After `UpdateLimits(a, b)` the very next `AllowQuery()` is decided
against `a` and `b` and the usage counted so far. -/
theorem C28_update_next_quota (q : QT) (a b now : Int) :
    (qtAllow (qtSetLimits q a b) now).2 =
      (if 0 < a ∧ a ≤ (maybeReset q now).h then QV.hour
       else if 0 < b ∧ b ≤ (maybeReset q now).dc then QV.day else QV.ok) := by
  rw [qtAllow_snd, maybeReset_setLimits]
  rfl

/-- **C28_update_applies.** `CreatePolicy`/`UpdatePolicy` push the new limits into every existing
limiter/tracker of the token before returning, and the next request of the token is evaluated
under the new policy with those updated limiters. -/
theorem C28_update_applies (m : Mgr) (t : Int) (p : Policy) (now : Int) :
    (setPolicy m t p).policy t = p ∧
    ((setPolicy m t p).get t).minute = ((m.get t).minute).map (swSetLimit · p.rpm) ∧
    ((setPolicy m t p).get t).hour = ((m.get t).hour).map (swSetLimit · p.rph) ∧
    ((setPolicy m t p).get t).qt = ((m.get t).qt).map (qtSetLimits · p.qh p.qd) ∧
    (query (setPolicy m t p) t now).2 = (handleTok ((setPolicy m t p).get t) p now).2 := by
  have hg : (setPolicy m t p).get t = _ := get_put m t _
  have hp : (setPolicy m t p).policy t = p := by rw [Mgr.policy, hg]; rfl
  refine ⟨hp, by rw [hg], by rw [hg], by rw [hg], ?_⟩
  show (handleTok _ ((setPolicy m t p).policy t) now).2 = _
  rw [hp]

/-! ## ties to the current source (facts regenerated from /repo by go/factgen/cmd/c28 on every run) -/

/-- **C28_sites_tied.** The only two `newSlidingWindowCounter` call sites pass exactly the
`(window, slots)` pairs the manager model uses. -/
theorem C28_sites_tied :
    Arc.Generated.C28.sites =
      [("getOrCreateMinuteLimiter", minuteSite.1, minuteSite.2), ("getOrCreateHourLimiter", hourSite.1, hourSite.2)] :=
  rfl

/-- **C28_sites_cover.** For every call site of the current source the limiter has `n·d = W`
exactly, so the window `C28_window_partial` guarantees, `(n-1)·d`, is one slot shorter than the
configured one (59 s instead of 60 s, 59 min instead of 60 min). -/
theorem C28_sites_cover : ∀ s ∈ Arc.Generated.C28.sites,
    ((swNew s.2.1 s.2.2 0 0).n : Int) * (swNew s.2.1 s.2.2 0 0).d = s.2.1 ∧
    (((swNew s.2.1 s.2.2 0 0).n : Int) - 1) * (swNew s.2.1 s.2.2 0 0).d = s.2.1 - s.2.1 / 60 := by
  decide +kernel

/-- **C28_ctor_tied.** The constructor's default slot count and minimum slot duration. -/
theorem C28_ctor_tied : Arc.Generated.C28.defaultSlots = 60 ∧ Arc.Generated.C28.minSlotNs = msNs := ⟨rfl, rfl⟩

/-- **C28_reset_tied.** `maybeReset` resets the hour counter, then the day counter, each under
`!now.Before(resetAt)` (the reset instant belongs to the new period) with
`resetAt = now.Truncate(P).Add(P)` — what `resetHour`, `resetDay` model and what `C28_quota_hour`,
`C28_quota_day` need (with the strict `now.After` they are false). -/
theorem C28_reset_tied :
    Arc.Generated.C28.resets = [("q.hourResetAt", "NotBefore", hourNs), ("q.dayResetAt", "NotBefore", dayNs)] :=
  rfl

/-- **C28_handler_order_tied.** `executeQuery` calls `CheckRateLimit`, returns from its
`!result.Allowed` branch, and only afterwards calls `CheckQuota` (the order `handleTok` models);
`CheckRateLimit` and the limiter code never mention the quota tracker. -/
theorem C28_handler_order_tied :
    Arc.Generated.C28.handlerOrder = ["CheckRateLimit", "CheckQuota"] ∧
    Arc.Generated.C28.rateLimitRejectReturns = true ∧ Arc.Generated.C28.rateLimitTouchesQuota = false :=
  ⟨rfl, rfl, rfl⟩

end Arc.C28
