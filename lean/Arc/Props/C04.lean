import Arc.Proofs.C04.Pipeline
/-!
C04 — "No request payload can crash the server" (internal/api/{msgpack,lineprotocol,tle,import,
import_inprocess}.go, internal/ingest/arrow_writer.go).

FULL STATEMENTS (kept visible; each is FALSE of the current tree — witnesses below, reproduced on the
real server by go/harness/c04):

    theorem C04_full : ∀ cfg reqs, ∃ out, lifetime cfg reqs = .ok out ∧ ∀ resp ∈ out.1, resp.panic = none
      -- no sequence of requests makes a flush goroutine panic (process death) or a handler panic
    theorem C04_reject_stores_nothing : ∀ cfg s r resp s', step cfg s r = .ok (resp, s') →
        resp.status ≥ 400 → resp.added = 0
      -- a request answered with a status ≥ 400 appended none of its rows to a buffer
    theorem C04_names : ∀ m f, flushMerged m = .ok (some f) → ∀ c ∈ m.cols, (c.name, c.ty) ∈ f.schema
      -- every column of an accepted batch, whatever its name, is in the file that is written

What is proved instead: `_witness` theorems (concrete short request sequences on which the model — and
the real server — violates each clause) and `_partial` theorems under explicit decidable carve-outs:
`CleanReq` (the TYPED batches built by parsers outside the model — typed msgpack path, TLE, CSV, Parquet —
have columns of one length; nothing is asked of names, of generic or of row records) for the no-panic
clause, which is unconditional for requests without typed records (`C04_full_untyped`); "one record, no FlushAll" for the rejected-stores-nothing clause; "not `_`-prefixed,
not empty" for the names clause.

Repairs in /repo that the model follows through the regenerated facts: 1d10738 (a column named "" is
rejected by both write paths, `name[0]` is guarded: C04_empty_name_rejected), d29da22 (mergeBatches
returns an error instead of failing a type assertion: no panic, but the acknowledged rows are lost,
C04_names_witness_underscore_conflict_rows_lost), 3fc3856 (decodeRow rejects a tag/field called `time`;
convertColumnsToTyped refuses columns of unequal length: C04_time_field_rejected, C04_convert_even — so
C04_partial asks nothing of what the model itself converts).
-/
namespace Arc.C04
open Arc.Generated.C04

/-- The guards (or their absence) the model and the witnesses rest on, as extracted from the CURRENT
source. A repair flips a fact and this theorem (and the witnesses) must be restated. -/
theorem C04_facts_tied :
    sigSkipsEmpty = true ∧ sigSkipsUnderscore = true ∧ schemaGuardsEmpty = true ∧
    writeRejectsEmptyName = true ∧ schemaSkipsUnderscore = true ∧ mergeUncheckedAsserts = 0 ∧
    permBoundsChecked = false ∧ validPermBoundsChecked = false ∧ sliceBoundsChecked = true ∧
    convertChecksLengths = true ∧ decodeRowRejectsTime = true ∧
    rowTimeGuard = false ∧ flushGoroutinesRecover = false ∧ writeAtomic = false ∧
    handlerPanicsRecovered = true ∧ importRejectsEmptyName = true := by decide +kernel

/-- Every handler validates the database name (≤ 64 bytes) before anything is buffered, and the WAL
envelope header has room for 255: the `envHeader[:3+len(db)]` slice of AppendRawWithMeta cannot go out
of range for a request that passed validation. -/
theorem C04_envelope_safe (cfg : Cfg) (db : Name) (h : validDb db = true) : envPanics cfg db = false :=
  envPanics_false cfg h

theorem C04_envelope_limits_tied : 3 + dbNameMaxLen ≤ envHeaderCap ∧ dbValidatedAt.length = 6 := by decide +kernel

/-- …whereas the envelope itself is unguarded: a 256-byte name (only reachable by a caller that skips
validation) slices past the array. -/
theorem C04_envelope_witness : envPanics ⟨10, true⟩ (List.replicate 256 100) = true := by decide +kernel

def dbN : Name := [100, 98]          -- "db"
def mN : Name := [109]               -- "m"
def nN : Name := [110]               -- "n"
def vN : Name := [118]               -- "v"
def wN : Name := [119]               -- "w"
def uxN : Name := [95, 120]          -- "_x"
def t0 : Int := 1700000000000000

def tcol (n : Nat) : Col := ⟨timeName, .i64, n, 0⟩

/-- `{m:"m", columns:{time:[t], "":[1]}}` -/
def reqEmptyName : Req :=
  { ep := .msgpack, db := dbN, vmeas := [mN], recs := [.typed mN ⟨[⟨[], .i64, 1, 0⟩, tcol 1], [t0], 1⟩] }

/-- `{m:"m", columns:{time:[t], _x:[…ty…], v:[1.0]}}` -/
def reqUnderscore (ty : Ty) (t : Int) : Req :=
  { ep := .msgpack, db := dbN, vmeas := [mN],
    recs := [.typed mN ⟨[⟨uxN, ty, 1, 0⟩, tcol 1, ⟨vN, .f64, 1, 0⟩], [t], 1⟩] }

def reqPlain (meas col : Name) (ty : Ty) (t : Int) : Req :=
  { ep := .msgpack, db := dbN, vmeas := [meas], recs := [.typed meas ⟨[tcol 1, ⟨col, ty, 1, 0⟩], [t], 1⟩] }

/-- row format `{m:"m", t:1700000000, fields:{time: t0-1, v: 1}}` -/
def reqTimeField : Req :=
  { ep := .msgpack, db := dbN, vmeas := [mN],
    recs := [.rows mN [⟨[], [(timeName, .int), (vN, .int)]⟩] [t0, t0 - 1] 1] }

/-- `[{m:"m", columns:{time:[t], v:[1]}}, {m:"n", columns:{time:[t], v:[{…}]}}]` -/
def reqGoodThenBad : Req :=
  { ep := .msgpack, db := dbN, vmeas := [mN, nN],
    recs := [.generic mN [(timeName, [.int]), (vN, [.int])] [t0] 1,
             .generic nN [(timeName, [.int]), (vN, [.other])] [t0] 1] }

def big : Cfg := ⟨1000000, false⟩

/-- the site of the flush-goroutine panic that killed the process, if any -/
def crashSite {α : Type} : Except Site α → Option Site
  | .error s => some s
  | .ok _ => none

/-- an empty column name is now REJECTED: both write paths refuse the batch before the buffer is
touched (handler answers 500), whatever the state -/
theorem C04_empty_name_rejected (cfg : Cfg) (s : St) (db meas : Name) (b : Batch)
    (h : b.cols.any (fun c => c.name.isEmpty) = true) : bufferBatch cfg s db meas b = .ok (.reject, s) := by
  unfold bufferBatch
  have hf : writeRejectsEmptyName = true := rfl
  simp [hf, h]

example : (lifetime big [reqEmptyName]).toOption.map (fun o => (o.1.map (fun r => (r.status, r.added)), o.2.stored, o.2.lost))
    = some ([(500, 0)], 0, 0) := by decide +kernel

/-- a row-format field called `time` still doubles the time column in rowsToColumnar, but the typing
chokepoint now refuses the ragged columns: 500, nothing buffered, nothing crashes (on the real server
decodeRow already answers 400) -/
theorem C04_time_field_rejected :
    (lifetime big [reqTimeField]).toOption.map (fun o => (o.1.map (fun r => (r.status, r.added, r.panic)), o.2.stored, o.2.lost))
      = some ([(500, 0, none)], 0, 0) := by decide +kernel

/-- …for ANY generic or row record: what `convert` lets through has columns of one length -/
theorem C04_convert_even (cols : List (Name × List Cell)) (times : List Int) (nrec : Nat) (b : Batch)
    (h : convert cols times nrec = some b) : evenBatch b = true := convert_even h

/-- C04_full under the producer contract: a server whose typed-path parsers hand over batches with
columns of one length never panics — neither a handler nor a flush goroutine — whatever the column NAMES (empty,
`_`-prefixed, reserved), the interleaving of endpoints, measurements, signature and type changes, buffer
size and WAL setting. -/
theorem C04_partial (cfg : Cfg) (reqs : List Req) (h : ∀ r ∈ reqs, CleanReq r = true) :
    ∃ out, lifetime cfg reqs = .ok out ∧ ∀ resp ∈ out.1, resp.panic = none := by
  obtain ⟨resps, s, hp, hi, hn⟩ := pipelineFrom_ok cfg reqs (s := {}) (List.forall_mem_nil _) h
  obtain ⟨s', hd⟩ := drain_ok s.bufs s hi
  refine ⟨(resps, s'), ?_, hn⟩
  unfold lifetime pipeline
  rw [hp]; simp only [hd]

/-- non-vacuity: three clean requests with a type change of `v` (int → float → string) and a second
measurement; all accepted, all rows stored -/
example : (∀ r ∈ [reqPlain mN vN .i64 t0, reqPlain mN vN .f64 (t0 + 1), reqPlain nN vN .str t0, reqPlain mN vN .f64 (t0 + 2)],
      CleanReq r = true) ∧
    (lifetime big [reqPlain mN vN .i64 t0, reqPlain mN vN .f64 (t0 + 1), reqPlain nN vN .str t0, reqPlain mN vN .f64 (t0 + 2)]).toOption.map
      (fun o => (o.1.map (·.status), o.2.stored, o.2.lost)) = some ([204, 204, 204, 204], 4, 0) := by decide +kernel

/-- unusual names and the `time` field are all inside the hypothesis now; only a ragged TYPED batch is not -/
example : CleanReq reqEmptyName = true ∧ CleanReq (reqUnderscore .i64 t0) = true ∧ CleanReq reqTimeField = true ∧
    CleanReq { ep := .csv, db := dbN, recs := [.typed mN ⟨[tcol 2, ⟨vN, .i64, 1, 0⟩], [t0, t0 - 1], 2⟩] } = false := by
  decide +kernel

def Rec.isTyped : Rec → Bool
  | .typed _ _ => true
  | _ => false

/-- C04_full (no-panic clause) at FULL strength for every sequence of requests that carry no typed
record — all generic msgpack (batch / array / row format) and all line-protocol traffic: no hypothesis
on names, types, lengths, cell kinds, order, buffer size or WAL. -/
theorem C04_full_untyped (cfg : Cfg) (reqs : List Req)
    (h : ∀ r ∈ reqs, ∀ rec ∈ r.recs, rec.isTyped = false) :
    ∃ out, lifetime cfg reqs = .ok out ∧ ∀ resp ∈ out.1, resp.panic = none := by
  refine C04_partial cfg reqs fun r hr => List.all_eq_true.2 fun rec hrec => ?_
  have := h r hr rec hrec
  cases rec <;> first | rfl | cases this

/-- non-vacuity: ragged generic columns, a `time` field, an empty name and a `_x` type change, all
without typed records: nothing panics -/
example : (lifetime ⟨2, true⟩ [reqTimeField, reqGoodThenBad,
      { ep := .msgpack, db := dbN, vmeas := [mN], recs := [.generic mN [(timeName, [.int, .int]), (vN, [.int])] [t0, t0 - 1] 2] },
      { ep := .lp, db := dbN, vmeas := [mN], recs := [.generic mN [(timeName, [.int]), (uxN, [.int]), ([], [.str])] [t0] 1] }]).toOption.map
    (fun o => o.1.map (fun r => (r.status, r.panic))) = some [(500, none), (500, none), (500, none), (500, none)] := by decide +kernel

/-- the record loop of `ArrowBuffer.Write` stops at the first failing record: the request is answered
500 and the first record's row stays buffered (and is flushed to storage later) -/
theorem C04_reject_stores_nothing_witness :
    (lifetime big [reqGoodThenBad]).toOption.map (fun o => (o.1.map (fun r => (r.status, r.added)), o.2.stored))
      = some ([(500, 1)], 1) := by decide +kernel

/-- an import is answered 500 when `FlushAll` reports an error for ANY buffer — here a zero-row batch of
an earlier request ("no time data") — although its own rows were written -/
theorem C04_reject_stores_nothing_witness_import :
    (pipeline big [{ ep := .msgpack, db := dbN, vmeas := [nN], recs := [.generic nN [(vN, [])] [] 0] },
                   { ep := .csv, db := dbN, vmeas := [mN], recs := [.typed mN ⟨[tcol 1, ⟨vN, .i64, 1, 0⟩], [t0], 1⟩] }]).toOption.map
      (fun o => (o.1.map (fun r => (r.status, r.added)), o.2.stored)) = some ([(204, 0), (500, 1)], 1) := by decide +kernel

/-- In every write/import handler of the CURRENT source all name validation is a pass of its own that
is complete before the first record is handed to the buffer (no loop both validates and writes). This
is what `step` encodes (validate, then `writeRecs`); folding the validation into a write loop flips the
fact and this theorem no longer checks. -/
theorem C04_validation_first_tied :
    namesValidatedBeforeAnyWrite = true ∧ validationFirstAt.length = 7 := by decide +kernel

/-- requests rejected by validation (library stage, database name, measurement name) leave the whole
server state untouched: a request rejected by NAME VALIDATION stores nothing -/
theorem C04_reject_by_validation_unchanged (cfg : Cfg) (s s' : St) (r : Req) (resp : Resp)
    (hv : r.pre.isSome ∨ validDb r.db = false ∨ r.vmeas.any (fun m => !validMeas m) = true)
    (h : step cfg s r = .ok (resp, s')) : s' = s ∧ resp.added = 0 := by
  obtain ⟨st, hs⟩ := step_rejected cfg s hv
  rw [hs] at h
  cases h; exact ⟨rfl, rfl⟩

theorem writeRecs_rejected_added {cfg : Cfg} {db : Name} {s s' : St} {recs : List Rec} {resp : Resp}
    (h1 : recs.length ≤ 1) (h : writeRecs cfg db s 0 recs = .ok (resp, s')) (hr : resp.status ≥ 400) :
    resp.added = 0 := by
  cases recs with
  | nil => cases h; rfl
  | cons rec rest =>
    cases rest with
    | cons _ _ => exact absurd h1 (by simp)
    | nil =>
      unfold writeRecs at h
      cases hw : writeRec cfg s db rec with
      | error site => rw [hw] at h; cases h
      | ok p =>
        obtain ⟨o, s1⟩ := p
        rw [hw] at h
        cases o <;> cases h
        · exact absurd hr (by simp)
        · rfl
        · rfl

/-- C04_reject_stores_nothing under the carve-out "at most one record and no FlushAll": whatever the
record and the state, a status ≥ 400 means none of the request's rows was appended. -/
theorem C04_reject_stores_nothing_partial (cfg : Cfg) (s s' : St) (r : Req) (resp : Resp)
    (h1 : r.recs.length ≤ 1) (h2 : r.ep.flushesAll = false)
    (h : step cfg s r = .ok (resp, s')) (hr : resp.status ≥ 400) : resp.added = 0 := by
  by_cases hv : r.refused
  · exact (C04_reject_by_validation_unchanged cfg s s' r resp hv h).2
  · obtain ⟨hp, hdb, hm⟩ := of_not_refused hv
    cases hw : writeRecs cfg r.db s 0 r.recs with
    | error site => simp [step, hp, hdb, hm, hw] at h
    | ok p =>
      simp only [step, hp, hdb, hm, hw, h2, Bool.not_true, Bool.not_false, Bool.or_true, Bool.false_eq_true,
        if_false, if_true] at h
      cases h
      exact writeRecs_rejected_added h1 hw hr

/-- non-vacuity: a single bad record is answered 500 with nothing appended -/
example : (step big {} { ep := .msgpack, db := dbN, vmeas := [nN], recs := [.generic nN [(timeName, [.int]), (vN, [.other])] [t0] 1] }).toOption.map
    (fun o => (o.1.status, o.1.added, o.2.buffered)) = some (500, 0, 0) := by decide +kernel

/-- a `_`-prefixed column changes type between two requests: the signature ignores it, both batches
share a buffer, mergeBatches now returns an error — both requests were answered 204 and BOTH rows are
lost (with the 3rd request of another signature the loss happens on the request path, still 204) -/
theorem C04_names_witness_underscore_conflict_rows_lost :
    (lifetime ⟨2, false⟩ [reqUnderscore .i64 t0, reqUnderscore .str (t0 + 1)]).toOption.map
      (fun o => (o.1.map (fun r => (r.status, r.panic)), o.2.stored, o.2.lost)) = some ([(204, none), (204, none)], 0, 2) ∧
    (lifetime big [reqUnderscore .i64 t0, reqUnderscore .str (t0 + 1), reqPlain mN wN .f64 (t0 + 2)]).toOption.map
      (fun o => (o.1.map (fun r => (r.status, r.panic)), o.2.stored, o.2.lost))
      = some ([(204, none), (204, none), (204, none)], 1, 2) := by decide +kernel

/-- a `_`-prefixed column is accepted (204), never causes an error, and is NOT in the stored file -/
theorem C04_names_witness_underscore_dropped :
    (lifetime big [reqUnderscore .i64 t0]).toOption.map (fun o => (o.1.map (·.status), o.2.files.map (·.schema)))
      = some ([204], [[(timeName, .i64), (vN, .f64)]]) := by decide +kernel

theorem writeParquet_schema {cols : List Col} {rows : Nat} {f : FileOut}
    (h : writeParquet cols rows = .ok (some f)) : f.schema = (schemaFields cols).map (fun c => (c.name, c.ty)) := by
  rcases of_ite_eq h with h | h
  · cases h
  rcases of_ite_eq h with h | h
  · cases h
  rcases of_ite_eq h with h | h
  · cases h
  rcases of_ite_eq h with h | h
  · cases h
  cases h; rfl

theorem schemaFields_evened (cols : List Col) (n : Nat) :
    (schemaFields (evened cols n)).map (fun c => (c.name, c.ty)) = (schemaFields cols).map (fun c => (c.name, c.ty)) := by
  simp only [schemaFields, evened, List.filter_map, List.map_map]
  rfl

/-- whichever path `flushPartitionedData` takes, the file it writes has the schema fields of the merged batch -/
theorem flushMerged_schema {m : Batch} {f : FileOut} (h : flushMerged m = .ok (some f)) :
    f.schema = (schemaFields m.cols).map (fun c => (c.name, c.ty)) := by
  have hE : ∀ n rows, writeParquet (evened m.cols n) rows = .ok (some f) →
      f.schema = (schemaFields m.cols).map (fun c => (c.name, c.ty)) :=
    fun n rows h => (writeParquet_schema h).trans (schemaFields_evened m.cols n)
  unfold flushMerged at h
  split at h
  · cases h
  rcases of_ite_eq h with h | h
  · rcases of_ite_eq h with h | h
    · exact writeParquet_schema h
    rcases of_ite_eq h with h | h
    · cases h
    rcases of_ite_eq h with h | h
    · cases h
    exact hE _ _ h
  · exact hE _ _ h

/-- C04_names under the carve-out "not `_`-prefixed, not empty": whenever a flush writes a file, every
such column of the merged batch is in the file's schema with its type (reserved-looking names such as
`measurement`, `database`, `host`, names with spaces or non-ASCII bytes are ordinary names). -/
theorem C04_names_partial (m : Batch) (f : FileOut) (h : flushMerged m = .ok (some f))
    (c : Col) (hc : c ∈ m.cols) (hu : isUnderscore c.name = false) (he : c.name ≠ []) :
    (c.name, c.ty) ∈ f.schema := by
  rw [flushMerged_schema h]
  refine List.mem_map.2 ⟨c, List.mem_filter.2 ⟨hc, ?_⟩, rfl⟩
  have : c.name.isEmpty = false := by simpa using he
  simp [hu, this]

/-! ### imports: no column is lost to a name collision -/

theorem distinctNames_iff : ∀ l : List Name, distinctNames l = true ↔ l.Nodup
  | [] => by simp [distinctNames]
  | x :: xs => by simp [distinctNames, distinctNames_iff xs]

theorem validHeader_spec {h : List Name} {tc : Name} (hv : validHeader h tc = true) :
    [] ∉ h ∧ h.Nodup ∧ (tc = timeName ∨ timeName ∉ h) ∧ ∀ x ∈ h, isUnderscore x = false := by
  have hf : importRejectsUnderscoreName = true := rfl
  simp only [validHeader, hf, Bool.and_eq_true, Bool.not_eq_true', Bool.or_eq_true, beq_iff_eq, Bool.true_and,
    List.contains_eq_mem, decide_eq_false_iff_not, decide_eq_true_eq, List.any_eq_false, distinctNames_iff,
    Bool.not_eq_true] at hv
  obtain ⟨⟨⟨⟨h1, h2⟩, _⟩, h4⟩, h5⟩ := hv
  exact ⟨h1, h2, h4, h5⟩

/-- only the time column is stored as "time" -/
theorem storageName_inj {h : List Name} {tc : Name} (hv : validHeader h tc = true) {a b : Name}
    (ha : a ∈ h) (hb : b ∈ h) (e : storageName tc a = storageName tc b) : a = b := by
  obtain ⟨_, _, ht, _⟩ := validHeader_spec hv
  have key : ∀ x ∈ h, x ≠ tc → x ≠ timeName := fun x hx hne hx' =>
    ht.elim (fun ht => hne (hx'.trans ht.symm)) (fun ht => ht (hx' ▸ hx))
  unfold storageName at e
  by_cases h1 : a = tc <;> by_cases h2 : b = tc
  · rw [h1, h2]
  · rw [if_pos (beq_iff_eq.2 h1), if_neg (fun e => h2 (beq_iff_eq.1 e))] at e
    exact absurd e.symm (key b hb h2)
  · rw [if_neg (fun e => h1 (beq_iff_eq.1 e)), if_pos (beq_iff_eq.2 h2)] at e
    exact absurd e (key a ha h1)
  · rwa [if_neg (fun e => h1 (beq_iff_eq.1 e)), if_neg (fun e => h2 (beq_iff_eq.1 e))] at e

/-- C04_names for imports: a header accepted by `validateImportHeader` is stored under pairwise
distinct map keys — no column (padded, blank, reserved-looking, …) overwrites another one or the
generated `time` column. Rests on the regenerated fact that the names used for storage ARE the names
validated (no TrimSpace / case folding after validation): `C04_import_names_tied`. -/
theorem C04_import_names_distinct (header : List Name) (timeCol : Name) (hv : validHeader header timeCol = true) :
    distinctNames (storageNames header timeCol) = true ∧ (storageNames header timeCol).length = header.length := by
  refine ⟨(distinctNames_iff _).2 (List.pairwise_map.2 ?_), by simp [storageNames]⟩
  exact (validHeader_spec hv).2.1.imp_of_mem fun ha hb hne e => hne (storageName_inj hv ha hb e)

theorem C04_import_names_tied : importNamesStoredAsValidated = true ∧ importRejectsEmptyName = true ∧
    importRejectsUnderscoreName = true := by decide +kernel

/-- since 273e2e1 an import cannot lose a column to the `_` rule of the schema builders either: no
storage name of an accepted header is `_`-prefixed (such a header is rejected with 400) or empty -/
theorem C04_import_no_internal_names (header : List Name) (timeCol : Name) (hv : validHeader header timeCol = true) :
    ∀ n ∈ storageNames header timeCol, isUnderscore n = false ∧ n ≠ [] := by
  intro n hn
  obtain ⟨x, hx, rfl⟩ := List.mem_map.1 hn
  obtain ⟨he, _, _, hu⟩ := validHeader_spec hv
  unfold storageName
  split
  · exact ⟨rfl, nofun⟩
  · exact ⟨hu x hx, fun e => he (e ▸ hx)⟩

/-- non-vacuity: `time, v, " v", " time", " "` is a valid header; its trimmed version is not -/
example : validHeader [timeName, [118], [32, 118], [32, 116, 105, 109, 101], [32]] timeName = true ∧
    validHeader [timeName, [118], [118]] timeName = false ∧
    validHeader [[116, 115], [32, 116, 105, 109, 101]] [116, 115] = true ∧
    validHeader [[116, 115], timeName] [116, 115] = false ∧
    validHeader [timeName, [95, 120]] timeName = false := by decide +kernel

/-- non-vacuity: reserved-looking names are stored -/
example : (lifetime big [reqPlain mN [109, 101, 97, 115, 117, 114, 101, 109, 101, 110, 116] .str t0]).toOption.map
    (fun o => o.2.files.map (·.schema)) = some [[(timeName, .i64), ([109, 101, 97, 115, 117, 114, 101, 109, 101, 110, 116], .str)]] := by
  decide +kernel

/-- a type change of an ORDINARY column between requests is a signature change: the old buffer is
flushed first, both rows are stored, in two files with the two types -/
theorem C04_names_typechange :
    (lifetime big [reqPlain mN vN .i64 t0, reqPlain mN vN .str (t0 + 1)]).toOption.map
      (fun o => (o.1.map (·.status), o.2.files.map (·.schema)))
    = some ([204, 204], [[(timeName, .i64), (vN, .i64)], [(timeName, .i64), (vN, .str)]]) ∧
    (lifetime big [reqPlain mN vN .i64 t0, reqPlain mN vN .str (t0 + 1)]).toOption.map (fun o => (o.2.stored, o.2.lost))
    = some (2, 0) := by decide +kernel

/-- the signature rule that separates the two cases, on the regenerated facts -/
theorem C04_signature_skips_tied : sigSkips [] = true ∧ sigSkips uxN = true ∧ sigSkips vN = false ∧
    sameSig ⟨[⟨uxN, .i64, 1, 0⟩, tcol 1], [t0], 1⟩ ⟨[⟨uxN, .str, 1, 0⟩, tcol 1], [t0], 1⟩ = true ∧
    sameSig ⟨[⟨vN, .i64, 1, 0⟩, tcol 1], [t0], 1⟩ ⟨[⟨vN, .str, 1, 0⟩, tcol 1], [t0], 1⟩ = false := by decide +kernel

end Arc.C04
