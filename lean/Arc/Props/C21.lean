import Arc.Model.C21
import Arc.Model.C21Current
import Arc.Generated.C21
import Arc.Proofs.C21.Full
import Arc.Proofs.C21.Auth
import Arc.Proofs.C21.After
import Arc.Model.C21Replay
/-!
# C21 — revoked, deleted or rotated token values stop authenticating immediately

Property theorems over the interleaving LTS of `Arc/Model/C21.lean` (any number of verifier threads,
one mutator, all interleavings, clock ticks and janitor runs anywhere).  Helper lemmas live in
`Arc/Proofs/C21/*`.

Outcome on the current tree (facts regenerated into `Arc.Generated.C21`):
* `C21_full` **holds** — but only because `NewAuthManager` pins the pool to one connection and
  `VerifyToken` keeps its `rows` open until it returns, so the mutator's SQL statement cannot run
  between a verifier's database read and its cache insert (`serialDB`; the generation guard is NOT in
  the source).  `C21_full_applies` re-checks exactly that fact on every run; without it the
  stale-insert schedule of DESIGN.md is a counterexample: `C21_full_witness`.  `C21_partial` needs
  neither protection.  All three additionally need `hitTouch = false`: the cache-hit path does not write
  the cache after its RUnlock (regenerated fact `hitPathWritesCache`; `C21_full_touch_witness` otherwise).
* `C21_authn_iff` **holds** since /repo b9131b8 (the cache-hit path re-checks the token's own
  `expires_at`): `C21_authn_applies` ties it to the source, `C21_authn_iff_current` is the checked full
  statement.  `C21_authn_expiry_witness` documents what happened before that commit (an expired token
  authenticated from the cache for up to one cache TTL); `C21_authn_iff_partial` holds regardless.
-/
namespace Arc.C21

/-- no verification has started: the thread clauses of `Inv` and `ConnOK` hold vacuously -/
theorem inv_at_start {cfg : Cfg} {s : State} (hc : CacheOK s.sh.db s.m s.sh.cache)
    (hv : ∀ v ∈ s.vs, v.pc = .start) (hm : s.m.inval = true) : Inv cfg s :=
  ⟨hc, fun i v hi hp => (by rw [hv v (List.mem_of_getElem? hi)] at hp; rcases hp with h | h <;> cases h),
    fun i v hi hp => absurd (hv v (List.mem_of_getElem? hi)) hp, hm⟩

theorem connOK_at_start {s : State} (hv : ∀ v ∈ s.vs, v.pc = .start) : ConnOK s :=
  fun i v hi hh => by rw [hv v (List.mem_of_getElem? hi)] at hh; rcases hh with h | h | h <;> cases h

/-- the core of `C21_full` and `C21_partial`: when the mutator has returned (invariant intact), the
database holds no enabled row for a killed value (`PostOK`), while a success of a verification started
afterwards would be justified by the row the database holds (`after_return`) -/
theorem killed_after_return {cfg : Cfg} (hnt : cfg.hitTouch = false) {s0 s1 s2 : State} {pre post : List Ev}
    {i : Nat} {v v' : VThread} (hm0 : s0.m.pc = .start) (h1 : run cfg s0 pre = some s1) (hI1 : Inv cfg s1)
    (hdone : s1.m.pc = .done) (hv : s1.vs[i]? = some v) (hstart : v.pc = .start) (hres : v.res = none)
    (hold : ∀ nv, s0.m.kind = .rotate nv → v.val ≠ nv) (hkind : ∀ e, s0.m.kind ≠ .setexp e)
    (h2 : run cfg s1 post = some s2) (hv' : s2.vs[i]? = some v') : v'.res ≠ some true := by
  intro hok
  obtain ⟨hval, r, hdb, hen, hh, _⟩ := after_return hnt hI1 hdone hv hstart hres h2 hv' hok
  have hP : PostOK s1 v.val :=
    run_induction (fun _ => postOK_step) ⟨⟨hold, hkind⟩, fun h => absurd hm0 h⟩ h1
  exact hP.2 (by rw [hdone]; nofun) r hdb hen (hh.trans hval)

/-- **The property (first sentence), for one configuration of the source facts.**
From any state the invariant allows (any earlier traffic, warm cache), along ANY interleaving `pre` in
which the mutator runs to completion, and ANY continuation `post`: a verification that had not started
when the mutator returned (`pc = start`, no result) and presents a value the mutation kills (any value
for revoke/delete; any value but the new one for rotate) never authenticates. -/
def FullClaim (cfg : Cfg) : Prop :=
  ∀ (s0 s1 s2 : State) (pre post : List Ev) (i : Nat) (v v' : VThread),
    Inv cfg s0 → (cfg.serialDB = true → ConnOK s0) → s0.m.pc = .start →
    run cfg s0 pre = some s1 → s1.m.pc = .done →
    s1.vs[i]? = some v → v.pc = .start → v.res = none →
    (∀ nv, s0.m.kind = .rotate nv → v.val ≠ nv) → (∀ e, s0.m.kind ≠ .setexp e) →
    run cfg s1 post = some s2 → s2.vs[i]? = some v' → v'.res ≠ some true

/-- **C21_full.** Holds whenever the source has at least one of the two protections: the serialising
single connection (today) or the generation-guarded insert (the proposed repair). Any `n`, all
interleavings. Second hypothesis: the cache-hit path does not write the cache after releasing the read
lock (`hitTouch = false`; `C21_full_touch_witness` shows it is needed even with the single connection). -/
theorem C21_full (cfg : Cfg) (hcfg : cfg.serialDB = true ∨ cfg.genGuard = true)
    (hnt : cfg.hitTouch = false) : FullClaim cfg := by
  intro s0 s1 s2 pre post i v v' hI hC hm0 h1 hdone hv hstart hres hold hkind h2 hv'
  have hI1 := (run_induction (fun _ => inv_conn_step hcfg hnt) ⟨hI, hC⟩ h1).1
  exact killed_after_return hnt hm0 h1 hI1 hdone hv hstart hres hold hkind h2 hv'

/-- **C21_full_applies.** The facts regenerated from the CURRENT source provide a protection
(today: `db.SetMaxOpenConns(1)` + rows held across the insert). Editing either away without adding
the generation guard makes this `decide` fail. -/
theorem C21_full_applies :
    ((serialDBNow || Arc.Generated.C21.genGuard) && !Arc.Generated.C21.hitPathWritesCache) = true := by
  decide

/-- **C21_full_current.** The property for the LTS configured from the current source, any cache TTL
and cache size. -/
theorem C21_full_current (ttl maxCache : Nat) : FullClaim (currentCfg ttl maxCache) := by
  have h := C21_full_applies
  simp only [Bool.and_eq_true, Bool.or_eq_true, Bool.not_eq_eq_eq_not, Bool.not_true] at h
  exact C21_full _ h.1 h.2

/-- **C21_invalidation_sites.** Every mutator of the current source (direct and cluster-apply) calls
`InvalidateCache` after its SQL statement — the `inval = true` component of the invariant. -/
theorem C21_invalidation_sites : ∀ m ∈ Arc.Generated.C21.mutators, m.2.2.2 = true := by decide

/-! ### the counterexample DESIGN.md predicted — real only without `serialDB` and `genGuard` -/

def cfgUnprotected : Cfg :=
  { serialDB := false, genGuard := false, hitChecksExpiry := false, hitTouch := false, ttl := 3600, maxCache := 100 }

def rowA : Row := { hashOf := 1, legacy := false, enabled := true, expiry := none }

def sA : State :=
  { sh := { db := some rowA, cache := [], gen := 0, now := 0, conn := none }
    vs := [{ val := 1 }, { val := 1 }]
    m := { kind := .revoke, cluster := false, inval := true } }

/-- V.lookup V.dbread │ M.dbupdate M.invalidate │ V.hashcheck V.insert V.return │ V'.lookup(hit) V'.return -/
def staleInsertPre : List Ev := [.v 0, .v 0, .m, .m]
def staleInsertPost : List Ev := [.v 0, .v 0, .v 0, .v 1, .v 1]

/-- **C21_full_witness.** With a pool larger than one connection (or rows closed before the insert)
and no generation guard, a verifier that read the row before the revoke inserts its cache entry after
the invalidation, and a verification that starts after `RevokeToken` returned authenticates. -/
theorem C21_full_witness : ¬ FullClaim cfgUnprotected := fun h =>
  -- the `rfl`s run the schedule: they fix the intermediate and final state and read the result off
  h sA _ _ staleInsertPre staleInsertPost 1 _ _ (inv_at_start nofun (by decide) rfl) nofun rfl rfl rfl rfl rfl rfl
    nofun nofun rfl rfl rfl

/-! ### a cache-hit path that writes the cache defeats the single connection -/

def cfgTouch : Cfg :=
  { serialDB := true, genGuard := false, hitChecksExpiry := true, hitTouch := true, ttl := 3600, maxCache := 100 }

/-- warm cache: the entry for value 1 was inserted at t=0 (expires 3600); it is now t=2000, past half. -/
def sT : State :=
  { sh := { db := some rowA, cache := [(1, { info := rowA, cexp := 3600 })], gen := 0, now := 2000, conn := none }
    vs := [{ val := 1 }, { val := 1 }]
    m := { kind := .revoke, cluster := false, inval := true } }

/-- **C21_full_touch_witness.** With a sliding-expiration re-insert on the hit path (seeded change
C21-b2): V.lookup(hit) │ M.dbupdate M.invalidate │ V.touch+return │ V'.lookup(hit) — the revoked value
authenticates from the cache after `RevokeToken` returned, single connection notwithstanding. -/
theorem C21_full_touch_witness : ¬ FullClaim cfgTouch := fun h =>
  h sT _ _ [.v 0, .m, .m] [.v 0, .v 1, .v 1] 1 _ _
    (inv_at_start (fun k e hke => by
      obtain ⟨rfl, rfl⟩ := Prod.mk.inj (List.mem_singleton.1 hke)
      exact .inl ⟨⟨rfl, rfl⟩, rfl⟩) (by decide) rfl)
    (fun _ => connOK_at_start (by decide)) rfl rfl rfl rfl rfl rfl nofun nofun rfl rfl rfl

/-! ## `C21_partial` — no assumption on the source facts -/

def noReaders (s : State) : Bool := s.vs.all (fun v => v.pc != .row && v.pc != .preins)

/-- decidable carve-out: whenever the mutator's SQL statement executes, no verification sits between
its database read and its cache insert (in particular: no verification in flight across the mutation). -/
def quietAtUpdate (cfg : Cfg) : State → List Ev → Bool
  | _, [] => true
  | s, e :: es =>
    (if e = Ev.m ∧ s.m.pc = MPc.start then noReaders s else true) &&
      (match step cfg s e with
       | none => true
       | some s' => quietAtUpdate cfg s' es)

theorem noReaders_sound {s : State} (h : noReaders s = true) : NoReaders s :=
  fun i v hi => by simpa using List.all_eq_true.1 h v (List.mem_of_getElem? hi)

theorem inv_run_quiet {cfg : Cfg} (hnt : cfg.hitTouch = false) {evs : List Ev} {s s' : State} (hI : Inv cfg s)
    (hq : quietAtUpdate cfg s evs = true) (hr : run cfg s evs = some s') : Inv cfg s' := by
  induction evs generalizing s with
  | nil => cases hr; exact hI
  | cons e es ih =>
    simp only [run] at hr
    split at hr
    · cases hr
    · rename_i s1 hs1
      simp only [quietAtUpdate, hs1, Bool.and_eq_true] at hq
      refine ih (inv_step hnt hI (step_of_step hs1) (.inr ?_)) hq.2 hr
      by_cases hm : e = .m ∧ s.m.pc = .start
      · exact .inr (noReaders_sound (by simpa [hm] using hq.1))
      · exact .inl hm

/-- **C21_partial.** For EVERY configuration of the source facts (no single connection, no generation
guard): if no verification holds a database row at the moment the mutator's SQL statement runs, then
no verification started after the mutator returned authenticates the old value. -/
theorem C21_partial (cfg : Cfg) (hnt : cfg.hitTouch = false)
    (s0 s1 s2 : State) (pre post : List Ev) (i : Nat) (v v' : VThread)
    (hI : Inv cfg s0) (hm0 : s0.m.pc = .start)
    (hquiet : quietAtUpdate cfg s0 pre = true)
    (h1 : run cfg s0 pre = some s1) (hdone : s1.m.pc = .done)
    (hv : s1.vs[i]? = some v) (hstart : v.pc = .start) (hres : v.res = none)
    (hold : ∀ nv, s0.m.kind = .rotate nv → v.val ≠ nv) (hkind : ∀ e, s0.m.kind ≠ .setexp e)
    (h2 : run cfg s1 post = some s2) (hv' : s2.vs[i]? = some v') : v'.res ≠ some true :=
  killed_after_return hnt hm0 h1 (inv_run_quiet hnt hI hquiet h1) hdone hv hstart hres hold hkind h2 hv'

/-! ## `C21_authn_iff` — a value authenticates only if issued, enabled and not expired -/

/-- **The property (second sentence).** Along any interleaving from a state whose cache is justified
(`Auth`, e.g. a cold start: `auth_cold`), a verification that returned a TokenInfo is justified by a row
`r` the database held (before or after the mutation) with: the stored hash verifies the presented value
(issued), `enabled`, and not expired at the verification's own clock reading. -/
def AuthnClaim (cfg : Cfg) : Prop :=
  ∀ (s0 s1 : State) (evs : List Ev) (i : Nat) (v : VThread),
    Auth cfg s0.sh.db s0 → run cfg s0 evs = some s1 → s1.vs[i]? = some v → v.res = some true →
    ∃ r, (s0.sh.db = some r ∨ s1.sh.db = some r) ∧ r.hashOf = v.val ∧ r.enabled = true ∧
      expired r.expiry v.now = false

/-- **C21_authn_iff.** Holds for every configuration in which the cache-hit path re-checks the
token's own expiry (the current source since b9131b8, see `C21_authn_applies`). Sequential and
concurrent. -/
theorem C21_authn_iff (cfg : Cfg) (hx : cfg.hitChecksExpiry = true) (hnt : cfg.hitTouch = false) :
    AuthnClaim cfg := by
  intro s0 s1 evs i v hA hr hv hres
  obtain ⟨r, hseen, hen, hh, hu⟩ := (auth_run hnt hA hr).res i v hv hres
  exact ⟨r, hseen, hh, hen, expired_of_unexp hu (.inl hx)⟩

/-- **C21_authn_iff_partial.** What holds for EVERY configuration, the current source included:
issued ∧ enabled ∧ (not expired, or — via a cache hit — less than one cache TTL past the expiry).
In particular the full statement holds for tokens without an expiry and when caching is off. -/
theorem C21_authn_iff_partial (cfg : Cfg) (hnt : cfg.hitTouch = false)
    (s0 s1 : State) (evs : List Ev) (i : Nat) (v : VThread)
    (hA : Auth cfg s0.sh.db s0) (hr : run cfg s0 evs = some s1) (hv : s1.vs[i]? = some v)
    (hres : v.res = some true) :
    ∃ r, (s0.sh.db = some r ∨ s1.sh.db = some r) ∧ r.hashOf = v.val ∧ r.enabled = true ∧
      (∀ t, r.expiry = some t → v.now < t + cfg.ttl ∨ v.now ≤ t) ∧
      ((r.expiry = none ∨ cfg.ttl = 0) → expired r.expiry v.now = false) := by
  obtain ⟨r, hseen, hen, hh, hu⟩ := (auth_run hnt hA hr).res i v hv hres
  exact ⟨r, hseen, hh, hen, fun t ht => (hu t ht).symm.imp_left And.right, fun hc => expired_of_unexp hu (.inr hc)⟩

/-- **C21_authn_seq.** Sequential exactness: with no mutation in the history, a value authenticates
only if the row the database holds NOW carries a hash of that value and is enabled. -/
theorem C21_authn_seq (cfg : Cfg) (hnt : cfg.hitTouch = false) (s0 s1 : State) (evs : List Ev) (i : Nat) (v : VThread)
    (hA : Auth cfg s0.sh.db s0) (hm0 : s0.m.pc = .start) (hnom : ∀ e ∈ evs, e ≠ Ev.m)
    (hr : run cfg s0 evs = some s1) (hv : s1.vs[i]? = some v) (hres : v.res = some true) :
    ∃ r, s1.sh.db = some r ∧ r.hashOf = v.val ∧ r.enabled = true := by
  have hA1 := auth_run hnt hA hr
  obtain ⟨r, hseen, hen, hh, _⟩ := hA1.res i v hv hres
  -- the mutator has not moved, so the database still holds what it held at the start
  have hdb := hA1.dbfix ((congrArg MThread.pc (run_no_m hnom hr)).trans hm0)
  exact ⟨r, hseen.elim hdb.trans id, hh, hen⟩

/-! ### the expiry counterexample — real before /repo b9131b8, kept as the tightness witness -/

def cfgNoHitExpiry : Cfg :=
  { serialDB := true, genGuard := false, hitChecksExpiry := false, hitTouch := false, ttl := 3600, maxCache := 100 }

def sE : State :=
  { sh := { db := some { hashOf := 1, legacy := false, enabled := true, expiry := some 10 },
            cache := [], gen := 0, now := 0, conn := none }
    vs := [{ val := 1 }, { val := 1 }]
    m := { kind := .revoke, cluster := false, inval := true } }

/-- verify at t=0 (fills the cache), clock to t=60 (token expired at t=10), verify again: cache hit. -/
def expiryTrace : List Ev := [.v 0, .v 0, .v 0, .v 0, .v 0, .tick 60, .v 1, .v 1]

/-- **C21_authn_expiry_witness.** Without the expiry re-check on the cache-hit path an expired token
authenticates (sequentially — no concurrency needed). -/
theorem C21_authn_expiry_witness : ¬ AuthnClaim cfgNoHitExpiry := by
  intro h
  obtain ⟨r, hseen, _, _, hexp⟩ := h sE _ expiryTrace 1 _ (auth_cold rfl (by decide)) rfl rfl rfl
  -- before and after the run the database holds the row of `sE`, expired at 10 < 60
  rcases hseen with hs | hs <;> cases hs <;> cases hexp

/-- **C21_authn_applies.** The CURRENT source re-checks `entry.info.ExpiresAt` in the cache-hit
condition of `VerifyToken` (fixed in /repo b9131b8). Removing that conjunct makes this `decide` fail. -/
theorem C21_authn_applies :
    (Arc.Generated.C21.hitChecksExpiry && !Arc.Generated.C21.hitPathWritesCache) = true := by decide

/-- **C21_authn_iff_current.** The second sentence of the property at full strength for the LTS
configured from the current source, any cache TTL and cache size. -/
theorem C21_authn_iff_current (ttl maxCache : Nat) : AuthnClaim (currentCfg ttl maxCache) := by
  have h := C21_authn_applies
  simp only [Bool.and_eq_true, Bool.not_eq_eq_eq_not, Bool.not_true] at h
  exact C21_authn_iff _ h.1 h.2

/-- what the regenerated facts say about the expiry clause today: the full claim once the cache-hit
path re-checks `ExpiresAt`, the counterexample until then. Re-checked on every run. -/
def ExpiryClaimNow : Prop :=
  if (Arc.Generated.C21.hitChecksExpiry && !Arc.Generated.C21.hitPathWritesCache) = true then
    ∀ ttl maxCache, AuthnClaim (currentCfg ttl maxCache)
  else ¬ AuthnClaim cfgNoHitExpiry

/-- **C21_authn_current.** Proved for whichever branch the current source selects. -/
theorem C21_authn_current : ExpiryClaimNow := by
  unfold ExpiryClaimNow
  split
  · rename_i hx
    intro ttl maxCache
    simp only [Bool.and_eq_true, Bool.not_eq_eq_eq_not, Bool.not_true] at hx
    exact C21_authn_iff _ hx.1 hx.2
  · exact C21_authn_expiry_witness

/-! ## after the mutator returned: every later success is justified by the CURRENT row
(covers `UpdateToken`/`ApplyUpdateToken` changing `expires_at` — the "has not expired" clause after a
shortened expiry — as well as revoke/delete/rotate) -/

/-- **C21_authn_after_return.** From any invariant state in which the mutator (ANY kind: revoke, delete,
rotate, expiry update) has returned, along any interleaving: a verification that had not started
authenticates only if the row the database holds now — the post-mutation row — is enabled, carries a
hash of the presented value and is not expired at the verification's own clock reading. Needs the
cache-hit expiry re-check, a hit path that does not write the cache, and (inside `Inv`) that the mutator
invalidated the cache (`C21_invalidation_sites`: every mutator, `UpdateToken` included, unconditionally). -/
theorem C21_authn_after_return (cfg : Cfg) (hx : cfg.hitChecksExpiry = true) (hnt : cfg.hitTouch = false)
    (s1 s2 : State) (post : List Ev) (i : Nat) (v v' : VThread)
    (hI : Inv cfg s1) (hdone : s1.m.pc = .done)
    (hv : s1.vs[i]? = some v) (hstart : v.pc = .start) (hres : v.res = none)
    (h2 : run cfg s1 post = some s2) (hv' : s2.vs[i]? = some v') (hok : v'.res = some true) :
    ∃ r, s1.sh.db = some r ∧ r.enabled = true ∧ r.hashOf = v'.val ∧ expired r.expiry v'.now = false := by
  obtain ⟨_, r, hdb, hen, hh, hexp⟩ := after_return hnt hI hdone hv hstart hres h2 hv' hok
  exact ⟨r, hdb, hen, hh, hexp hx⟩

/-- **C21_authn_after_return_current.** …for the LTS configured from the current source, from any state
before the mutation (invariant + connection discipline) through any interleaving `pre` completing it. -/
theorem C21_authn_after_return_current (ttl maxCache : Nat)
    (s0 s1 s2 : State) (pre post : List Ev) (i : Nat) (v v' : VThread)
    (hI : Inv (currentCfg ttl maxCache) s0) (hC : (currentCfg ttl maxCache).serialDB = true → ConnOK s0)
    (h1 : run (currentCfg ttl maxCache) s0 pre = some s1) (hdone : s1.m.pc = .done)
    (hv : s1.vs[i]? = some v) (hstart : v.pc = .start) (hres : v.res = none)
    (h2 : run (currentCfg ttl maxCache) s1 post = some s2) (hv' : s2.vs[i]? = some v')
    (hok : v'.res = some true) :
    ∃ r, s1.sh.db = some r ∧ r.enabled = true ∧ r.hashOf = v'.val ∧ expired r.expiry v'.now = false := by
  have hf := C21_full_applies
  have ha := C21_authn_applies
  simp only [Bool.and_eq_true, Bool.or_eq_true, Bool.not_eq_eq_eq_not, Bool.not_true] at hf ha
  have hI1 := (run_induction (fun _ => inv_conn_step hf.1 hf.2) ⟨hI, hC⟩ h1).1
  exact C21_authn_after_return _ ha.1 ha.2 s1 s2 post i v v' hI1 hdone hv hstart hres h2 hv' hok

/-! ## cluster-apply LOG REPLAY (node restart re-applies the Raft log against the persistent row) -/

/-- **C21_replay_create_fact.** In the current source an identical replayed `ApplyCreateToken` returns
before any write and the INSERT is not an upsert. -/
theorem C21_replay_create_fact : Arc.Generated.C21.createReplayNoop = true := by decide

/-- **C21_replay_create_inert.** Under that fact a replayed create never changes an existing row. -/
theorem C21_replay_create_inert (db : Option Row) (r : Row) (h : db ≠ none) :
    applyEntry true db (.create r) = db := by
  cases db with
  | none => exact absurd rfl h
  | some r0 => simp only [applyEntry]; split <;> rfl

theorem replay_disabled_entry (r : Row) (hr : r.enabled = false) (x : LogEntry) (hx : x ≠ .mutate .delete) :
    ∃ r', applyEntry true (some r) x = some r' ∧ r'.enabled = false := by
  cases x with
  | create c => exact ⟨r, by simp only [applyEntry]; split <;> rfl, hr⟩
  | mutate k =>
    cases k with
    | revoke => exact ⟨_, rfl, rfl⟩
    | delete => exact absurd rfl hx
    | rotate nv => exact ⟨_, rfl, hr⟩
    | setexp e => exact ⟨_, rfl, hr⟩

/-- **C21_replay_revoked_stays.** Under that fact, re-applying ANY log without a delete entry (in
particular any prefix of the node's own log) over a revoked row never re-enables it: a revoked token is
rejected after every replayed entry, for every value and clock reading. -/
theorem C21_replay_revoked_stays (L : List LogEntry) (r : Row) (hr : r.enabled = false)
    (hnd : ∀ x ∈ L, x ≠ LogEntry.mutate .delete) (val now : Nat) :
    accepts (applyLog true (some r) L) val now = false := by
  induction L generalizing r with
  | nil => simp [applyLog, accepts, hr]
  | cons x xs ih =>
    obtain ⟨r', h1, h2⟩ := replay_disabled_entry r hr x (hnd x List.mem_cons_self)
    simp only [applyLog, h1]
    exact ih r' h2 fun y hy => hnd y (List.mem_cons_of_mem _ hy)

/-- **C21_replay_witness.** With an upsert on the identical-replay branch (seeded change C21-c1):
create, revoke, restart — the replayed create re-enables the row and the revoked value authenticates. -/
theorem C21_replay_witness :
    accepts (applyLog false none [.create rowA, .mutate .revoke]) 1 0 = false ∧
    accepts (applyLog false (applyLog false none [.create rowA, .mutate .revoke]) [.create rowA]) 1 0 = true := by
  decide +kernel

/-- **C21_replay_window_witness.** What the model (and the real `Apply*Token`, see the harness tags
`replay-window:*`) does under replay even WITH the fact: a deleted row is re-inserted by the replayed
create until the replayed delete lands; the value of an intermediate rotation, and a longer earlier
expiry, come back until the later entry is re-applied. These are outside `C21_replay_revoked_stays`. -/
theorem C21_replay_window_witness :
    (accepts (applyLog true none [.create rowA, .mutate .delete]) 1 0 = false ∧
      accepts (applyLog true (applyLog true none [.create rowA, .mutate .delete]) [.create rowA]) 1 0 = true) ∧
    (accepts (applyLog true none [.create rowA, .mutate (.rotate 2), .mutate (.rotate 3)]) 2 0 = false ∧
      accepts (applyLog true (applyLog true none [.create rowA, .mutate (.rotate 2), .mutate (.rotate 3)])
        [.create rowA, .mutate (.rotate 2)]) 2 0 = true) ∧
    (accepts (applyLog true none [.create rowA, .mutate (.setexp (some 100)), .mutate (.setexp (some 10))]) 1 60 = false ∧
      accepts (applyLog true (applyLog true none [.create rowA, .mutate (.setexp (some 100)), .mutate (.setexp (some 10))])
        [.create rowA, .mutate (.setexp (some 100))]) 1 60 = true) := by
  decide +kernel

def cfgSerial : Cfg :=
  { serialDB := true, genGuard := false, hitChecksExpiry := false, hitTouch := false, ttl := 3600, maxCache := 100 }

/-- hypotheses of `C21_full` are satisfiable with real concurrency: v0 authenticates and is cached,
v1 holds the row (so the revoke has to wait: the `.m` step is *disabled* there), v1 inserts and
returns, the revoke runs and invalidates; v2 starts afterwards and is refused. -/
example :
    (run cfgSerial { sA with vs := [{ val := 1 }, { val := 1 }, { val := 1 }] }
        [.v 0, .v 0, .v 0, .v 0, .v 0, .tick 3600, .v 1, .v 1]).map
      (fun s => (step cfgSerial s .m).isNone) = some true ∧
    (run cfgSerial { sA with vs := [{ val := 1 }, { val := 1 }, { val := 1 }] }
        [.v 0, .v 0, .v 0, .v 0, .v 0, .tick 3600, .v 1, .v 1, .v 1, .v 1, .v 1, .m, .m, .v 2, .v 2, .v 2]).map
      (fun s => (s.m.pc, s.vs.map (·.res), s.sh.cache.length)) =
      some (.done, [some true, some true, some false], 0) := by
  constructor <;> decide +kernel

/-- hypotheses of `C21_authn_iff` / `_partial`: a cold start satisfies `Auth`, and a run with a real
success exists (v0 above). -/
example : Auth cfgSerial sE.sh.db sE ∧
    (run cfgSerial sE [.v 0, .v 0, .v 0, .v 0, .v 0]).map (fun s => s.vs.map (·.res)) =
      some [some true, none] := by
  constructor
  · exact auth_cold rfl (by decide)
  · decide +kernel

/-- the carve-out of `C21_partial` is satisfiable without any protection in the source. -/
example : quietAtUpdate cfgUnprotected sA [.v 0, .v 0, .v 0, .v 0, .v 0, .m, .m, .v 1, .v 1, .v 1] = true ∧
    (run cfgUnprotected sA [.v 0, .v 0, .v 0, .v 0, .v 0, .m, .m, .v 1, .v 1, .v 1]).map
      (fun s => s.vs.map (·.res)) = some [some true, some false] := by
  constructor <;> decide +kernel

end Arc.C21
