import Arc.Proofs.C12.Repair
import Arc.Proofs.C12.Cache
/-!
# C12 — tier migration never makes data unreadable or visible twice

The migration procedure is `Arc.Generated.C12.migrateSteps` (regenerated from `MigrateFile` on every
run) interpreted by `Arc.C12.runSteps`; reconciliation, scan and the cycle order use the generated
guard / probe / delete tiers and phase list; visibility uses the generated tier-selection table of
`buildMultiTierReadParquet`. The decidable checks below (`SafeMig`, `OnceMig`, …) are evaluated over
those generated terms, so a source edit that changes a step, its error policy, the order of two
mutations or the tier selection re-checks every theorem of this file.
-/
namespace Arc.C12
open Arc.Generated.C12

/-! ## reachable states: any history of operations, each under ANY fault oracle -/

/-- States reachable from a freshly ingested file by any sequence of migration attempts, orphan
reconciliations and registration scans (hence also whole cycles), each executed under an arbitrary
oracle: any step failures in any combination, and a crash at any mutation (a crash at the k-th
mutation is the oracle `ok^(k-1) ++ [crash]`; whatever ran before it is the reachable state, and the
next operation starts from it — that is the restart). `n` is the file size in chunks. -/
inductive Reachable : FileSt → Prop
  | init : Reachable init
  | mig (n : Nat) (orc : List Outcome) {s : FileSt} : Reachable s → Reachable (migOp n s orc).1.st
  | recon (orc : List Outcome) {s : FileSt} : Reachable s → Reachable (recOp s orc).1.st
  | scan (orc : List Outcome) {s : FileSt} : Reachable s → Reachable (scanOp s orc).1.st
  | age {s : FileSt} : Reachable s → Reachable (ageOp s)   -- more than the 48 h reconcile window passes

/-! ## visibility through the abstraction -/

def visAbs (sibHot sibCold : Bool) (a : Abs) : Nat :=
  ((globbed (a.tier :: ((if sibHot then [Tier.hot] else []) ++ (if sibCold then [Tier.cold] else [])))).filter a.has).length

theorem visible_eq_visAbs (sh sc : Bool) (s : FileSt) : visibleCopies sh sc s = visAbs sh sc (absOf s) := by
  unfold visibleCopies visAbs actualTiers
  have : s.has = (absOf s).has := funext (absOf_has s)
  rw [this]
  rfl

def bools : List Bool := [false, true]

/-! ## decidable obligations on the generated procedure -/

/-- Every abstract run of the step list, from every state in which the metadata tier is complete and
the file is a migration candidate, ends (normally, with an error, or at a crash) in a state in which
the metadata tier is complete. -/
def SafeMig (steps : List Step) : Bool :=
  allAbs.all fun a => !(a.inv && decide (a.tier = srcTier)) || (absRun steps a).all fun p => p.1.inv

def SafeRec : Bool := allAbs.all fun a => !a.inv || (absRec a).all Abs.inv
def SafeScan : Bool := allAbs.all fun a => !a.inv || (absScan a).all Abs.inv

/-- If the metadata tier is complete, a query returns the file's rows at least once. -/
def VisibleInv : Bool :=
  allAbs.all fun a => !a.inv || bools.all fun sh => bools.all fun sc => decide (1 ≤ visAbs sh sc a)

/-- A fault-free migration of a candidate ends with exactly one visible copy. -/
def OnceMig (steps : List Step) : Bool :=
  allAbs.all fun a => !(a.inv && decide (a.tier = srcTier)) ||
    match absRunOk steps a with
    | some a' => bools.all fun sh => bools.all fun sc => decide (visAbs sh sc a' = 1)
    | none => false

/-- The states in which a finished reconciliation still leaves two visible copies: the metadata says
hot, a complete cold copy exists as well (cold orphan), and the measurement has other cold files. -/
def coldOrphan (sibCold : Bool) (a : Abs) : Bool :=
  decide (a.tier = Tier.hot) && a.hot && a.cold && sibCold

/-- … and the second kind: a hot orphan (metadata cold, complete copies in both tiers) whose
`migrated_at` is older than the reconcile window, in a measurement that has other hot files.
`ReconcileOrphanedFiles` never looks at it; what removes it is the next CYCLE, whose scan
re-registers the hot object as hot and gets it re-migrated (`C12_once_cycle`). -/
def staleHotOrphan (sibHot : Bool) (a : Abs) : Bool :=
  decide (a.tier = Tier.cold) && a.hot && a.cold && !a.recent && sibHot

def OnceRecPartial : Bool :=
  allAbs.all fun a => !a.inv || bools.all fun sh => bools.all fun sc =>
    coldOrphan sc (absRecOk a) || staleHotOrphan sh (absRecOk a) || decide (visAbs sh sc (absRecOk a) = 1)

/-- A fault-free cycle (generated phase order) ends with exactly one visible copy. -/
def OnceCycle : Bool :=
  allAbs.all fun a => !a.inv ||
    match absPhasesOk cycleOrder a with
    | some a' => bools.all fun sh => bools.all fun sc => decide (visAbs sh sc a' = 1)
    | none => false

/-- **C12_steps_safe.** The obligations hold for the procedure extracted from the CURRENT source. -/
theorem C12_steps_safe :
    SafeMig migrateSteps = true ∧ SafeRec = true ∧ SafeScan = true ∧ VisibleInv = true ∧
    OnceMig migrateSteps = true ∧ OnceRecPartial = true ∧ OnceCycle = true := by
  decide +kernel

/-- **C12_copy_src_error_propagates.** The model treats a source-read failure of the streaming copy
(`Outcome.srcfail`) as a failure of the whole copy step (no object under the final cold name); that
is justified by the shape factgen re-checks in `copyFileStreaming` on every run (the reader's error
closes the pipe WITH the error and is returned). -/
theorem C12_copy_src_error_propagates : copySrcErrPropagates = true := by decide

/-- … and in the model a source-read failure at any chunk never produces a cold object under the final name. -/
theorem C12_srcfail_no_final_object (k w : Nat) (x : Exec) (r : List Outcome)
    (h : x.orc = Outcome.srcfail :: r) :
    (copyChunks (k + 1) w x).2 = R.failed ∧ (copyChunks (k + 1) w x).1.st = x.st := by
  simp [copyChunks, pop, h]

theorem allAbs_all {p : Abs → Bool} (h : allAbs.all p = true) (a : Abs) : p a = true :=
  List.all_eq_true.mp h a (mem_allAbs a)

theorem bools_all {p : Bool → Bool} (h : bools.all p = true) (b : Bool) : p b = true :=
  List.all_eq_true.mp h b (by cases b <;> decide)

/-- an obligation of the form "from every abstract state with the invariant, …", used at such a state -/
theorem of_inv {p : Abs → Bool} (h : (allAbs.all fun a => !a.inv || p a) = true) {a : Abs}
    (ha : a.inv = true) : p a = true := by
  simpa [ha] using allAbs_all h a

/-- … and of the form "from every such state that is a migration candidate, …" -/
theorem of_cand {p : Abs → Bool} (h : (allAbs.all fun a => !(a.inv && decide (a.tier = srcTier)) || p a) = true)
    {a : Abs} (ha : a.inv = true) (hc : a.tier = srcTier) : p a = true := by
  simpa [ha, hc] using allAbs_all h a

/-- an operation whose every abstract successor keeps the invariant keeps it in the concrete run -/
theorem inv_step {next : Abs → List Abs} (h : (allAbs.all fun a => !a.inv || (next a).all Abs.inv) = true)
    {a a' : Abs} (ha : a.inv = true) (hm : a' ∈ next a) : a'.inv = true :=
  List.all_eq_true.mp (of_inv h ha) a' hm

theorem mig_inv (n : Nat) {s : FileSt} (orc : List Outcome) (h : (absOf s).inv = true) :
    (absOf (migOp n s orc).1.st).inv = true := by
  have hm := migOp_sim n s orc
  unfold absMig at hm
  split at hm
  · rename_i hg
    obtain ⟨p, hp, hpe⟩ := List.mem_map.mp hm
    exact hpe ▸ List.all_eq_true.mp (of_cand C12_steps_safe.1 h hg) p hp
  · rw [List.mem_singleton.mp hm]
    exact h

theorem reachable_inv {s : FileSt} (h : Reachable s) : (absOf s).inv = true := by
  induction h with
  | init => decide
  | mig n orc _ ih => exact mig_inv n orc ih
  | recon orc _ ih => exact inv_step C12_steps_safe.2.1 ih (recOp_sim _ orc)
  | scan orc _ ih => exact inv_step C12_steps_safe.2.2.1 ih (scanOp_sim _ orc)
  | age _ ih => exact ih

/-- the invariant of the abstraction, read back on the file -/
theorem readable_of_inv {s : FileSt} (hi : (absOf s).inv = true) :
    (s.tier = Tier.hot → s.hot = true) ∧ (s.tier = Tier.cold → s.cold = true) := by
  unfold Abs.inv absOf at hi
  constructor <;> intro ht <;> simp only [ht, Abs.has] at hi <;> exact hi

/-- A whole `RunMigrationCycle` under any oracle stays inside `Reachable`. -/
theorem reachable_phases (n : Nat) (ps : List Phase) {s : FileSt} (orc : List Outcome) (h : Reachable s) :
    Reachable (runPhases n ps s orc).1 := by
  induction ps generalizing s orc with
  | nil => exact h
  | cons p rest ih =>
    have hp : Reachable (phaseOp n p s orc).1 := by
      cases p
      · exact Reachable.scan orc h
      · exact Reachable.mig n orc h
      · exact Reachable.recon orc h
    rw [runPhases]
    split
    · rename_i he; rw [he] at hp; exact hp
    · rename_i he; rw [he] at hp; exact ih _ hp

/-- **C12_readable.** In every reachable state — after any crash point and any sequence of step
failures, retries, reconciliations and scans, for every file size — the tier the metadata points to
holds the complete file. -/
theorem C12_readable {s : FileSt} (h : Reachable s) :
    (s.tier = Tier.hot → s.hot = true) ∧ (s.tier = Tier.cold → s.cold = true) :=
  readable_of_inv (reachable_inv h)

/-- **C12_readable_some_tier.** … in particular the complete contents are readable from at least one tier. -/
theorem C12_readable_some_tier {s : FileSt} (h : Reachable s) : s.hot = true ∨ s.cold = true := by
  have := C12_readable h
  cases ht : s.tier with
  | hot => exact Or.inl (this.1 ht)
  | cold => exact Or.inr (this.2 ht)

/-- **C12_visible.** … and a query over the measurement (tier selection of
`buildMultiTierReadParquet`, whatever other files the measurement has) returns the file's rows at
least once. -/
theorem C12_visible {s : FileSt} (h : Reachable s) (sibHot sibCold : Bool) :
    1 ≤ visibleCopies sibHot sibCold s := by
  rw [visible_eq_visAbs]
  exact of_decide_eq_true (bools_all (bools_all (of_inv C12_steps_safe.2.2.2.1 (reachable_inv h)) sibHot) sibCold)

/-- **C12_cycle_reachable.** `RunMigrationCycle` adds no new behaviour: under any oracle its result is reachable. -/
theorem C12_cycle_reachable (n : Nat) (orc : List Outcome) {s : FileSt} (h : Reachable s) :
    Reachable (cycleOp n s orc).1 :=
  reachable_phases n cycleOrder orc h

/-- **C12_once_migration.** Once a migration of the file has run to completion without a fault
(first attempt or a retry after any earlier crashes/failures), it reports success and queries see
each row exactly once, whatever other files the measurement has. -/
theorem C12_once_migration (n : Nat) (orc : List Outcome) {s : FileSt} (h : Reachable s)
    (hcand : s.tier = srcTier) (hok : AllOk orc) (sibHot sibCold : Bool) :
    (migOp n s orc).2 = some Exit.ok ∧ visibleCopies sibHot sibCold (migOp n s orc).1.st = 1 := by
  have ho := of_cand C12_steps_safe.2.2.2.2.1 (reachable_inv h) hcand
  split at ho
  · rename_i a' hr
    have hm : absMigOk (absOf s) = some a' := (if_pos hcand).trans hr
    obtain ⟨_, _, h3, h4⟩ := migOp_clean n hok hm
    refine ⟨h4 hcand, ?_⟩
    rw [visible_eq_visAbs, h3]
    exact of_decide_eq_true (bools_all (bools_all ho sibHot) sibCold)
  · cases ho

/-- "The migration or the orphan reconciliation has finished": `s'` is the state right after a
fault-free run of `MigrateTier` over the file while it was a candidate, or after a fault-free run
of `ReconcileOrphanedFiles` — from `s`, which may itself be the result of any earlier faults. -/
inductive Finished : FileSt → FileSt → Prop
  | migration (n : Nat) (orc : List Outcome) {s : FileSt} :
      s.tier = srcTier → AllOk orc → Finished s (migOp n s orc).1.st
  | reconciliation (orc : List Outcome) {s : FileSt} :
      AllOk orc → Finished s (recOp s orc).1.st

/-
**C12_once (FULL STATEMENT — FALSE for the current code, see `C12_once_witness`).**

  theorem C12_once {s s' : FileSt} (h : Reachable s) (hf : Finished s s') (sibHot sibCold : Bool) :
      visibleCopies sibHot sibCold s' = 1

i.e. "once the migration or orphan reconciliation has finished, queries see each row exactly once".
The migration half is true (`C12_once_migration`); the reconciliation half is not.
-/

/-- **C12_once_witness.** A crash after the streaming copy but before the metadata update
(`UpdateTier`) leaves a complete cold object whose metadata row still says hot. The reconciliation
only enumerates rows that say cold, so it finishes without error and without touching it; in a
measurement that has other cold files both tiers are globbed and every row is returned twice. -/
theorem C12_once_witness :
    let crashBeforeMeta : List Outcome := [.ok, .ok, .ok, .ok, .crash]   -- record, begin, chunk, done, ↯ meta
    let s1 := (migOp 1 init crashBeforeMeta).1.st
    let r := recOp s1 []
    (migOp 1 init crashBeforeMeta).2 = some Exit.crash ∧ Reachable s1 ∧ Finished s1 r.1.st ∧
    r.2 = { found := 0, deleted := 0, errors := 0, crashed := false } ∧
    r.1.st = { hot := true, cold := true, part := none, tier := .hot, pend := 1, recent := false } ∧
    visibleCopies false true r.1.st = 2 ∧ visibleCopies true true r.1.st = 2 := by
  exact ⟨by decide +kernel, Reachable.mig 1 _ Reachable.init, Finished.reconciliation [] allOk_nil,
    by decide +kernel, by decide +kernel, by decide +kernel, by decide +kernel⟩

/-- **C12_once_reconcile_partial.** Once a reconciliation has run to completion without a fault it
reports no error, and queries see each row exactly once — EXCEPT (`hcarve`, the known finding) when
the file is left as a cold orphan (metadata hot, complete copies in both tiers) in a measurement
that has other cold files, and EXCEPT (`hwin`, the stated window assumption) when it is a hot orphan
whose `migrated_at` is older than the 48 h window in a measurement with other hot files — that one is
not reconciliation's job: the scan + re-migration of the next cycle removes it (`C12_once_cycle`). -/
theorem C12_once_reconcile_partial (orc : List Outcome) {s : FileSt} (h : Reachable s) (hok : AllOk orc)
    (sibHot sibCold : Bool)
    (hcarve : ¬ ((recOp s orc).1.st.tier = Tier.hot ∧ (recOp s orc).1.st.hot = true ∧
                 (recOp s orc).1.st.cold = true ∧ sibCold = true))
    (hwin : ¬ ((recOp s orc).1.st.tier = Tier.cold ∧ (recOp s orc).1.st.hot = true ∧
               (recOp s orc).1.st.cold = true ∧ (recOp s orc).1.st.recent = false ∧ sibHot = true)) :
    (recOp s orc).2.errors = 0 ∧ (recOp s orc).2.crashed = false ∧
    visibleCopies sibHot sibCold (recOp s orc).1.st = 1 := by
  obtain ⟨h1, h2, _, h4⟩ := recOp_clean s orc hok
  refine ⟨h1, h2, ?_⟩
  have := bools_all (bools_all (of_inv C12_steps_safe.2.2.2.2.2.1 (reachable_inv h)) sibHot) sibCold
  rw [← h4] at this
  rw [visible_eq_visAbs]
  -- the two exceptions of the obligation are the two excluded by hypothesis
  simp only [coldOrphan, staleHotOrphan, absOf, Bool.or_eq_true, Bool.and_eq_true, Bool.not_eq_true'] at this
  rcases this with (⟨⟨⟨a, b⟩, c⟩, d⟩ | ⟨⟨⟨⟨a, b⟩, c⟩, d⟩, e⟩) | hv
  · exact absurd ⟨of_decide_eq_true a, b, c, d⟩ hcarve
  · exact absurd ⟨of_decide_eq_true a, b, c, d, e⟩ hwin
  · exact of_decide_eq_true hv

/-- **C12_once_partial.** Once the migration or the orphan reconciliation has finished, queries see
each row exactly once, unless the finished operation leaves a cold orphan (metadata hot, complete
copies in both tiers) in a measurement that has other cold files, or a hot orphan older than the
reconcile window (see `C12_once_reconcile_partial`). By `C12_once_migration` the exceptions can only
arise on the reconciliation branch; `C12_once_cycle` has no exception at all. -/
theorem C12_once_partial {s s' : FileSt} (h : Reachable s) (hf : Finished s s') (sibHot sibCold : Bool)
    (hcarve : ¬ (s'.tier = Tier.hot ∧ s'.hot = true ∧ s'.cold = true ∧ sibCold = true))
    (hwin : ¬ (s'.tier = Tier.cold ∧ s'.hot = true ∧ s'.cold = true ∧ s'.recent = false ∧ sibHot = true)) :
    visibleCopies sibHot sibCold s' = 1 := by
  cases hf with
  | migration n orc hc hok => exact (C12_once_migration n orc h hc hok sibHot sibCold).2
  | reconciliation orc hok => exact (C12_once_reconcile_partial orc h hok sibHot sibCold hcarve hwin).2.2

/-- **C12_once_cycle.** A fault-free `RunMigrationCycle` (scan, migrate, reconcile in the source's
order) from ANY reachable state — in particular from the cold-orphan state of the witness — ends
with each row visible exactly once: the retry inside the next cycle is what removes the duplicate. -/
theorem C12_once_cycle (n : Nat) (orc : List Outcome) {s : FileSt} (h : Reachable s) (hok : AllOk orc)
    (sibHot sibCold : Bool) :
    (cycleOp n s orc).2 = false ∧ visibleCopies sibHot sibCold (cycleOp n s orc).1 = 1 := by
  have ho := of_inv C12_steps_safe.2.2.2.2.2.2 (reachable_inv h)
  split at ho
  · rename_i a' hr
    obtain ⟨h1, h2⟩ := runPhases_clean n hok hr
    refine ⟨h1, ?_⟩
    rw [visible_eq_visAbs]
    unfold cycleOp
    rw [h2]
    exact of_decide_eq_true (bools_all (bools_all ho sibHot) sibCold)
  · cases ho

/-! ## queries in the running process: the tier cache -/

/-- Histories of the long-running process: the operations above plus virtual time, queries (which
fill the 30 s tier cache), ageing and further files of the measurement being ingested and migrated;
a crash inside an operation restarts the process with an empty cache. -/
inductive ReachableW : World → Prop
  | init (sibHot sibCold : Bool) : ReachableW { f := init, sibHot := sibHot, sibCold := sibCold }
  | mig (n : Nat) (orc : List Outcome) {w : World} : ReachableW w → ReachableW (wMig n w orc)
  | recon (orc : List Outcome) {w : World} : ReachableW w → ReachableW (wRec w orc)
  | scan (orc : List Outcome) {w : World} : ReachableW w → ReachableW (wScan w orc)
  | age {w : World} : ReachableW w → ReachableW (wAge w)
  | tick (d : Nat) {w : World} : ReachableW w → ReachableW (wTick w d)
  | addMig (k : Nat) {w : World} : ReachableW w → ReachableW (wAddMig w k)
  | query {w : World} : ReachableW w → ReachableW (wQuery w).1

/-- **C12_cache_invalidators.** In the CURRENT source both `RecordFile` and `UpdateTier` (every
mutator that can change which tiers a measurement has rows in during tiering) call
`invalidateTierCache` (generated list), and the reconcile loop visits every enumerated file. -/
theorem C12_cache_invalidators :
    invBy .recordFile = true ∧ invBy .updateTier = true ∧ recLoopExhaustive = true := by decide

theorem reachableW_file {w : World} (h : ReachableW w) : Reachable w.f := by
  induction h with
  | init => exact Reachable.init
  | mig n orc _ ih => exact Reachable.mig n orc ih
  | recon orc _ ih => exact Reachable.recon orc ih
  | scan orc _ ih => exact Reachable.scan orc ih
  | age _ ih => exact Reachable.age ih
  | tick d _ ih => exact ih
  | addMig k _ ih =>
    rename_i w _
    show Reachable (wAddMig w k).f
    unfold wAddMig; split <;> exact ih
  | query _ ih => exact ih

/-- **C12_cache_coherent.** Over all histories (any faults, any timing of queries) a tier-cache
entry, whenever present — expired or not — lists exactly the tiers in which the measurement
currently has rows: cached tier set = actual tier set (in particular ⊇). -/
theorem C12_cache_coherent {w : World} (h : ReachableW w) : Coh w := by
  induction h with
  | init => intro e he; cases he
  | mig n orc _ ih => exact coh_mig C12_cache_invalidators.2.1 n orc ih
  | recon orc _ ih => exact coh_rec orc ih
  | scan orc _ ih => exact coh_scan C12_cache_invalidators.1 orc ih
  | age _ ih => exact ih
  | tick d _ ih => exact ih
  | addMig k _ ih => exact coh_addMig C12_cache_invalidators.1 k ih
  | query _ ih => exact coh_query ih

/-- a coherent cache entry makes the query glob the tiers a fresh look at the metadata would -/
theorem globbed_entTiers {e : CacheEnt} {w : World} (h : (e.hot, e.cold) = w.tiers) :
    globbed (entTiers e) = globbed (actualTiers w.sibHot w.sibCold w.f) := by
  obtain ⟨h1, h2⟩ := Prod.mk.inj h
  unfold entTiers actualTiers
  rw [h1, h2]
  cases w.f.tier <;> cases w.sibHot <;> cases w.sibCold <;> decide

/-- **C12_query_warm_eq_fresh.** A query in the running process (through the tier cache, at any
time) globs exactly the tiers a freshly started process would, so it returns the file's rows the
same number of times: every theorem about `visibleCopies` transfers to queries at any moment. -/
theorem C12_query_warm_eq_fresh {w : World} (h : ReachableW w) :
    warmVisible w = visibleCopies w.sibHot w.sibCold w.f := by
  unfold warmVisible visibleCopies wQuery
  rw [globbed_entTiers (queryEnt_tiers (C12_cache_coherent h))]

/-- **C12_query_visible.** At every quiescent point of every history a query in the running
process returns the file's rows at least once (never zero times because of a stale cache). -/
theorem C12_query_visible {w : World} (h : ReachableW w) : 1 ≤ warmVisible w := by
  rw [C12_query_warm_eq_fresh h]
  exact C12_visible (reachableW_file h) _ _

/-! ## the proposed repair (model level): with it the FULL exactly-once clause is provable -/

/-- Reachability when `ReconcileOrphanedFiles` is the repaired operation `recFixOp`
(Arc/Proofs/C12/Repair.lean: additionally delete the cold copy of every migration candidate). -/
inductive ReachableFix : FileSt → Prop
  | init : ReachableFix init
  | mig (n : Nat) (orc : List Outcome) {s : FileSt} : ReachableFix s → ReachableFix (migOp n s orc).1.st
  | recon (orc : List Outcome) {s : FileSt} : ReachableFix s → ReachableFix (recFixOp s orc).1.st
  | scan (orc : List Outcome) {s : FileSt} : ReachableFix s → ReachableFix (scanOp s orc).1.st
  | age {s : FileSt} : ReachableFix s → ReachableFix (ageOp s)

def SafeRecFix : Bool := allAbs.all fun a => !a.inv || (absRecFix a).all Abs.inv
def OnceRecFix : Bool :=
  allAbs.all fun a => !a.inv || (decide (a.tier = Tier.cold) && !a.recent) ||
    bools.all fun sh => bools.all fun sc => decide (visAbs sh sc (absRecFixOk a) = 1)

theorem repair_obligations : SafeRecFix = true ∧ OnceRecFix = true := by decide +kernel

theorem reachableFix_inv {s : FileSt} (h : ReachableFix s) : (absOf s).inv = true := by
  induction h with
  | init => decide
  | mig n orc _ ih => exact mig_inv n orc ih
  | recon orc _ ih => exact inv_step repair_obligations.1 ih (recFixOp_sim _ orc)
  | scan orc _ ih => exact inv_step C12_steps_safe.2.2.1 ih (scanOp_sim _ orc)
  | age _ ih => exact ih

/-- **C12_repaired_readable.** The repair keeps the readable clause. -/
theorem C12_repaired_readable {s : FileSt} (h : ReachableFix s) :
    (s.tier = Tier.hot → s.hot = true) ∧ (s.tier = Tier.cold → s.cold = true) :=
  readable_of_inv (reachableFix_inv h)

/-- **C12_repaired_once.** With the repair, the full clause holds: once the (repaired)
reconciliation has finished without a fault — from any state reachable through any crashes and
failures, within the reconcile window — queries see each row exactly once, with no carve-out. (The migration half is
`C12_once_migration`, whose proof only uses the invariant and applies verbatim.) -/
theorem C12_repaired_once (orc : List Outcome) {s : FileSt} (h : ReachableFix s) (hok : AllOk orc)
    (hwin : s.tier = Tier.cold → s.recent = true)   -- reconciliation runs inside the 48 h window
    (sibHot sibCold : Bool) :
    (recFixOp s orc).2.errors = 0 ∧ (recFixOp s orc).2.crashed = false ∧
    visibleCopies sibHot sibCold (recFixOp s orc).1.st = 1 := by
  obtain ⟨h1, h2, h3⟩ := recFixOp_clean s orc hok
  refine ⟨h1, h2, ?_⟩
  have ho := allAbs_all repair_obligations.2 (absOf s)
  simp only [reachableFix_inv h, Bool.not_true, Bool.false_or] at ho
  rcases Bool.or_eq_true_iff.mp ho with hst | ho
  · exfalso
    unfold absOf at hst
    simp only [Bool.and_eq_true, decide_eq_true_eq, Bool.not_eq_true'] at hst
    rw [hwin hst.1] at hst
    exact absurd hst.2 (by decide)
  rw [visible_eq_visAbs, h3]
  exact of_decide_eq_true (bools_all (bools_all ho sibHot) sibCold)

/-! ## non-vacuity -/

/-- `C12_readable` / `C12_visible`: a non-trivial reachable state — metadata update failed, the
roll-back delete failed too, then a retry crashed in the middle of the copy of a 3-chunk file. -/
example :
    let s1 := (migOp 3 init [.ok, .ok, .ok, .ok, .ok, .ok, .fail, .fail]).1.st
    let s2 := (migOp 3 s1 [.ok, .ok, .ok, .crash]).1.st
    Reachable s2 ∧ s2 = { hot := true, cold := true, part := some 1, tier := .hot, pend := 2, recent := false } := by
  refine ⟨Reachable.mig 3 _ (Reachable.mig 3 _ Reachable.init), by decide +kernel⟩

/-- `C12_once_migration`: hypotheses satisfiable from a state reached through a crash (retry). -/
example :
    let s1 := (migOp 2 init [.ok, .ok, .ok, .crash]).1.st
    Reachable s1 ∧ s1.tier = srcTier ∧ AllOk [Outcome.ok, Outcome.ok] ∧
    (migOp 2 s1 [.ok, .ok]).1.st = { hot := false, cold := true, part := none, tier := .cold, pend := 1, recent := true } := by
  refine ⟨Reachable.mig 2 _ Reachable.init, by decide +kernel, ?_, by decide +kernel⟩
  intro x hx; simp at hx; exact hx

/-- `C12_once_reconcile_partial` / `C12_once_partial`: the carve-out is not everything — the hot orphan left by a failed
source delete satisfies the hypotheses and is removed (2 visible copies before, 1 after). -/
example :
    let s1 := (migOp 1 init [.ok, .ok, .ok, .ok, .ok, .fail]).1.st   -- delete-hot fails (tolerated)
    let s2 := (recOp s1 []).1.st
    Reachable s1 ∧ Finished s1 s2 ∧ ¬ (s2.tier = Tier.hot ∧ s2.hot = true ∧ s2.cold = true ∧ true = true) ∧
    visibleCopies true true s1 = 2 ∧ visibleCopies true true s2 = 1 := by
  refine ⟨Reachable.mig 1 _ Reachable.init, Finished.reconciliation [] allOk_nil, by decide +kernel, by decide +kernel, by decide +kernel⟩

/-- `C12_query_*`: a warm cache across a migration — query, migrate, query 10 s later. -/
example :
    let w0 : World := { f := init, sibHot := false, sibCold := false }
    let w1 := wTick (wMig 1 (wQuery w0).1 []) 10
    ReachableW w1 ∧ (wQuery w0).1.cache = some { hot := true, cold := false, expires := 30 } ∧
    w1.cache = none ∧ warmVisible w1 = 1 := by
  refine ⟨ReachableW.tick 10 (ReachableW.mig 1 [] (ReachableW.query (ReachableW.init false false))), by decide +kernel, by decide +kernel, by decide +kernel⟩

/-- `C12_repaired_once`: on the witness's cold-orphan state the repaired reconciliation removes the duplicate. -/
example :
    let s1 := (migOp 1 init [.ok, .ok, .ok, .ok, .crash]).1.st
    ReachableFix s1 ∧ visibleCopies false true s1 = 2 ∧ visibleCopies false true (recFixOp s1 []).1.st = 1 := by
  refine ⟨ReachableFix.mig 1 _ ReachableFix.init, by decide +kernel, by decide +kernel⟩

/-- `hwin` is a real exception of the reconciliation clause and `C12_once_cycle` covers it: a crash
after the metadata update but before the hot delete, then > 48 h without a cycle. Reconciliation
alone leaves two visible copies; the next clean cycle (scan re-registers hot, re-migration) leaves one. -/
example :
    let s1 := ageOp (migOp 1 init [.ok, .ok, .ok, .ok, .ok, .crash]).1.st
    Reachable s1 ∧ visibleCopies true false (recOp s1 []).1.st = 2 ∧
    visibleCopies true false (cycleOp 1 s1 []).1 = 1 := by
  refine ⟨Reachable.age (Reachable.mig 1 _ Reachable.init), by decide +kernel, by decide +kernel⟩

/-- `C12_once_cycle`: from the witness's cold-orphan state a clean cycle restores exactly-once. -/
example :
    let s1 := (migOp 1 init [.ok, .ok, .ok, .ok, .crash]).1.st
    visibleCopies false true s1 = 2 ∧ visibleCopies false true (cycleOp 1 s1 []).1 = 1 := by decide +kernel

end Arc.C12
