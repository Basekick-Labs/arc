import Arc.Model.C19
import Arc.Proofs.C19.Msgpack
import Arc.Proofs.C19.Json
import Arc.Proofs.C19.Rows
import Arc.Proofs.C19.Blob
/-!
C19 — Query responses faithfully encode DuckDB's results: the byte-level part that is PROVED.

Implementation models (`writeJSONString`, cell writers, row loops, msgpack encoders of the fork, envelopes) are
in Arc/Model/C19.lean with every constant / table taken from `Arc.Generated.C19` (regenerated from the source on
each run).  The specs they are proved against are the RFC 8259 string decoder `jsonDecode`, RFC 3629 `ValidUTF8`
and the MessagePack-spec token decoder `decTok` / `decTime`.

JSON strings.  `writeJSONString` itself passes bytes ≥ 0x80 through verbatim, so as a function of ARBITRARY bytes
it is only correct on valid UTF-8 (`C19_json_string`; `C19_json_string_raw` states what it emits otherwise and
`C19_json_string_witness` keeps the counterexample about the raw writer).  Until /repo 5813498 a BLOB cell reached it
unconverted (former finding `json-malformed:binary`).  Now every call site of the cell writer feeds it valid UTF-8:
VARCHAR cells (DuckDB guarantees UTF-8), BLOB cells through `blobText` (proved ASCII ⇒ valid UTF-8: `C19_json_blob`,
and DuckDB's text form gives the bytes back: `C19_blob_text`), Decimal128 through `decimalText` (digits, `-`, `.`).
-/
namespace Arc.C19
open Arc.Generated.C19

/-- the escape table of `writeJSONString` covers exactly `"`, `\` and the five short control escapes, everything
below 0x20 is escaped, and each table entry is the RFC 8259 two-character escape of its byte -/
theorem C19_escape_table :
    escBelow = 32 ∧ escAlways = [34, 92] ∧
    (∀ p ∈ escTable, decEscape (p.2.drop 1) = some ([p.1], []) ∧ p.2.head? = some 92) ∧
    (∀ c : Fin 128, needsEsc c.val = true ↔ (c.val < 32 ∨ c.val = 34 ∨ c.val = 92)) := by
  refine ⟨by decide +kernel, by decide +kernel, by decide +kernel, by decide +kernel⟩

/-- size-class thresholds of the msgpack header writers are the format's boundaries 2^5, 2^4, 2^7, 2^8, 2^16, 2^32 -/
theorem C19_msgpack_thresholds :
    uintFixLe + 1 = 2 ^ 7 ∧ uint8Le + 1 = 2 ^ 8 ∧ uint16Le + 1 = 2 ^ 16 ∧ uint32Le + 1 = 2 ^ 32 ∧
    intFixGe = -(2 ^ 5) ∧ int8Ge = -(2 ^ 7) ∧ int16Ge = -(2 ^ 15) ∧ int32Ge = -(2 ^ 31) ∧
    strFixLt = 2 ^ 5 ∧ str8Lt = 2 ^ 8 ∧ str16Le + 1 = 2 ^ 16 ∧ bin8Lt = 2 ^ 8 ∧ bin16Le + 1 = 2 ^ 16 ∧
    arrFixLt = 2 ^ 4 ∧ arr16Le + 1 = 2 ^ 16 ∧ mapFixLt = 2 ^ 4 ∧ map16Le + 1 = 2 ^ 16 ∧
    timeSecShift = 34 ∧ timeExtId = 255 ∧ mpEnvMapLen = mpEnvKeys.length ∧
    mpEnvKeys = [kSuccess, kColumns, kTypes, kData, kRowCount, kExecMs, kTimestamp] := by
  decide +kernel

/-- **C19_json_string** (= partial under the carve-out `ValidUTF8`): the RFC 8259 decoder reads the writer's
output back as exactly the input, for every valid UTF-8 string (quotes, backslashes, all control characters,
non-ASCII of every length). -/
theorem C19_json_string (s : Bytes) (hv : ValidUTF8 s) : jsonDecode (writeJSONString s) = some s :=
  jsonDecodeG_write (readsBack_strict s hv)

theorem C19_json_string_partial (s : Bytes) (hv : ValidUTF8 s) : jsonDecode (writeJSONString s) = some s :=
  C19_json_string s hv

example : ValidUTF8 [34, 92, 10, 1, 0xC3, 0xA9, 0xF0, 0x9F, 0x98, 0x80] :=
  .one _ _ (by decide) (.one _ _ (by decide) (.one _ _ (by decide) (.one _ _ (by decide)
    (.two _ _ _ (by decide) (.four _ _ _ _ _ (by decide) .nil)))))

/-- the same inside a larger document: a written string followed by ANY tail is read back and the tail is left
untouched (this is what makes column-name arrays and string cells decodable in context) -/
theorem C19_json_string_in_context (s : Bytes) (hv : ValidUTF8 s) (tail : Bytes) :
    decStr true (writeJSONString s ++ tail) = some (s, tail) := decStr_write (readsBack_strict s hv) tail

/-- what is emitted for ALL byte strings (valid UTF-8 or not): the output is `"` … `"`, every byte below 0x80 is
either itself or its RFC 8259 escape, and every byte ≥ 0x80 is the raw input byte — i.e. the byte-transparent
reading returns exactly the input. -/
theorem C19_json_string_raw (s : Bytes) (hs : AllBytes s) : jsonDecodeRaw (writeJSONString s) = some s :=
  jsonDecodeG_write (readsBack_raw s hs)

example : AllBytes [0xFF, 34, 0x80] := by intro b hb; simp at hb; omega

/-- witness of the finding: a one-byte BLOB 0xFF is written as the three bytes `" 0xFF "`, which no JSON decoder
can accept as a string (it is not UTF-8); the byte-transparent reading shows the raw byte is what was sent. -/
theorem C19_json_string_witness :
    writeJSONString [0xFF] = [34, 0xFF, 34] ∧ jsonDecode (writeJSONString [0xFF]) = none ∧
    jsonDecodeRaw (writeJSONString [0xFF]) = some [0xFF] ∧ ¬ ValidUTF8 [0xFF] := by
  refine ⟨by decide +kernel, by decide +kernel, by decide +kernel, ?_⟩
  intro h
  cases h with
  | one _ _ h _ => omega

/-! BLOB cells go through `blobText` since /repo 5813498, Decimal128 cells through `decimalText` since 6bd10ec. -/

/-- regenerated parameters of `blobText`: printable ASCII 32..126 except `\ ' "` is literal, the escape is `\x` +
two digits of an alphabet that `hexVal` reads back (so editing the table re-checks the theorems below) -/
theorem C19_blob_table :
    blobPrintLo = 32 ∧ blobPrintHi = 126 ∧ blobExcluded = [92, 39, 34] ∧ blobEscPrefix = [92, 120] ∧
    (∀ i : Fin 16, hexVal (blobHexDigits.getD i.val 0) = some i.val) := by
  refine ⟨by decide +kernel, by decide +kernel, by decide +kernel, by decide +kernel, by decide +kernel⟩

/-- **C19_json_blob**: for EVERY byte string (any BLOB) the JSON cell `writeJSONString (blobText s)` is read back by
the strict RFC 8259 / RFC 3629 decoder as `blobText s` — the output of `blobText` is ASCII, hence valid UTF-8, so the
carve-out of `C19_json_string` is met at this call site for all inputs. -/
theorem C19_json_blob (s : Bytes) (hs : AllBytes s) :
    (∀ b ∈ blobText s, b < 128) ∧ ValidUTF8 (blobText s) ∧
    jsonDecode (writeJSONString (blobText s)) = some (blobText s) :=
  have ha := blobText_ascii s hs
  have hv := validUTF8_of_ascii _ ha
  ⟨ha, hv, C19_json_string _ hv⟩

/-- **C19_blob_text**: DuckDB's BLOB text form is lossless: decoding the JSON string and then the `\xHH` form gives
exactly the BLOB's bytes (the documented conversion for a type without a native JSON encoding). -/
theorem C19_blob_text (s : Bytes) (hs : AllBytes s) :
    (jsonDecode (writeJSONString (blobText s))).bind blobDecode = some s := by
  rw [(C19_json_blob s hs).2.2]
  exact blobDecode_blobText s hs

example : blobText [0xFF, 34, 65] = [92, 120, 70, 70, 92, 120, 50, 50, 65] ∧
    blobDecode [92, 120, 70, 70, 92, 120, 50, 50, 65] = some [0xFF, 34, 65] := by decide +kernel

/-- `decimalText` with scale 0 (HUGEINT, SUM of integers) is exactly the integer's decimal digits -/
theorem C19_decimal_text_scale0 (v : Int) : decimalText v 0 = writeInt v := by
  unfold decimalText writeInt
  by_cases h : v < 0
  · have : v.natAbs = (-v).toNat := by omega
    simp [h, this]
  · have : v.natAbs = v.toNat := by omega
    simp [h, this]

/-- **C19_nonfinite**: a float cell is the text `null` exactly when its bit pattern is NaN or ±Inf; otherwise it
is whatever strconv prints (outside the model). -/
theorem C19_nonfinite (fmt : Nat → Bytes) (bits : Nat) :
    (f64NonFinite bits = true → writeFloatCell fmt bits = nullCell) ∧
    (f64NonFinite bits = false → writeFloatCell fmt bits = fmt bits) := by
  constructor <;> intro h <;> simp [writeFloatCell, h, nullCell, jsonNonFiniteText, jsonNullText]

theorem C19_nonfinite32 (fmt : Nat → Bytes) (bits : Nat) :
    (f32NonFinite bits = true → writeFloat32Cell fmt bits = nullCell) ∧
    (f32NonFinite bits = false → writeFloat32Cell fmt bits = fmt bits) := by
  constructor <;> intro h <;> simp [writeFloat32Cell, h, nullCell, jsonNonFiniteText, jsonNullText]

/-- the classifier is the IEEE one: +Inf, -Inf, a quiet and a signalling NaN are non-finite; max double, -0 are not -/
example : f64NonFinite 0x7ff0000000000000 = true ∧ f64NonFinite 0xfff0000000000000 = true ∧
    f64NonFinite 0x7ff8000000000001 = true ∧ f64NonFinite 0x7ff0000000000001 = true ∧
    f64NonFinite 0x7fefffffffffffff = false ∧ f64NonFinite 0x8000000000000000 = false := by decide +kernel

/-- null / bool cells are the JSON literals -/
theorem C19_json_literals :
    nullCell = [110, 117, 108, 108] ∧ writeBoolCell true = [116, 114, 117, 101] ∧
    writeBoolCell false = [102, 97, 108, 115, 101] := by decide +kernel

/-- **C19_msgpack_hdr** — integers: `EncodeInt` (compact, used for int8/16/32 columns), `EncodeInt64`,
`EncodeUint` (uint8/16/32 columns, row_count), `EncodeUint64`: all of int64 / uint64 incl. min and max. -/
theorem C19_msgpack_hdr_int (v : Int) (rest : Bytes) (h1 : -(2 ^ 63) ≤ v) (h2 : v < 2 ^ 63) :
    decTok (encInt v ++ rest) = some (.int v, rest) ∧ decTok (encInt64 v ++ rest) = some (.int v, rest) :=
  ⟨decTok_ite (fun h0 => by rw [decTok_encUint v.toNat rest (by omega), Int.toNat_of_nonneg h0]) fun h0 =>
    have h0 := Int.not_le.mp h0
    have hlt (b : Nat) : v < 2 ^ b := Int.lt_trans h0 (Int.pow_pos (by decide))
    decTok_ite (decTok_negfix v rest h0) fun _ =>
    decTok_ite (fun c => decTok_int cInt8 7 1 (fun _ => rfl) (by decide) rfl v rest c (hlt 7)) fun _ =>
    decTok_ite (fun c => decTok_int cInt16 15 2 (fun _ => rfl) (by decide) rfl v rest c (hlt 15)) fun _ =>
    decTok_ite (fun c => decTok_int cInt32 31 4 (fun _ => rfl) (by decide) rfl v rest c (hlt 31)) fun _ =>
    decTok_encInt64 v rest h1 h2,
   decTok_encInt64 v rest h1 h2⟩

theorem C19_msgpack_hdr_uint (n : Nat) (rest : Bytes) (h : n < 2 ^ 64) :
    decTok (encUint n ++ rest) = some (.int n, rest) ∧ decTok (encUint64 n ++ rest) = some (.int n, rest) :=
  ⟨decTok_encUint n rest h, decTok_encUint64 n rest h⟩

example : (-(2 ^ 63) : Int) ≤ -9223372036854775808 ∧ (9223372036854775807 : Int) < 2 ^ 63 := by decide +kernel

/-- floats keep their bit pattern (NaN payloads, ±Inf, -0 included); nil and bool -/
theorem C19_msgpack_hdr_scalar (rest : Bytes) :
    (∀ b, b < 2 ^ 32 → decTok (encF32 b ++ rest) = some (.f32 b, rest)) ∧
    (∀ b, b < 2 ^ 64 → decTok (encF64 b ++ rest) = some (.f64 b, rest)) ∧
    decTok (encNil ++ rest) = some (.nil, rest) ∧
    (∀ b, decTok (encBool b ++ rest) = some (.bool b, rest)) :=
  ⟨fun b h => decTok_num cFloat 4 .f32 (fun _ => rfl) b rest h,
   fun b h => decTok_num cDouble 8 .f64 (fun _ => rfl) b rest h, rfl, fun b => decTok_encBool b rest⟩

/-- str / bin with payload, array / map headers: every size class up to the format's limit 2^32 - 1 -/
theorem C19_msgpack_hdr_len (s rest : Bytes) (l : Nat) (hs : s.length < 2 ^ 32) (hl : l < 2 ^ 32) :
    decTok (encStr s ++ rest) = some (.str s, rest) ∧ decTok (encBin s ++ rest) = some (.bin s, rest) ∧
    decTok (encArrLen l ++ rest) = some (.arr l, rest) ∧ decTok (encMapLen l ++ rest) = some (.map l, rest) :=
  ⟨decTok_encStr s rest hs,
   by rw [encBin, List.append_assoc]
      exact decTok_ite (fun c => decTok_len cBin8 1 .bin (fun _ => rfl) s rest c) fun _ =>
        decTok_ite (fun c => decTok_len cBin16 2 .bin (fun _ => rfl) s rest (Nat.lt_succ_of_le c)) fun _ =>
        decTok_len cBin32 4 .bin (fun _ => rfl) s rest hs,
   decTok_encArrLen l rest hl, decTok_encMapLen l rest hl⟩

/-- the bound is tight: at 2^32 the uint32 conversion of the length wraps and the header announces 0 -/
theorem C19_msgpack_hdr_len_witness : decTok (encArrLen (2 ^ 32)) = some (.arr 0, []) := by decide +kernel

/-- timestamp extension (-1): the 32-, 64- and 96-bit forms chosen by `encodeTime` carry the instant exactly,
for every int64 second (negative = before 1970 included) and every nanosecond -/
theorem C19_msgpack_hdr_time (sec : Int) (nsec : Nat) (rest : Bytes) (h1 : -(2 ^ 63) ≤ sec) (h2 : sec < 2 ^ 63)
    (hn : nsec < 1000000000) :
    decTok (encTime sec nsec ++ rest) = some (.ext 255 (timeData sec nsec), rest) ∧
    decTime (timeData sec nsec) = some (sec, nsec) :=
  ⟨decTok_encTime sec nsec rest, decTime_timeData sec nsec h1 h2 hn⟩

example : decTime (timeData 1704067201 123456000) = some (1704067201, 123456000) ∧
    (timeData 1 0).length = 4 ∧ (timeData 1704067201 123456000).length = 8 ∧ (timeData (-1) 5).length = 12 := by
  decide +kernel

/-- **C19_rowlimit** (JSON, `streamArrowJSON`): with a limit `n > 0` the rows written are exactly the first `n`
rows of the result in order — each row is the untouched row value — across any batch structure; `n = 0` means
no limit. -/
theorem C19_rowlimit {α : Type} (n : Nat) (batches : List (List α)) :
    jsonRows n batches = if n = 0 then batches.flatten else batches.flatten.take n :=
  jsonOuter_eq n batches [] (.inr (Nat.zero_le n))

example : jsonRows 3 [[1, 2], [], [3, 4], [5]] = [1, 2, 3] := by decide +kernel

/-- MessagePack (`drainArrowBatches`): the retained batches flatten to the same prefix and the reported row
count (used for every column-array header and for `row_count`) is its length. -/
theorem C19_rowlimit_msgpack {α : Type} (n : Nat) (batches : List (List α)) :
    (drainBatches n batches).1.flatten = (if n = 0 then batches.flatten else batches.flatten.take n) ∧
    (drainBatches n batches).2 = (drainBatches n batches).1.flatten.length :=
  drainLoop_eq n batches [] 0 rfl (.inr (Nat.zero_le n))

example : drainBatches 3 [[1, 2], [], [3, 4], [5]] = ([[1, 2], [], [3]], 3) := by decide +kernel

/-- **C19_envelope** (JSON): the body is `{"success":true,"columns":` + the column-name array + `,"data":[` +
the rows selected by the row limit + `],"row_count":` + the number of those rows + …, and every column name is
read back in place by the RFC 8259 decoder. -/
theorem C19_envelope (fmt : Nat → Bytes) (tsFmt : Int → Nat → Bytes) (cols : List Bytes) (n : Nat)
    (batches : List (List (List Cell))) (ms : Nat) (ts : Bytes) :
    let rows := if n = 0 then batches.flatten else batches.flatten.take n
    jsonEnvelope fmt tsFmt cols n batches ms ts =
      jsonEnvOpen ++ writeJSONStringArray cols ++ jsonEnvData ++ joinComma (rows.map (jsonRow fmt tsFmt)) ++
        jsonEnvRowCount ++ writeInt rows.length ++ jsonEnvExec ++ natDigits ms ++ jsonEnvTimestamp ++
        writeJSONString ts ++ [125] ∧
    ∀ c ∈ cols, ValidUTF8 c → ∀ tail, decStr true (writeJSONString c ++ tail) = some (c, tail) := by
  refine ⟨?_, fun c _ => C19_json_string_in_context c⟩
  simp only [jsonEnvelope, C19_rowlimit]

/-- decode `k` consecutive tokens -/
def takeToks : Nat → Bytes → Option (List Tok × Bytes)
  | 0, b => some ([], b)
  | k + 1, b =>
    match decTok b with
    | none => none
    | some (t, r) => (match takeToks k r with | some (ts, r') => some (t :: ts, r') | none => none)

theorem takeToks_cons {e r : Bytes} {t : Tok} (k : Nat) (h : decTok (e ++ r) = some (t, r)) :
    takeToks (k + 1) (e ++ r) = (takeToks k r).map fun p => (t :: p.1, p.2) := by
  simp only [takeToks, h]
  cases takeToks k r <;> rfl

theorem takeToks_strs (ss : List Bytes) (h : ∀ s ∈ ss, s.length < 2 ^ 32) (rest : Bytes) :
    takeToks ss.length (ss.flatMap encStr ++ rest) = some (ss.map .str, rest) := by
  induction ss with
  | nil => rfl
  | cons s ss ih =>
    rw [List.flatMap_cons, List.append_assoc, List.length_cons,
      takeToks_cons _ (decTok_encStr s _ (h s List.mem_cons_self)), ih fun q hq => h q (List.mem_cons_of_mem s hq)]
    rfl

/-- **C19_envelope_msgpack**: the MessagePack body starts with map(7) "success" true "columns" array(#columns)
followed by exactly the column names, in order, as str tokens — for any number of columns < 2^32 and any names
shorter than 2^32 bytes; what follows (`mpEnvelopeTail`) announces `rowCount` in every column-array header and
in `row_count` (the value `C19_rowlimit_msgpack` proves to be the number of retained rows). -/
theorem C19_envelope_msgpack (cols : List (Bytes × Bytes × MpTy × List Cell)) (rc ms : Nat) (ts : Bytes)
    (hn : cols.length < 2 ^ 32) (hl : ∀ c ∈ cols, c.1.length < 2 ^ 32) :
    takeToks (5 + cols.length) (mpEnvelope cols rc ms ts) =
      some ([.map 7, .str kSuccess, .bool true, .str kColumns, .arr cols.length] ++
        cols.map (fun c => .str c.1), mpEnvelopeTail cols rc ms ts) := by
  have hs := takeToks_strs (cols.map (·.1)) (List.forall_mem_map.mpr hl) (mpEnvelopeTail cols rc ms ts)
  rw [List.length_map, List.flatMap_map, List.map_map] at hs
  rw [Nat.add_comm, mpEnvelope]
  simp only [List.append_assoc]
  rw [takeToks_cons _ (decTok_encMapLen mpEnvMapLen _ (by decide)), takeToks_cons _ (decTok_encStr kSuccess _ (by decide)),
    takeToks_cons _ (decTok_encBool true _), takeToks_cons _ (decTok_encStr kColumns _ (by decide)),
    takeToks_cons _ (decTok_encArrLen _ _ hn), hs]
  rfl

example : takeToks 6 (mpEnvelope [([97], [105], .i64, [.int 5])] 1 0 [84]) =
    some ([.map 7, .str kSuccess, .bool true, .str kColumns, .arr 1, .str [97]],
      mpEnvelopeTail [([97], [105], .i64, [.int 5])] 1 0 [84]) := by decide +kernel

end Arc.C19
