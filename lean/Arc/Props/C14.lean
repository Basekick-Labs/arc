import Arc.Model.C14
import Arc.Model.C14.Str
import Arc.Proofs.C14.Eval
import Arc.Base.Lists
/-!
# C14 — A query can only read data the caller is authorized to read

Property (fixed text, properties.jsonl): for any SQL text accepted by the query / estimate /
measurement-listing / SHOW endpoints, every stored file the executed statement reads belongs to a
(database, measurement) whose read permission was checked for the caller (after applying the database
header); no accepted statement reads another database's files through table functions, replacement
scans, quoting, backslashes, dollar quotes, comments or placeholder-like text.

STATUS after the round-2 repairs (/repo 02701ef … 64dff5c + 12df811): the 20 bypass classes the search harness
had confirmed on the real handlers + the real sandboxed DuckDB are repaired; their monitors stay armed and are
silent. This file states the property compositionally:

    theorem C14_full (s hdr) : accepted s hdr → filesRead (execute s hdr) ⊆ dirs (refsChecked s hdr)

is `C14_partial` below, whose hypotheses are exactly the parts that are NOT arc code:
(D) DuckDB's read set, (A) agreement of the validator's lexing with DuckDB's on the class `inK`, and the
regex-semantic side conditions of (C). Everything that IS arc code is proved or regenerated:

(B) `C14_validated`, `C14_denylist_complete` — over DuckDB's token list (denylist regenerated).
(C) `C14_rewrite_subset_checked` (+ `_hdr`) — for an ABSTRACT regex matcher, normaliser, splice and case folding
    every (database, measurement) the rewrite turns into a read_parquet path IS one of the permission-checked
    pairs (or the inert sentinel). Since 02701ef (case-exact `seen` key) this is plain membership.
(R) `C14_repairs_in_place` — the structural facts of every repair, regenerated from the source on each run;
    the historical witnesses are kept as theorems about the OLD parameter value (`…P true` / `cacheKeyPreFix`)
    or as `_fixed` theorems evaluating the byte-level transcription of the CURRENT masker / validator.
-/
namespace Arc.C14

theorem dedup_complete {cs : List Cand} (seen : List Str) {c : Cand} (hc : c ∈ cs) :
    c.key ∈ seen ∨ ∃ k ∈ cs, k.key = c.key ∧ k.ref ∈ dedup cs seen := by
  induction cs generalizing seen with
  | nil => cases hc
  | cons x xs ih =>
    unfold dedup
    split
    next hx =>
      rcases List.mem_cons.mp hc with rfl | hm
      · exact .inl (List.contains_iff_mem.mp hx)
      · exact (ih seen hm).imp_right fun ⟨k, hk, hkk, hkr⟩ => ⟨k, List.mem_cons_of_mem _ hk, hkk, hkr⟩
    next =>
      -- `x` survives and stands for every later candidate with its key
      by_cases hk : x.key = c.key
      · exact .inr ⟨x, List.mem_cons_self, hk, List.mem_cons_self⟩
      · have hm := (List.mem_cons.mp hc).resolve_left fun h => hk (h ▸ rfl)
        rcases ih (x.key :: seen) hm with h | ⟨k, hk', hkk, hkr⟩
        · exact .inl ((List.mem_cons.mp h).resolve_left (Ne.symm hk))
        · exact .inr ⟨k, List.mem_cons_of_mem _ hk', hkk, List.mem_cons_of_mem _ hkr⟩

/-- the `seen` key of bare references is case-exact (regenerated fact; breaks if the source regresses) -/
theorem seenKey_exact : Arc.Generated.C14.seenKeyFoldsCase = false := rfl

theorem cand_key_eq {W : World} {n : Norm} {k : Cand} (hk : k ∈ candidates W n) :
    k.key = k.ref.db ++ dot :: k.ref.m := by
  unfold candidates at hk
  simp only [List.mem_append, List.mem_map, List.mem_filter] at hk
  rcases hk with ((⟨m, _, rfl⟩ | ⟨m, _, rfl⟩) | ⟨m, _, rfl⟩) | ⟨m, _, rfl⟩ <;>
    simp [dottedCand, simpleCand, simpleCandP, seenKey_exact]

/-- the first candidate of a key class survives `dedup`, and a key with dot-free parts determines its reference -/
theorem extracted_of_key {W : World} {n : Norm} {c : Cand} (hc : c ∈ candidates W n) {a b : Str}
    (hkey : c.key = a ++ dot :: b) (da : dot ∉ a) (db : dot ∉ b) : (⟨a, b⟩ : Ref) ∈ refsExtracted W n := by
  rcases dedup_complete [] hc with h | ⟨k, hk, hkk, hkr⟩
  · cases h
  have hs := cand_key_eq hk
  rw [hkk, hkey] at hs
  obtain ⟨e1, e2⟩ := (split_at_sep dot da hs).resolve_right (fun h => db h.2)
  rw [e1, e2]; exact hkr

theorem validName_all {o : Str} (h : validName o = true) : ∀ c ∈ o, identChar c = true := by
  cases o with
  | nil => cases h
  | cons d ds =>
    simp only [validName, identStart, Bool.and_eq_true, Bool.or_eq_true] at h
    refine List.forall_mem_cons.mpr ⟨?_, List.all_eq_true.mp h.1.2⟩
    -- the class of first bytes lies within the class of later bytes
    simp only [identChar, Char.isAlphanum, Bool.or_eq_true]
    exact .inl (h.1.1.imp .inl id)

theorem validName_not_mem {c : Char} (hc : identChar c = false) {o : Str} (h : validName o = true) : c ∉ o :=
  fun hm => by rw [validName_all h c hm] at hc; cases hc

theorem resolveV_cases (I : Idents) {g : Str} (hg : dot ∉ g) :
    resolveV I g = sentinel ∨ (resolveV I g = resolveRaw I g ∧ dot ∉ resolveV I g) := by
  unfold resolveV resolveRaw
  cases hI : I.lookup g with
  | none => exact .inr ⟨rfl, hg⟩
  | some o =>
    by_cases hv : validName o = true
    · right; simp only [hv, if_true]; exact ⟨trivial, validName_not_mem (by decide) hv⟩
    · left; simp [hv]

/-- the regex capture classes (`[a-zA-Z0-9_]+`, `[a-zA-Z_][a-zA-Z0-9_]*`, `\w+`) contain no '.' -/
def CapNoDot (W : World) : Prop := ∀ p t m, m ∈ W.findAll p t → dot ∉ m.g1 ∧ dot ∉ m.g2

/-- "r is covered by the checked set": r IS one of the checked pairs — or names the inert sentinel directory -/
def Covered (checked : List Ref) (r : Ref) : Prop :=
  r.db = sentinel ∨ r.m = sentinel ∨ r ∈ checked

theorem dotted_covered {W : World} (hcap : CapNoDot W) {n : Norm} {m : Match}
    (hm : m ∈ W.findAll .dbTable n.text ∨ m ∈ W.findAll .joinDbTable n.text) :
    Covered (refsExtracted W n) (dottedRef n.idents m) := by
  have hc := hm.elim (hcap _ _ _) (hcap _ _ _)
  rcases resolveV_cases n.idents hc.1 with s1 | ⟨e1, d1⟩
  · exact .inl s1
  rcases resolveV_cases n.idents hc.2 with s2 | ⟨e2, d2⟩
  · exact .inr (.inl s2)
  have hmem : dottedCand n.idents m ∈ candidates W n := by
    unfold candidates
    simp only [List.mem_append, List.mem_map]
    exact .inl (.inl (hm.imp (⟨m, ·, rfl⟩) (⟨m, ·, rfl⟩)))
  exact .inr (.inr (extracted_of_key hmem (by rw [e1, e2]; rfl) d1 d2))

theorem dotOrCallAtR_of_dotAt {rest : Str} (h : dotAt rest = true) : dotOrCallAtR rest = true := by
  obtain ⟨cs, rfl⟩ : ∃ cs, rest = dot :: cs := by
    cases rest <;> simp_all [dotAt, headIs]
  simp [dotOrCallAtR, dotOrCallAtRP, headIs, show dot ∉ rewriteBlanks by decide +kernel]

theorem contains_withUnquoted {W : World} {I : Idents} {ctes : List Str} (x : Str)
    (h : ctes.contains x = true) : (withUnquoted W I ctes).contains x = true :=
  List.contains_iff_mem.mpr (List.mem_append_left _ (List.contains_iff_mem.mp h))

/-- the two look-aheads agree since 00bd721 (regenerated trim sets are the same set of four blanks) -/
theorem blanks_agree (c : Char) : extractBlanks.contains c = rewriteBlanks.contains c := by
  have h1 : extractBlanks = [' ', '\t', '\n', '\r'] := by decide +kernel
  have h2 : rewriteBlanks = [' ', '\t', '\r', '\n'] := by decide +kernel
  simp only [h1, h2, List.contains_cons, List.contains_nil, Bool.or_false]
  rw [Bool.or_comm (c == '\n')]

theorem dotOrCallAtR_of_callAtX (rest : Str) (h : callAtX rest = true) : dotOrCallAtR rest = true := by
  simp only [callAtX, blanks_agree] at h
  simp only [dotOrCallAtR, dotOrCallAtRP, h, Bool.or_true]

/-- what the rewrite keeps, the permission side does not skip — provided the look-aheads agree; the rewrite
side may know MORE CTE names (unquoted forms of quoted CTE names) than the permission side -/
theorem keeps_not_skipped {W : World} {ctesE ctesR : List Str} {I : Idents} {m m0 : Match}
    (hsub : ∀ x, ctesE.contains x = true → ctesR.contains x = true)
    (hg : m0.g1 = m.g1) (hres : resolveV I m.g1 = resolveRaw I m.g1)
    (hlook : callAtX m0.rest = true → dotOrCallAtR m.rest = true)
    (hdot : dotAt m0.rest = true → dotOrCallAtR m.rest = true)
    (hk : rewriteKeeps W ctesR I m = true) : (!extractSkips W ctesE I m0) = true := by
  simp only [rewriteKeeps, Bool.and_eq_true, Bool.not_eq_true'] at hk
  obtain ⟨⟨⟨k1, k2⟩, k3⟩, k4⟩ := hk
  have contra : ∀ {a b : Bool}, (a = true → b = true) → b = false → a = false := by decide
  simp only [extractSkips, hg, ← hres, Bool.not_eq_true', Bool.or_eq_false_iff]
  exact ⟨⟨⟨⟨k3, contra (hsub _) k2⟩, contra (hsub _) k1⟩, contra hdot k4⟩, contra hlook k4⟩

/-- `h`: the kept match has a counterpart on the permission-side text, in the shape of the `Stable…` fields -/
theorem kept_extracted {W : World} (hcap : CapNoDot W) {n : Norm} {p : Pat} (hp : p = .simple ∨ p = .joinSimple)
    {m : Match} (h : ∃ m0 ∈ W.findAll p n.text, m0.g1 = m.g1 ∧
      (callAtX m0.rest = true → dotOrCallAtR m.rest = true) ∧ (dotAt m0.rest = true → dotOrCallAtR m.rest = true))
    (hk : rewriteKeeps W (withUnquoted W n.idents (cteNames W n.text)) n.idents m = true) :
    resolveV n.idents m.g1 = sentinel ∨ (⟨defaultDB, resolveV n.idents m.g1⟩ : Ref) ∈ refsExtracted W n := by
  obtain ⟨m0, hm0, hg, hl, hd⟩ := h
  have hc := hg ▸ (hcap _ _ _ hm0).1
  refine (resolveV_cases n.idents hc).imp_right fun ⟨e1, d1⟩ => ?_
  have hns := keeps_not_skipped contains_withUnquoted hg e1 hl hd hk
  have hmem : simpleCand W n.idents m0 ∈ candidates W n := by
    unfold candidates
    simp only [List.mem_append, List.mem_map, List.mem_filter]
    rcases hp with rfl | rfl
    · exact .inl (.inr ⟨m0, ⟨hm0, hns⟩, rfl⟩)
    · exact .inr ⟨m0, ⟨hm0, hns⟩, rfl⟩
  exact extracted_of_key hmem (by rw [e1, ← hg]; rfl) (by decide) d1

/-- side conditions of the no-header path the abstract argument needs (every later pass finds only
references the same pattern finds in the original normalised text, with an agreeing look-ahead) -/
structure StableNoHdr (W : World) (n : Norm) : Prop where
  joinDb : ∀ m ∈ W.findAll .joinDbTable (textsNoHdr W n).t1,
    ∃ m0 ∈ W.findAll .joinDbTable n.text, m0.g1 = m.g1 ∧ m0.g2 = m.g2
  simple : ∀ m ∈ W.findAll .simple (textsNoHdr W n).t2,
    ∃ m0 ∈ W.findAll .simple n.text, m0.g1 = m.g1 ∧
      (callAtX m0.rest = true → dotOrCallAtR m.rest = true) ∧ (dotAt m0.rest = true → dotOrCallAtR m.rest = true)
  joinSimple : ∀ m ∈ W.findAll .joinSimple (textsNoHdr W n).t3,
    ∃ m0 ∈ W.findAll .joinSimple n.text, m0.g1 = m.g1 ∧
      (callAtX m0.rest = true → dotOrCallAtR m.rest = true) ∧ (dotAt m0.rest = true → dotOrCallAtR m.rest = true)

/-- side conditions of the header (slow) path -/
structure StableHdr (W : World) (n : Norm) : Prop where
  joinSimple : ∀ m ∈ W.findAll .joinSimple (textsHdr W n).t3,
    ∃ m0 ∈ W.findAll .joinSimple n.text, m0.g1 = m.g1 ∧
      (callAtX m0.rest = true → dotOrCallAtR m.rest = true) ∧ (dotAt m0.rest = true → dotOrCallAtR m.rest = true)

theorem rewNoHdr_covered {W : World} (hcap : CapNoDot W) {n : Norm} (hst : StableNoHdr W n) :
    ∀ r ∈ rewNoHdr W n, Covered (refsExtracted W n) r := by
  intro r hr
  unfold rewNoHdr at hr
  simp only [List.mem_append, List.mem_map, List.mem_filter] at hr
  rcases hr with ((⟨m, hm, rfl⟩ | ⟨m, hm, rfl⟩) | ⟨m, ⟨hm, hk⟩, rfl⟩) | ⟨m, ⟨hm, hk⟩, rfl⟩
  · exact dotted_covered hcap (.inl hm)
  · obtain ⟨m0, hm0, g1, g2⟩ := hst.joinDb m hm
    have := dotted_covered hcap (.inr hm0)
    rwa [dottedRef, g1, g2] at this
  · exact .inr (kept_extracted hcap (.inl rfl) (hst.simple m hm) hk)
  · exact .inr (kept_extracted hcap (.inr rfl) (hst.joinSimple m hm) hk)

theorem applyHeader_mem {hdr : Str} (hh : hdr ≠ []) {rs : List Ref} {k : Ref} (hk : k ∈ rs) (hd : k.db = defaultDB) :
    (⟨hdr, k.m⟩ : Ref) ∈ applyHeader hdr rs := by
  rw [applyHeader, if_neg hh]
  exact List.mem_map.mpr ⟨k, hk, by rw [if_pos hd]⟩

/-- the header path no longer gates CTE-name extraction (regenerated fact, 04fa395) -/
theorem cteNamesHdr_eq (W : World) (t : Str) : cteNamesHdr W t = cteNames W t := by
  simp [cteNamesHdr, cteNamesHdrP, show Arc.Generated.C14.headerCteGated = false from rfl]

theorem rewHdrSlow_covered {W : World} (hcap : CapNoDot W) {n : Norm} {hdr : Str} (hh : hdr ≠ [])
    (hst : StableHdr W n) : ∀ r ∈ rewHdrSlow W n hdr, Covered (applyHeader hdr (refsExtracted W n)) r := by
  intro r hr
  unfold rewHdrSlow at hr
  simp only [List.mem_append, List.mem_map, List.mem_filter, cteNamesHdr_eq] at hr
  rcases hr with ⟨m, ⟨hm, hk⟩, rfl⟩ | ⟨m, ⟨hm, hk⟩, rfl⟩
  · exact .inr ((kept_extracted hcap (.inl rfl) ⟨m, hm, rfl, dotOrCallAtR_of_callAtX _, dotOrCallAtR_of_dotAt⟩ hk).imp_right
      (applyHeader_mem hh · rfl))
  · exact .inr ((kept_extracted hcap (.inr rfl) (hst.joinSimple m hm) hk).imp_right (applyHeader_mem hh · rfl))

/-- **(C), no database header.** For every regex semantics (`findAll`), normaliser, splice and case folding:
every pair the rewrite turns into a read_parquet path IS a permission-checked pair (or the inert sentinel),
provided (1) the pre-passes leave the statement alone, (2) captures contain no '.', (3) a later pass only finds
references the same pattern finds in the original normalised text and the two look-aheads agree on them
(`StableNoHdr`). The `read_parquet` short-circuit makes the left side empty. -/
theorem C14_rewrite_subset_checked (W : World) (hcap : CapNoDot W) (s : Str)
    (hpre : W.prepass s = s) (hst : StableNoHdr W (W.normP s)) :
    ∀ r ∈ refsRewritten W s [], Covered (refsChecked W s []) r := by
  intro r hr
  unfold refsRewritten at hr
  rw [if_pos rfl, hpre] at hr
  split at hr
  · cases hr
  · simpa [refsChecked, applyHeader] using rewNoHdr_covered hcap hst r hr

/-- the single-table fast path agrees with the permission side: the table it splices is a checked pair.
(53c9b19 makes the fast path conditional on the extractor's own regex seeing exactly that reference; this is the
abstract form of that guard, validated on the real code by the monitors and by `C14_fastpath_fixed`.) -/
def FastAgrees (W : World) (s hdr : Str) : Prop :=
  fastPathTaken W s = true → ∀ t, fastTable W s = some t → (⟨hdr, t⟩ : Ref) ∈ refsChecked W s hdr

/-- **(C), with database header** — both the slow path and the single-table fast path. The `with ` gate is gone
(`cteNamesHdr_eq`), so no gate condition is needed any more. -/
theorem C14_rewrite_subset_checked_hdr (W : World) (hcap : CapNoDot W) (s hdr : Str)
    (hh : hdr ≠ []) (hpre : W.prepass s = s) (hfast : FastAgrees W s hdr)
    (hst : StableHdr W (W.normP s)) :
    ∀ r ∈ refsRewritten W s hdr, Covered (refsChecked W s hdr) r := by
  intro r hr
  unfold refsRewritten at hr
  rw [if_neg hh] at hr
  split at hr
  · cases hr
  unfold rewHdr at hr
  split at hr
  next hf =>
    split at hr
    next t ht => exact .inr (.inr (List.mem_singleton.mp hr ▸ hfast hf t ht))
    next => cases hr
  next => rw [hpre] at hr; exact rewHdrSlow_covered hcap hh hst r hr

/-- the short-circuit itself: text that mentions `read_parquet` and, once normalised as for the denylist, calls it
(`rpCall`, 56228b9) is never rewritten -/
theorem C14_short_circuit (W : World) (s hdr : Str) (h : containsSub shortCircuitLit (W.lower s) = true)
    (hc : W.rpCall s = true) : refsRewritten W s hdr = [] := by
  simp [refsRewritten, shortCircuit, h, hc]

def wOf (fa : Pat → Str → List Match) : World :=
  { findAll := fa, splice := fun _ t _ => t, normP := fun t => ⟨t, []⟩, prepass := id, lower := lowerAscii,
    simpleStarts := fun _ => [], rpCall := fun _ => true }

example : ∃ (W : World) (s : Str), refsRewritten W s [] ≠ [] ∧ W.prepass s = s :=
  ⟨wOf (fun p _ => if p = .simple then [⟨"cpu".toList, [], []⟩] else []), "from cpu".toList, by decide +kernel, rfl⟩

/-! ### the repaired differences between the two sides, as history

The test vectors from here on are evaluated by the kernel. `Arc/Proofs/C14/Eval.lean` says why they first rewrite
their string literals with `String.toList_ofList` and `validate` / `acceptedTok` with `validateE.2` / `acceptedTokE.2`. -/

/-- HISTORY (fixed by 00bd721): `isFunctionCallAt` skipped line breaks, `isDotOrCallAt` trimmed only blanks and
tabs (`dotOrCallAtRP " \t"`): `FROM cpu<LF>(x)` was a function call for the permission side and a table for the
rewrite (a near-miss only: DuckDB's parser rejected every such text). With the regenerated trim set both agree
on every text (`dotOrCallAtR_of_callAtX`), so the look-ahead needs no side condition on the same text any more. -/
theorem C14_lookahead_agree :
    callAtX "\n(x)".toList = true ∧ dotOrCallAtRP " \t".toList "\n(x)".toList = false ∧
    dotOrCallAtR "\n(x)".toList = true ∧
    (∀ rest, callAtX rest = true → dotOrCallAtR rest = true) :=
  ⟨by decide +kernel, by decide +kernel, by decide +kernel, dotOrCallAtR_of_callAtX⟩

/-- HISTORY (fixed by 04fa395 + 53c9b19): with the OLD gate (`cteNamesHdrP true`) the header path did not look
for CTE names unless the text contained `with `; now both sides exclude the same names. -/
theorem C14_header_cte_gate_fixed :
    Arc.Generated.C14.headerCteGated = false ∧
    let s := "WITH\ncpu AS (SELECT 1 AS one) SELECT canary FROM cpu".toList
    let w := "SELECT canary, sum(v) OVER cpu FROM cpu WINDOW w AS (ORDER BY v), cpu AS (ORDER BY v)".toList
    cteNamesHdrP true strWorld (strNorm s).text = [] ∧ cteNamesHdr strWorld (strNorm s).text = ["cpu".toList] ∧
    cteNamesHdrP true strWorld (strNorm w).text = [] ∧ cteNamesHdr strWorld (strNorm w).text = ["cpu".toList] ∧
    refsRewritten strWorld s "secret".toList = [] ∧ refsRewritten strWorld w "secret".toList = [] := by
  repeat rw [String.toList_ofList]
  decide +kernel

/-- HISTORY (fixed by 53c9b19): the UNGUARDED fast path (`fastPathTakenP false`) spliced after the substring
`from ` of `1from cpu`; the guarded one is not taken and the slow path finds nothing to rewrite. A plain
statement still takes the fast path and its table is the checked pair. -/
theorem C14_fastpath_fixed :
    Arc.Generated.C14.fastPathGuarded = true ∧
    let s := "SELECT canary,1from cpu".toList
    fastPathTakenP false strWorld s = true ∧ fastPathTaken strWorld s = false ∧
    refsRewritten strWorld s "secret".toList = [] ∧
    let q := "SELECT canary FROM cpu".toList
    fastPathTaken strWorld q = true ∧ refsRewritten strWorld q "secret".toList = [⟨"secret".toList, "cpu".toList⟩] ∧
    refsChecked strWorld q "secret".toList = [⟨"secret".toList, "cpu".toList⟩] := by
  repeat rw [String.toList_ofList]
  decide +kernel

/-- HISTORY (fixed by 02701ef): with the OLD folding key (`simpleCandP true`) `CPU` and `cpu` shared one `seen`
key and only the first was checked; now both are. -/
theorem C14_casefold_fixed :
    Arc.Generated.C14.seenKeyFoldsCase = false ∧
    let s := "SELECT 1 FROM CPU a JOIN cpu b ON true".toList
    (simpleCandP true strWorld [] ⟨"CPU".toList, [], []⟩).key = (simpleCandP true strWorld [] ⟨"cpu".toList, [], []⟩).key ∧
    refsChecked strWorld s "allowed".toList = [⟨"allowed".toList, "CPU".toList⟩, ⟨"allowed".toList, "cpu".toList⟩] := by
  repeat rw [String.toList_ofList]
  decide +kernel

/-- **(B)** an accepted token list is a single statement without a denylisted file-reading function name
(bare or quoted) followed by `(`, and without a string literal / non-name quoted identifier in table
position. -/
theorem C14_validated (ts : List Tok) (h : acceptedTok ts = true) :
    singleStatement ts = true ∧ hasDeniedCall ts = false ∧ badInTablePos {} ts = false := by
  simp only [acceptedTok, Bool.and_eq_true, Bool.not_eq_true'] at h
  exact ⟨h.1.1, h.1.2, h.2⟩

example : acceptedTok [.word "select".toList, .word "canary".toList, .word "from".toList, .word "cpu".toList, .semi] = true := by
  rewrite [acceptedTokE.2]
  decide +kernel

theorem hasDeniedCall_append (pre : List Tok) {ts : List Tok} (h : hasDeniedCall ts = true) : hasDeniedCall (pre ++ ts) = true := by
  induction pre with
  | nil => exact h
  | cons t pre ih =>
    show hasDeniedCall (t :: (pre ++ ts)) = true
    generalize pre ++ ts = r at ih
    unfold hasDeniedCall
    split
    next heq => cases heq; simp [ih]
    next heq => cases heq; simp [ih]
    next heq => cases heq; exact ih
    next => contradiction

/-- every denylisted name of the CURRENT source (regenerated list), in any letter case, bare or quoted,
in any position, is rejected when followed by `(` -/
theorem C14_denylist_complete (pre post : List Tok) (w : Str) (hw : lowerAscii w ∈ denylist) :
    acceptedTok (pre ++ .word w :: .lparen :: post) = false ∧
    acceptedTok (pre ++ .qident w :: .lparen :: post) = false := by
  have h1 : hasDeniedCall (.word w :: .lparen :: post) = true := by simp [hasDeniedCall, hw]
  have h2 : hasDeniedCall (.qident w :: .lparen :: post) = true := by simp [hasDeniedCall, hw]
  simp [acceptedTok, hasDeniedCall_append pre h1, hasDeniedCall_append pre h2]

/-- the regenerated denylist contains the reader the rewrite itself emits, its documented alias, the functions
added by d9537de, and the frame of the regex is the one the token-level reading assumes (any run of RE2 blanks
or non-ASCII bytes between the name and the parenthesis, c63798f) -/
theorem C14_denylist_tied :
    "read_parquet".toList ∈ denylist ∧ "parquet_scan".toList ∈ denylist ∧ "glob".toList ∈ denylist ∧
    "query".toList ∈ denylist ∧ "query_table".toList ∈ denylist ∧ "parquet_full_metadata".toList ∈ denylist ∧
    Arc.Generated.C14.denylistPrefix = "(?i)\\b(" ∧ Arc.Generated.C14.denylistSep = "|" ∧
    Arc.Generated.C14.denylistSuffix = ")(?:\\s|[^\\x00-\\x7F])*\\(" := by
  refine ⟨?_, ?_, ?_, ?_, ?_, ?_, rfl, rfl, rfl⟩ <;> exact List.mem_map_of_mem (by decide +kernel)

/-- strings / non-name quoted identifiers directly after FROM, JOIN or a cross-join comma are rejected -/
theorem C14_table_position_examples :
    acceptedTok [.word "select".toList, .other '*', .word "from".toList, .str "/r/secret/cpu/*.parquet".toList] = false ∧
    acceptedTok [.word "select".toList, .other '*', .word "from".toList, .word "cpu".toList, .comma, .str "/p".toList] = false ∧
    acceptedTok [.word "select".toList, .other '*', .word "from".toList, .lparen, .word "select".toList, .word "v".toList,
                 .word "from".toList, .word "cpu".toList, .rparen, .word "a".toList, .comma, .qident "db2/**/*.parquet".toList] = false ∧
    acceptedTok [.word "select".toList, .str "x".toList, .word "from".toList, .qident "my-db".toList, .word "where".toList,
                 .word "a".toList, .comma, .str "v".toList] = true := by
  rewrite [acceptedTokE.2]
  decide +kernel

/-- the regex literals the hand-compiled matchers of `Arc/Model/C14/Str.lean` were written for -/
theorem C14_regex_tied :
    Arc.Generated.C14.patternDBTable = "(?i)\\bFROM\\s+([a-zA-Z0-9_]+)\\.([a-zA-Z0-9_]+)\\b" ∧
    Arc.Generated.C14.patternSimpleTable = "(?i)\\bFROM\\s+([a-zA-Z_][a-zA-Z0-9_]*)\\b" ∧
    Arc.Generated.C14.patternJoinDBTable = "(?i)\\b((?:(?:LEFT|RIGHT|FULL|INNER|OUTER|CROSS|NATURAL|SEMI|ANTI|ASOF|POSITIONAL)\\s+)*(?:LATERAL\\s+)?JOIN\\s+(?:LATERAL\\s+)?)([a-zA-Z0-9_]+)\\.([a-zA-Z0-9_]+)\\b" ∧
    Arc.Generated.C14.patternJoinSimpleTable = "(?i)\\b((?:(?:LEFT|RIGHT|FULL|INNER|OUTER|CROSS|NATURAL|SEMI|ANTI|ASOF|POSITIONAL)\\s+)*(?:LATERAL\\s+)?JOIN\\s+(?:LATERAL\\s+)?)([a-zA-Z_][a-zA-Z0-9_]*)\\b" ∧
    Arc.Generated.C14.patternCTENames = "(?i)\\bWITH\\s+(?:RECURSIVE\\s+)?(\\w+)(?:\\s*\\([^)]*\\))?\\s+AS\\s*\\(|,\\s*(\\w+)(?:\\s*\\([^)]*\\))?\\s+AS\\s*\\(" ∧
    Arc.Generated.C14.tablePosPlaceholder = "__(?:STR|IDENT)_\\d+__" ∧
    Arc.Generated.C14.tablePosTokenPattern = "__(?:STR|IDENT)_\\d+__|[A-Za-z_][A-Za-z0-9_]*|[(),]" ∧
    Arc.Generated.C14.validIdentifierPattern = "^[a-zA-Z_][a-zA-Z0-9_-]*$" :=
  ⟨rfl, rfl, rfl, rfl, rfl, rfl, rfl, rfl⟩

def before (a b : String) (l : List String) : Bool :=
  match l.idxOf? a, l.idxOf? b with
  | some i, some j => i < j
  | _, _ => false

/-- order of the validation steps and of the gates at each endpoint (regenerated call order) -/
theorem C14_step_order :
    Arc.Generated.C14.validateSteps = ["TrimSpace", "backticksToDoubleQuotes", "scanSQLFeatures", "MaskStringLiterals",
      "stripSQLComments", "TrimRight", "MatchString", "ioDenylistNormalise", "FindStringSubmatch",
      "stringLiteralInTablePosition", "invalidQuotedIdentifierInTablePosition"] ∧
    Arc.Generated.C14.permissionSteps = ["scanSQLFeatures", "MaskStringLiterals", "MaskFromKeywordsInFunctionBodies",
      "stripSQLComments", "extractTableReferences", "Get", "CheckPermissionsBatch"] ∧
    (∀ l ∈ [Arc.Generated.C14.steps_executeQuery, Arc.Generated.C14.steps_executeQueryArrow, Arc.Generated.C14.steps_estimateQuery],
      (before "ValidateSQLRequest" "checkQueryPermissions" l &&
       (before "checkQueryPermissions" "getTransformedSQL" l || before "checkQueryPermissions" "getTransformedSQLForParallel" l) &&
       before "normalizeSQLForShow" "checkQueryPermissions" l) = true) := by
  refine ⟨rfl, rfl, ?_⟩
  decide +kernel

/-- GET /api/v1/query/:measurement composes `SELECT * FROM db.m WHERE <where> …` from the caller's `where`
text; since fe9cde7 the composed statement goes through `checkQueryPermissions` before it is rewritten
(HISTORY: the call was missing, a subquery in `where` read any database). -/
theorem C14_measurement_endpoint_checked :
    before "checkQueryPermissions" "getTransformedSQL" Arc.Generated.C14.steps_queryMeasurement = true ∧
    before "ValidateSQLRequest" "checkQueryPermissions" Arc.Generated.C14.steps_queryMeasurement = true ∧
    before "checkMeasurementPermission" "getTransformedSQL" Arc.Generated.C14.steps_queryMeasurement = true := by
  decide +kernel

/-- **(R)** every round-2 repair is in place in the CURRENT source (regenerated structural facts): case-exact
`seen` key, guarded fast path, comment-skipping masker, single-pass unmask, fresh FROM-mask prefix, non-ASCII
dollar tags, mask-first denylist normalisation, ungated CTE names in the header path, no backslash escape in
plain literals, skip-prefix test on the resolved name, one-byte-separated cache key. -/
theorem C14_repairs_in_place :
    Arc.Generated.C14.seenKeyFoldsCase = false ∧ Arc.Generated.C14.fastPathGuarded = true ∧
    Arc.Generated.C14.maskerSkipsComments = true ∧ Arc.Generated.C14.unmaskSinglePass = true ∧
    Arc.Generated.C14.fromMaskPrefixFresh = true ∧ Arc.Generated.C14.dollarTagNonAscii = true ∧
    Arc.Generated.C14.denylistMasksFirst = true ∧ Arc.Generated.C14.headerCteGated = false ∧
    Arc.Generated.C14.maskBackslashEscapes = false ∧
    Arc.Generated.C14.skipTestOnResolvedName = [true, true, true, true, true, true] ∧
    Arc.Generated.C14.cacheKeySepByte = 0 := by
  decide

/-! ## the former lexical bypasses, evaluated on the byte-level transcription of the CURRENT code

(The transcription is diffed against the real code on every generated statement; HISTORY: each of these strings
was accepted with an empty checked set before the repairs named in the doc comments.) -/

/-- 8f4fe38 (backslash is an escape only inside E'' strings), 64dff5c (comments are skipped by the masker),
e3b9b4d (the denylist scan masks before it strips identifier quotes) and c63798f (non-ASCII blanks before the
parenthesis): the denylisted call is now visible to the validator in every spelling below -/
theorem C14_lexical_bypasses_fixed :
    ["SELECT 'a\\', canary FROM read_parquet('/r/secret/cpu/x.parquet') --'",
     "SELECT E'a\\\\', canary FROM read_parquet('/r/secret/cpu/x.parquet') --'",
     "SELECT 1 -- '\n, canary FROM read_parquet('/r/secret/cpu/x.parquet') -- '",
     "SELECT 1 /* ' */, canary FROM read_parquet('/r/secret/cpu/x.parquet') /* ' */",
     "SELECT 1 AS \"/*\", canary FROM read_parquet('/r/secret/cpu/x.parquet') -- */",
     "SELECT 1 AS \"$$\", canary FROM \"READ_CSV_AUTO\"($$/r/secret/cpu/x.parquet$$) -- $$",
     "SELECT canary FROM read_parquet\u00a0('/r/secret/cpu/x.parquet')"].all
      (fun s => validate s.toList == .io && inK s.toList []) = true := by
  simp only [List.all_cons, List.all_nil]
  repeat rw [String.toList_ofList]
  rewrite [validateE.2]
  decide +kernel

/-- 942e7b2 / f486253: `'__STR_1__'` and `__FROM_MASK_0__` in user text are still ACCEPTED by the validator (they
are ordinary text); what changed is the unmask step, which is not part of this model: it is single-pass
(`unmaskSinglePass`) and uses a prefix that does not occur in the text (`fromMaskPrefixFresh`) — see
`C14_repairs_in_place`; the monitors `canary-read:placeholder-lookalike` / `:from-mask-lookalike` stay armed. -/
theorem C14_placeholder_text_is_plain_text :
    validate "SELECT '__STR_1__' , ' , * FROM parquet_scan($$/r/secret/cpu/x.parquet$$) --'".toList = .ok ∧
    (strNorm "SELECT '__STR_1__' , ' , * FROM parquet_scan($$/r/secret/cpu/x.parquet$$) --'".toList).text
      = "SELECT __STR_0__ , __STR_1__".toList := by
  repeat rw [String.toList_ofList]
  rewrite [validateE.2]
  decide +kernel

/-- and ordinary statements are in K, accepted, and their references are checked -/
example :
    let s := "SELECT canary FROM secret.cpu a JOIN mem b ON true".toList
    inK s [] = true ∧ validate s = .ok ∧
    refsChecked strWorld s [] = [⟨"secret".toList, "cpu".toList⟩, ⟨"default".toList, "mem".toList⟩] := by
  repeat rw [String.toList_ofList]
  rewrite [validateE.2]
  decide +kernel

/-- d9537de: `query('<sql>')`, `query_table` and `parquet_full_metadata` are denied (HISTORY: they were
missing; `query()` runs SQL handed over inside a string literal) -/
theorem C14_denylist_gap_closed :
    acceptedTok [.word "select".toList, .other '*', .word "from".toList, .word "query".toList, .lparen,
                 .str "SELECT canary FROM parquet_scan('/r/secret/cpu/x.parquet')".toList, .rparen] = false ∧
    acceptedTok [.word "select".toList, .other '*', .word "from".toList, .word "parquet_full_metadata".toList, .lparen,
                 .str "/r/secret/cpu/x.parquet".toList, .rparen] = false ∧
    validate "SELECT * FROM query('SELECT canary FROM parquet_scan(''/r/x.parquet'')')".toList = .io := by
  repeat rw [String.toList_ofList]
  rewrite [validateE.2, acceptedTokE.2]
  decide +kernel

/-- abf5a7e: every dollar-quote tag DuckDB accepts — ASCII letters, digits after the first byte, underscore AND
bytes ≥ 0x80 — is masked as one string, so a replacement scan in table position is rejected -/
theorem C14_dollar_tag_masked :
    ["", "t", "t1", "_9", "T0", "a2b", "a_1", "é", "a1é"].all (fun tg =>
      validate ("SELECT canary FROM $".toList ++ tg.toList ++ "$/r/secret/cpu/f.parquet$".toList ++ tg.toList ++ "$".toList)
        == .strtab) = true := by
  simp only [List.all_cons, List.all_nil]
  repeat rw [String.toList_ofList]
  rewrite [validateE.2]
  decide +kernel

/-- in all four simple-table rewrite handlers and both extractor loops the skip-prefix test
(`shouldSkipTableConversion`) runs on the RESOLVED name, after the quoted-identifier placeholder was
resolved (regenerated call order + argument). This is what `rewriteKeeps` / `extractSkips` model; testing the
raw `__IDENT_n__` token on one side only makes the rewriter splice `"pg_x"` that the extractor skipped. -/
theorem C14_skip_prefix_on_resolved_name :
    Arc.Generated.C14.skipTestOnResolvedName = [true, true, true, true, true, true] :=
  rfl

/-- PRE-FIX definition (before /repo commit 12df811), kept only to state what was wrong: the key was
`sql` without a header and `headerDB + ":" + sql` with one -/
def cacheKeyPreFix (hdr sql : Str) : Str := if hdr = [] then sql else hdr ++ ':' :: sql

/-- historical witness (fixed): under the pre-fix key the header-less text "secret:<q>" addressed the entry
primed by (header secret, q), while the permission side extracts `default.cpu` from the text -/
theorem C14_cache_key_prefix_collision_witness :
    let q := "SELECT canary FROM cpu LIMIT 7".toList
    cacheKeyPreFix [] ("secret:".toList ++ q) = cacheKeyPreFix "secret".toList q ∧
    validate ("secret:".toList ++ q) = .ok ∧
    refsChecked strWorld ("secret:".toList ++ q) [] = [⟨"default".toList, "cpu".toList⟩] ∧
    refsChecked strWorld q "secret".toList = [⟨"secret".toList, "cpu".toList⟩] := by
  repeat rw [String.toList_ofList]
  rewrite [validateE.2]
  decide +kernel

def cacheSep : Char := Char.ofNat Arc.Generated.C14.cacheKeySepByte
/-- CURRENT key (regenerated shape: one unconditional assignment `headerDB + <sep byte> + sql`) -/
def cacheKey (hdr sql : Str) : Str := hdr ++ cacheSep :: sql

/-- a valid header (`validateHeaderDatabase`: empty or `validName`) never contains the separator byte -/
theorem headerOK_nosep {h : Str} (hh : headerOK h = true) : cacheSep ∉ h := by
  cases h with
  | nil => exact List.not_mem_nil
  | cons c cs => exact validName_not_mem (by decide) (by simpa [headerOK] using hh)

/-- **the repaired cache key cannot collide**: two requests with validated headers share a transform-cache
entry only if they have the same header AND the same text (so the permission check of the request that is
served the entry was made on exactly that (header, text) pair) -/
theorem C14_cache_key_injective (h1 h2 s1 s2 : Str) (v1 : headerOK h1 = true) (v2 : headerOK h2 = true)
    (h : cacheKey h1 s1 = cacheKey h2 s2) : h1 = h2 ∧ s1 = s2 :=
  split_sep (headerOK_nosep v1) (headerOK_nosep v2) h

example : cacheKey [] ("secret:SELECT 1".toList) ≠ cacheKey "secret".toList "SELECT 1".toList := by decide +kernel

/-- dc0b275 (HISTORY: `TABLE '<path>'`, `SUMMARIZE '<path>'`, `PIVOT '<path>' ON …` … were accepted, yielded no
reference and - containing neither `from` nor `join` - ran untransformed as replacement scans): the statement
kinds that take a table reference without FROM (regenerated lists) arm table position wherever a statement can
start; a column called `show` or `ORDER BY v DESC, 'c'` is unaffected. Token level and byte level. -/
theorem C14_statement_kind_fixed :
    acceptedTok [.word "TABLE".toList, .str "/r/secret/cpu/f.parquet".toList] = false ∧
    acceptedTok [.word "SUMMARIZE".toList, .word "TABLE".toList, .str "/r/secret/cpu/f.parquet".toList] = false ∧
    acceptedTok [.word "with".toList, .word "w".toList, .word "as".toList, .lparen, .word "table".toList,
                 .qident "/r/secret/cpu/f.parquet".toList, .rparen, .word "select".toList, .other '*', .word "from".toList, .word "w".toList] = false ∧
    acceptedTok [.word "select".toList, .word "show".toList, .comma, .str "c".toList, .word "from".toList, .word "cpu".toList,
                 .word "order".toList, .word "by".toList, .word "v".toList, .word "desc".toList, .comma, .str "c".toList] = true ∧
    ["TABLE '/r/secret/cpu/f.parquet'", "SUMMARIZE '/r/secret/cpu/f.parquet'", "DESC '/r/secret/cpu/f.parquet'",
     "PIVOT '/r/secret/cpu/f.parquet' ON canary USING count(*)", "EXPLAIN ANALYZE TABLE '/r/secret/cpu/f.parquet'",
     "SELECT canary FROM (TABLE '/r/secret/cpu/f.parquet') t"].all (fun s => validate s.toList == .strtab) = true ∧
    validate "SELECT show, 'c' FROM cpu ORDER BY v DESC, 'c'".toList = .ok := by
  simp only [List.all_cons, List.all_nil]
  repeat rw [String.toList_ofList]
  rewrite [validateE.2, acceptedTokE.2]
  decide +kernel

/-- **C14_partial** (the property on the decidable lexical class `inK`, compositional).
`ts` = DuckDB's token list of the user's text; `named` = the (database, measurement) directories named
by read_parquet calls in the EXECUTED text; `filesRead` = directories of the stored files DuckDB reads.
 * `hD` — DuckDB read-set ASSUMPTION: a single accepted statement (no file-reading table function, no
          string in table position) reads only files named by read_parquet calls in its text;
 * `hA` — lexical agreement ASSUMPTION on K (C15's subject): a read_parquet call in the executed text was
          spliced by the rewrite or is a call in the user's own token list;
 * `hC` — the conclusion of (C) (`C14_rewrite_subset_checked[_hdr]`, whose side conditions hold on K).
Then every file read lies in a checked (database, measurement) directory (`Covered` = membership, or the inert
sentinel directory). Since the round-2 repairs `inK` excludes only nested / unterminated block comments and the
pre-pass trigger words. -/
theorem C14_partial (W : World) (s hdr : Str) (ts : List Tok) (named filesRead : List Ref)
    (hK : inK s hdr = true) (hacc : acceptedTok ts = true)
    (hD : acceptedTok ts = true → ∀ f ∈ filesRead, f ∈ named)
    (hA : inK s hdr = true → ∀ f ∈ named, f ∈ refsRewritten W s hdr ∨ hasDeniedCall ts = true)
    (hC : ∀ r ∈ refsRewritten W s hdr, Covered (refsChecked W s hdr) r) :
    ∀ f ∈ filesRead, Covered (refsChecked W s hdr) f := by
  intro f hf
  have hden := (C14_validated ts hacc).2.1
  rcases hA hK f (hD hacc f hf) with h | h
  · exact hC f h
  · rw [hden] at h; cases h

example : ∃ s : Str, inK s [] = true ∧ acceptedTok [.word "select".toList, .word "from".toList, .word "cpu".toList] = true :=
  ⟨"select 1 from cpu".toList, by decide +kernel, by rewrite [acceptedTokE.2]; decide +kernel⟩

end Arc.C14
