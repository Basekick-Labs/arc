import Arc.Model.C06
import Arc.Generated.C06
import Arc.Proofs.C06.Locate
import Arc.Base.Lists
/-!
# C06 — the WAL reader returns only intact entries in append order

Property theorems about the byte-level model `Arc.Model.C06` (`List UInt8`; executable CRC-32).
All statements are for ALL entry lists, ALL truncation offsets, ALL positions and byte values, and
for ANY msgpack decoder (`Cfg.dec` is a parameter). CRC detection is a HYPOTHESIS (`CrcDetectsAt`),
never an axiom. The reader's on-error policy is a parameter; `Arc.Generated.C06` says which one the
current source has, and `C06_current_reader_status` ties the two.

STATUS. The full statement `C06_subsequence_full` is the theorem in force for the CURRENT source
(`Reader.ReadAll` stops at the first framing error since repo commit 7678978; `ParseEnvelope` no
longer wraps in uint16 since 8704efa). `C06_current_reader_status` re-checks on every run that the
regenerated policy is still "stop on framing errors, continue only on errUndecodable".
History: before 7678978 the loop `continue`d after every error and the full statement was FALSE —
`C06_prefix_reader_witness` keeps the counterexample as a statement about the explicitly named
`continue` policy (it was replayed on the real pre-fix reader: keys `fabricated-entry:*`).
-/
namespace Arc.C06
open List

/-! ## tie to the regenerated facts -/

/-- the constants of the model are the constants of the current source -/
theorem C06_constants_tied :
    Arc.Generated.C06.entryHeaderSize = entryHeaderSize ∧
    Arc.Generated.C06.fileHeaderSize = fileHeaderSize ∧
    Arc.Generated.C06.maxPayload = maxPayload ∧
    Arc.Generated.C06.envelopeMarker = envelopeMarker.toNat ∧
    Arc.Generated.C06.magic = magic.map UInt8.toNat ∧
    fileHeader = (Arc.Generated.C06.magic.map UInt8.ofNat) ++ be16 Arc.Generated.C06.version ++
      [UInt8.ofNat Arc.Generated.C06.checksumType] ∧
    fileHeader.length = Arc.Generated.C06.fileHeaderSize := by decide +kernel

/-- writer and reader use the same big-endian field layout: length [0:4], timestamp [4:12],
checksum [12:16] of the entry header; database length [1:3] of the envelope; version [4:6] of the file header -/
theorem C06_field_layout_tied :
    Arc.Generated.C06.fields =
      [("readEntry", "Uint32", 0, 4), ("readEntry", "Uint64", 4, 12), ("readEntry", "Uint32", 12, 16),
       ("AppendRaw", "PutUint32", 0, 4), ("AppendRaw", "PutUint64", 4, 12), ("AppendRaw", "PutUint32", 12, 16),
       ("AppendRawWithMeta", "PutUint32", 0, 4), ("AppendRawWithMeta", "PutUint64", 4, 12),
       ("AppendRawWithMeta", "PutUint32", 12, 16), ("AppendRawWithMeta", "PutUint16", 1, 3),
       ("rotate", "PutUint16", 4, 6), ("ParseEnvelope", "Uint16", 1, 3)] := rfl

/-- the size cap fits the 32-bit length field (so `uint32(len(payload))` never wraps) -/
theorem C06_maxPayload_fits : Arc.Generated.C06.maxPayload < 4294967296 := by decide

def policyOf (b : Bool) : Policy := if b then .cont else .stop

/-- the reader configuration of the CURRENT source, for any decoder -/
def currentCfg (dec : Bytes → Option (Bool × Bytes)) : Cfg :=
  { dec := dec
    onFrameErr := policyOf Arc.Generated.C06.frameErrContinues
    onDecodeErr := policyOf Arc.Generated.C06.decodeErrContinues }

/-- the lookup table is the one generated by the reflected IEEE polynomial 0xEDB88320 -/
theorem C06_crc_table : ∀ i, i < 256 → crcTable.getD i 0 = crcEntryGen i :=
  getD_of_toList_eq_map_range crcTable_toList

/-- standard check value of CRC-32/IEEE ("123456789") and the empty string -/
theorem C06_crc_check :
    crc32 [0x31, 0x32, 0x33, 0x34, 0x35, 0x36, 0x37, 0x38, 0x39] = 0xCBF43926 ∧ crc32 [] = 0 := by
  decide +kernel

/-- **C06_roundtrip.** Reading an undamaged file returns exactly the appended entries that
deserialise, in append order, each with its own timestamp, database and payload; the corrupted
counter is the number of appended entries that do not deserialise. For ALL entry lists. -/
theorem C06_roundtrip (cfg : Cfg) (es : List Entry) (hwf : ∀ e ∈ es, e.WF) (hc : ∀ e ∈ es, e.Clean cfg) :
    readAll cfg (fileOf es) = .ok (es.filterMap (view? cfg)) (skips (evsOf cfg es)) := by
  rw [fileOf, readAll_fileHeader, scanA_encodeAll_nil cfg es hwf hc, yielded_evsOf]

/-- decoder stand-in: a msgpack 2-element map is columnar, a 1-element array is rows -/
def exDec : Bytes → Option (Bool × Bytes) := fun b =>
  if b.head? = some 0x82 then some (false, b) else if b.head? = some 0x91 then some (true, b) else none
def exEs : List Entry :=
  [⟨1000001, envelope [112, 114, 111, 100] [0x82, 0xa1, 0x6d, 0xa1, 0x78]⟩, ⟨1000002, [0x91, 0x80]⟩, ⟨1000003, [0xc1]⟩]
def exCfg : Cfg := { dec := exDec, onFrameErr := .cont, onDecodeErr := .cont }

/-- hypotheses of `C06_roundtrip` are satisfiable by a non-trivial log (enveloped, raw and undecodable entry) -/
example : (∀ e ∈ exEs, e.WF) ∧ (exEs.filterMap (view? exCfg)).length = 2 := by decide +kernel

/-- **C06_truncate.** Truncating the file at ANY offset `n` returns exactly the entries that were
completely written before `n` (those of them that deserialise) — nothing is hidden, nothing else
appears; a torn tail is never an error. For ALL entry lists and ALL `n`, for either on-error policy. -/
theorem C06_truncate (cfg : Cfg) (es : List Entry) (hwf : ∀ e ∈ es, e.WF) (hc : ∀ e ∈ es, e.Clean cfg) (n : Nat) :
    ∃ c, readAll cfg ((fileOf es).take n) = .ok ((es.take (completeFile es n)).filterMap (view? cfg)) c := by
  unfold completeFile
  by_cases hn : n < 7
  · have : ((fileOf es).take n).length < 7 := by rw [List.length_take]; omega
    exact ⟨0, by rw [readAll, if_pos this, if_pos hn]; rfl⟩
  · have ht : (fileOf es).take n = fileHeader ++ (encodeAll es).take (n - 7) := by
      rw [fileOf, List.take_append, List.take_of_length_le (Nat.le_of_not_lt hn)]; rfl
    exact ⟨_, by rw [if_neg hn, ht, readAll_fileHeader, yielded_truncate cfg es hwf hc]⟩

/-- `completeFile` counts exactly the entries whose last byte lies before the cut -/
theorem C06_complete_spec (e : Entry) (es : List Entry) (n : Nat) :
    complete (e :: es) n = if encLen e ≤ n then complete es (n - encLen e) + 1 else 0 := rfl

example : completeFile exEs 7 = 0 ∧ completeFile exEs (7 + 28) = 1 ∧ completeFile exEs (7 + 28 + 17) = 1 ∧
    completeFile exEs (7 + 28 + 18) = 2 ∧ completeFile exEs 1000 = 3 := by decide +kernel

theorem envelope_length (db p : Bytes) : (envelope db p).length = 3 + db.length + p.length := by
  simp only [envelope, List.length_cons, List.length_append, be16_length]; omega

/-- **C06_envelope.** `ParseEnvelope` inverts the envelope for EVERY database name the 16-bit
length field can express (≤ 65535 bytes; the writer itself allows ≤ 255). -/
theorem C06_envelope (db p : Bytes) (hdb : db.length ≤ 65535) (hne : 0 < db.length + p.length) :
    parseEnvelope (envelope db p) = some (db, p) := by
  -- `envelope db p` is `marker :: hi :: lo :: (db ++ p)` by computation
  have hlen := envelope_length db p
  have h16 : rdBE (((envelope db p).drop 1).take 2) = db.length := rdBE_be16 _ (by omega)
  have hd3 : (envelope db p).drop 3 = db ++ p := rfl
  unfold parseEnvelope
  simp only [h16]
  rw [if_pos ⟨by omega, rfl⟩, if_pos (by omega), Nat.add_sub_cancel_left, ← List.drop_drop, hd3,
    List.take_left' rfl, List.drop_left' rfl]

example : parseEnvelope (envelope [112, 114, 111, 100] [0x82, 0x01]) = some ([112, 114, 111, 100], [0x82, 0x01]) := by
  decide +kernel

/-- a payload that does not start with the marker byte (every msgpack array or map) is never
mistaken for an envelope -/
theorem C06_raw_unambiguous (p : Bytes) (h : p.head? ≠ some envelopeMarker) : parseEnvelope p = some ([], p) := by
  unfold parseEnvelope; simp [h]

/-- the envelope parser of the current source never panics, so the reader loop never does -/
theorem C06_no_panic (cfg : Cfg) (ts : Nat) (p : Bytes) : classify cfg ts p ≠ .panic := by
  rcases classify_cases cfg ts p with ⟨h, _⟩ | ⟨o, h, _⟩ <;> rw [h] <;> nofun

/-- History, about the explicitly named PRE-FIX function only (`parseEnvelopePreFix`, the code
before repo commit 8704efa): its `uint16` bound wrapped and `01 ff ff ..` panicked; the current
`parseEnvelope` returns the payload unchanged. -/
theorem C06_envelope_wrap_witness_prefix :
    parseEnvelopePreFix [1, 0xff, 0xff, 0x80] = none ∧
    parseEnvelope [1, 0xff, 0xff, 0x80] = some ([], [1, 0xff, 0xff, 0x80]) ∧
    (∃ c, readAll exCfg (fileOf [⟨5, [1, 0xff, 0xff, 0x80]⟩]) = .ok [] c) := by
  refine ⟨by decide +kernel, by decide +kernel, 1, by decide +kernel⟩

/-! ## corruption of one byte -/

/-- **C06_subsequence_stop** — the FULL statement, for a reader that stops at the first framing
error: after overwriting ANY single byte of the file (file header, length, timestamp, checksum,
envelope or payload byte) with ANY value, recovery yields a subsequence of the appended
(format, database, payload) triples, byte-for-byte and in append order — nothing altered, nothing
fabricated. For ALL entry lists, positions, values and decoders. -/
theorem C06_subsequence_stop (cfg : Cfg) (hstop : cfg.onFrameErr = .stop) (es : List Entry)
    (hwf : ∀ e ∈ es, e.WF) (k : Nat) (v : UInt8) (hk : k < (fileOf es).length) (hcrc : CrcDetectsAt es k v) :
    (recovered cfg ((fileOf es).set k v)).map Out.pd <+ es.filterMap (fun e => viewpd cfg e.payload) :=
  recovered_set_sublist cfg hwf hk hcrc (Or.inl hstop)

/-- **C06_subsequence_partial** — the same conclusion for EITHER policy (in particular the
`continue` the source had before repo commit 7678978) under the carve-out that the damaged byte is
not one of the four length bytes of an entry header. -/
theorem C06_subsequence_partial (cfg : Cfg) (es : List Entry)
    (hwf : ∀ e ∈ es, e.WF) (k : Nat) (v : UInt8) (hk : k < (fileOf es).length) (hcrc : CrcDetectsAt es k v)
    (hcarve : inLenField es k = false) :
    (recovered cfg ((fileOf es).set k v)).map Out.pd <+ es.filterMap (fun e => viewpd cfg e.payload) :=
  recovered_set_sublist cfg hwf hk hcrc (Or.inr hcarve)

/-- **C06_current_reader_status.** The regenerated facts of the current source: `ReadAll` stops
at framing errors, goes on after an intact-but-undecodable entry, and `ParseEnvelope` computes its
bound in `int`. A source edit that changes any of these breaks this `decide`. -/
theorem C06_current_reader_status :
    Arc.Generated.C06.frameErrContinues = false ∧ Arc.Generated.C06.decodeErrContinues = true ∧
    Arc.Generated.C06.envelopeBoundInInt = true := by decide

theorem currentCfg_stop (dec : Bytes → Option (Bool × Bytes)) : (currentCfg dec).onFrameErr = .stop :=
  congrArg policyOf C06_current_reader_status.1

theorem currentCfg_clean (dec : Bytes → Option (Bool × Bytes)) (e : Entry) : e.Clean (currentCfg dec) :=
  Or.inl (congrArg policyOf C06_current_reader_status.2.1)

/-- **C06_subsequence_full** — the property's corruption clause at full strength, for the reader of
the CURRENT source and ANY decoder: overwrite ANY single byte of the file of ANY appended entry list
with ANY value; recovery yields a subsequence of the appended (format, database, payload) triples,
byte-for-byte, in append order. Only hypotheses: entries are well-formed (writer-enforced) and the
CRC tells the payload framed at the damaged entry from the original (`CrcDetectsAt`, decidable). -/
theorem C06_subsequence_full (dec : Bytes → Option (Bool × Bytes)) (es : List Entry)
    (hwf : ∀ e ∈ es, e.WF) (k : Nat) (v : UInt8) (hk : k < (fileOf es).length) (hcrc : CrcDetectsAt es k v) :
    (recovered (currentCfg dec) ((fileOf es).set k v)).map Out.pd <+
      es.filterMap (fun e => viewpd (currentCfg dec) e.payload) :=
  C06_subsequence_stop (currentCfg dec) (currentCfg_stop dec) es hwf k v hk hcrc

/-- round trip and truncation for the reader of the CURRENT source need no side condition beyond
well-formed entries: it continues after an undecodable entry and its envelope parser cannot panic -/
theorem C06_roundtrip_current (dec : Bytes → Option (Bool × Bytes)) (es : List Entry) (hwf : ∀ e ∈ es, e.WF) :
    readAll (currentCfg dec) (fileOf es) =
      .ok (es.filterMap (view? (currentCfg dec))) (skips (evsOf (currentCfg dec) es)) :=
  C06_roundtrip (currentCfg dec) es hwf (fun e _ => currentCfg_clean dec e)

theorem C06_truncate_current (dec : Bytes → Option (Bool × Bytes)) (es : List Entry) (hwf : ∀ e ∈ es, e.WF) (n : Nat) :
    ∃ c, readAll (currentCfg dec) ((fileOf es).take n) =
      .ok ((es.take (completeFile es n)).filterMap (view? (currentCfg dec))) c :=
  C06_truncate (currentCfg dec) es hwf (fun e _ => currentCfg_clean dec e) n

/-- hypotheses of the corruption theorems are satisfiable: a payload byte, a checksum byte and a
length byte of a 3-entry log, with the CRC hypothesis holding -/
example : (∀ e ∈ exEs, e.WF) ∧ 30 < (fileOf exEs).length ∧
    CrcDetectsAt exEs 30 0x55 ∧ inLenField exEs 30 = false ∧
    CrcDetectsAt exEs 20 0x55 ∧ inLenField exEs 20 = false ∧
    CrcDetectsAt exEs 10 0x03 ∧ inLenField exEs 10 = true := by decide +kernel

/-! ### historical witness: a corrupted length byte made the PRE-FIX (`continue`) reader fabricate an entry -/

/-- payload never appended: an enveloped columnar entry for database "prod" -/
def wEvil : Bytes := envelope [112, 114, 111, 100] [0x82, 0xa1, 0x6d, 0xa3, 0x63, 0x70, 0x75, 0xa7, 0x63, 0x6f, 0x6c,
  0x75, 0x6d, 0x6e, 0x73, 0x81, 0xa1, 0x76, 0x91, 0xcd, 0x02, 0x9a]
/-- the single appended entry: `{"m":"cpu","columns":{"note":[<str of 45 bytes>]}}` for database
"prod", whose string value is a well-formed WAL entry carrying `wEvil` -/
def wPrefix : Bytes := [0x82, 0xa1, 0x6d, 0xa3, 0x63, 0x70, 0x75, 0xa7, 0x63, 0x6f, 0x6c, 0x75, 0x6d, 0x6e, 0x73, 0x81,
  0xa4, 0x6e, 0x6f, 0x74, 0x65, 0x91, 0xd9, 0x2d]
def wEs : List Entry := [⟨1790037143274048, envelope [112, 114, 111, 100] (wPrefix ++ encodeEntry ⟨7, wEvil⟩)⟩]
/-- columnar decoder stand-in: a msgpack 2-element map -/
def wDec : Bytes → Option (Bool × Bytes) := fun b => if b.head? = some 0x82 then some (false, b) else none
def wCfg : Cfg := { dec := wDec, onFrameErr := .cont, onDecodeErr := .cont }

/-- **C06_prefix_reader_witness.** About the explicitly named `continue` policy (`wCfg`, the reader
before repo commit 7678978), NOT the current source: the log holds ONE appended entry; overwriting
the low byte of its length field (file offset 10) with 31 made that reader skip a 31-byte "payload"
with a bad checksum, resynchronise inside the old payload, and return the embedded entry —
database "prod", a payload that was never appended — while the appended one was lost. All
hypotheses of the full statement hold. This is why `C06_subsequence_stop` needs `onFrameErr = stop`. -/
theorem C06_prefix_reader_witness :
    wCfg.onFrameErr = .cont ∧
    (∀ e ∈ wEs, e.WF) ∧ 10 < (fileOf wEs).length ∧ CrcDetectsAt wEs 10 31 ∧ inLenField wEs 10 = true ∧
    (recovered wCfg ((fileOf wEs).set 10 31)).map Out.pd = [(false, [112, 114, 111, 100], wEvil.drop 7)] ∧
    ¬ ((recovered wCfg ((fileOf wEs).set 10 31)).map Out.pd <+ wEs.filterMap (fun e => viewpd wCfg e.payload)) := by
  decide +kernel

/-- the same damaged file under the reader of the current source: nothing is fabricated -/
theorem C06_witness_current :
    recovered (currentCfg wDec) ((fileOf wEs).set 10 31) = [] := by decide +kernel

theorem rotateSplit_flatten (maxSize : Nat) : ∀ (es cur : List Entry) (sz : Nat),
    (rotateSplit maxSize cur sz es).flatten = cur.reverse ++ es := by
  intro es
  induction es with
  | nil => intro cur sz; simp [rotateSplit]
  | cons e es ih =>
    intro cur sz
    unfold rotateSplit
    split
    · simp [ih]
    · rw [ih]; simp

theorem flatMap_groups (cfg : Cfg) (gs : List (List Entry)) (h : ∀ e ∈ gs.flatten, e.WF ∧ e.Clean cfg) :
    (gs.map fileOf).flatMap (recovered cfg) = gs.flatten.filterMap (view? cfg) := by
  induction gs with
  | nil => rfl
  | cons g gs ih =>
    rw [List.flatten_cons] at h
    rw [List.map_cons, List.flatMap_cons, List.flatten_cons, List.filterMap_append, recovered,
      C06_roundtrip cfg g (fun e he => (h e (mem_append_left _ he)).1) (fun e he => (h e (mem_append_left _ he)).2),
      ih fun e he => h e (mem_append_right _ he)]

/-- **C06_rotation.** Size-based rotation only cuts the entry sequence into consecutive groups:
reading the rotated files in creation order returns exactly what reading one big file would. -/
theorem C06_rotation (cfg : Cfg) (maxSize : Nat) (es : List Entry) (hwf : ∀ e ∈ es, e.WF) (hc : ∀ e ∈ es, e.Clean cfg) :
    (filesOf maxSize es).flatMap (recovered cfg) = es.filterMap (view? cfg) := by
  have hfl : (rotateSplit maxSize [] fileHeaderSize es).flatten = es := rotateSplit_flatten maxSize es [] _
  rw [filesOf, flatMap_groups cfg _ (hfl.symm ▸ fun e he => ⟨hwf e he, hc e he⟩), hfl]

example : (filesOf 30 exEs).length = 3 ∧ (filesOf 1000 exEs).length = 1 := by decide +kernel

/-- exact behaviour of the `continue` reader on one damaged entry whose frame stays aligned and whose
checksum no longer matches: exactly that entry is dropped -/
theorem scanA_dropped (cfg : Cfg) (hcont : cfg.onFrameErr = .cont) {X R : Bytes} (h : readEntry X = .badCrc R) :
    scanA cfg X = .skip :: scanA cfg R := by
  rw [scanA_unfold, h]; exact congrArg _ (if_pos hcont)

/-- **C06_corrupt_payload.** Under the `continue` policy (the source before repo commit 7678978; the
current one stops, see `C06_subsequence_full`), a damaged payload (or envelope) byte that the CRC
detects removes exactly that entry: every other appended entry — before AND after it — is still
returned, unaltered and in order. -/
theorem C06_corrupt_payload (cfg : Cfg) (hcont : cfg.onFrameErr = .cont) (pre : List Entry) (e : Entry) (post : List Entry)
    (hwf : ∀ x ∈ pre ++ e :: post, x.WF) (hc : ∀ x ∈ pre ++ post, x.Clean cfg)
    (j : Nat) (h16 : 16 ≤ j) (v : UInt8)
    (hcrc : crc32 (e.payload.set (j - 16) v) ≠ crc32 e.payload) :
    recovered cfg (fileHeader ++ (encodeAll pre ++ ((encodeEntry e).set j v ++ encodeAll post))) =
      (pre ++ post).filterMap (view? cfg) := by
  have hwfe : e.WF := hwf e (by simp)
  have hq : (e.payload.set (j - 16) v).length = e.payload.length := List.length_set
  have hbad := readEntry_aligned (encodeAll post) rfl ((hdr_len hwfe).trans hq.symm) (hq ▸ hwfe.1)
  rw [hdr_crc, if_pos hcrc] at hbad
  rw [recovered, readAll_fileHeader,
    scanA_encodeAll cfg pre _ (fun x hx => hwf x (by simp [hx])) (fun x hx => hc x (by simp [hx])),
    encodeEntry_eq, List.set_append_right _ _ h16, hdr_length, List.append_assoc,
    scanA_dropped cfg hcont hbad,
    scanA_encodeAll_nil cfg post (fun x hx => hwf x (by simp [hx])) (fun x hx => hc x (by simp [hx])),
    yielded_append, List.filterMap_append, yielded_evsOf]
  exact congrArg _ (yielded_evsOf cfg post)

example : ∀ e ∈ exEs.take 1, crc32 (e.payload.set (20 - 16) 0x55) ≠ crc32 e.payload := by decide +kernel

/-! ## rotation with file names (resolution of the name's time layout is a regenerated fact) -/

theorem dirAppend_fresh {dir : List (Nat × Bytes)} {k : Nat} (bs : Bytes) (h : ∀ p ∈ dir, p.1 ≠ k) :
    dirAppend dir k bs = dir ++ [(k, bs)] := by
  rw [dirAppend, if_neg]
  rw [Bool.not_eq_true, List.any_eq_false]
  exact fun p hp => by simpa using h p hp

theorem dirAppend_last (d : List (Nat × Bytes)) (k : Nat) (b bs : Bytes) (h : ∀ p ∈ d, p.1 ≠ k) :
    dirAppend (d ++ [(k, b)]) k bs = d ++ [(k, b ++ bs)] := by
  have hd : d.map (fun p => if p.1 == k then (p.1, p.2 ++ bs) else p) = d := by
    rw [List.map_congr_left fun p hp => if_neg (by simpa using h p hp), List.map_id']
  rw [dirAppend, if_pos (by simp), List.map_append, hd]
  simp

theorem fileOf_snoc (cur : List Entry) (e : Entry) :
    fileOf cur.reverse ++ encodeEntry e = fileOf (e :: cur).reverse := by
  rw [fileOf, fileOf, List.reverse_cons, encodeAll_append, List.append_assoc, encodeAll, encodeAll,
    List.append_nil]

/-- with nanosecond names a rotation at an instant later than every file's creates a new, header-only file -/
theorem wRotate_fresh (s : WState) (t : Nat) (h : ∀ p ∈ s.dir, p.1 < t) :
    wRotate 1 s t = ⟨s.dir ++ [(t, fileOf [])], t, fileHeaderSize⟩ := by
  rw [wRotate, nameKey, Nat.div_one, dirAppend_fresh _ fun p hp => Nat.ne_of_lt (h p hp)]; rfl

/-- The directory of the named writer, file by file, is the name-free `rotateSplit`: `d` are the closed
files, `k` names the current one, which holds `cur` (newest first). -/
theorem foldl_wAppend_dir (maxSize : Nat) : ∀ (apps : List (Nat × Entry)) (d : List (Nat × Bytes)) (k : Nat)
    (cur : List Entry) (sz : Nat),
    (∀ p ∈ d, p.1 < k) → List.Pairwise (· < ·) (k :: apps.map Prod.fst) →
    ((apps.foldl (wAppend 1 maxSize) ⟨d ++ [(k, fileOf cur.reverse)], k, sz⟩).dir.map Prod.snd) =
      d.map Prod.snd ++ (rotateSplit maxSize cur sz (apps.map Prod.snd)).map fileOf := by
  intro apps
  induction apps with
  | nil => intro d k cur sz _ _; simp [rotateSplit]
  | cons te rest ih =>
    intro d k cur sz hd hinc
    obtain ⟨t, e⟩ := te
    have hkt : k < t := (List.pairwise_cons.mp hinc).1 t List.mem_cons_self
    have hw := dirAppend_last d k (fileOf cur.reverse) (encodeEntry e) fun p hp => Nat.ne_of_lt (hd p hp)
    rw [fileOf_snoc] at hw
    rw [List.foldl_cons, wAppend, List.map_cons, rotateSplit]
    simp only [hw]
    by_cases hsz : sz + encLen e ≥ maxSize
    · have hd' : ∀ p ∈ d ++ [(k, fileOf (e :: cur).reverse)], p.1 < t :=
        forall_mem_snoc (fun p hp => Nat.lt_trans (hd p hp) hkt) hkt
      rw [if_pos hsz, if_pos hsz, wRotate_fresh _ t hd']
      exact (ih _ t [] fileHeaderSize hd' (List.pairwise_cons.mp hinc).2).trans
        (by rw [List.map_append, List.append_assoc]; rfl)
    · rw [if_neg hsz, if_neg hsz]
      exact ih d k (e :: cur) _ hd (hinc.sublist (.cons_cons _ (List.sublist_cons_self _ _)))

/-- **C06_rotation_named.** HYPOTHESES stated explicitly: (1) the time in the rotated file's name has
nanosecond resolution (`resNs = 1`; regenerated fact, see `C06_file_name_resolution`), and (2) the
instants of `NewWriter` and of the appends are strictly increasing. Then no rotation ever re-opens
an existing file: the directory holds exactly one file per rotation (plus the initial one), with
exactly the contents of the name-free model `filesOf`, so `C06_rotation` applies to it. -/
theorem C06_rotation_named (resNs : Nat) (hres : resNs = 1) (maxSize t0 : Nat) (apps : List (Nat × Entry))
    (hinc : List.Pairwise (· < ·) (t0 :: apps.map Prod.fst)) :
    namedFiles resNs maxSize t0 apps = filesOf maxSize (apps.map Prod.snd) := by
  subst hres
  unfold namedFiles wRun filesOf
  have hnil : ∀ p ∈ ([] : List (Nat × Bytes)), p.1 < t0 := fun _ h => nomatch h
  rw [wRotate_fresh _ t0 hnil]
  exact foldl_wAppend_dir maxSize apps [] t0 [] fileHeaderSize hnil hinc

/-- the file-name resolution of the CURRENT source is one nanosecond -/
theorem C06_file_name_resolution : Arc.Generated.C06.fileNameResolutionNs = 1 := by decide

/-- tightness: with millisecond names (the layout `…150405.000`) two rotations 999 µs apart re-open
the same file, a second header lands in the middle of it, and recovery of the CLEANLY written log
loses entries — the hypothesis `resNs = 1` cannot be dropped. -/
theorem C06_rotation_resolution_tight :
    let apps : List (Nat × Entry) := [(5000000, ⟨1, [0x91, 0x80]⟩), (5999000, ⟨2, [0x91, 0x80]⟩), (6998000, ⟨3, [0x91, 0x80]⟩)]
    (namedFiles 1000000 20 4000000 apps).length = 3 ∧ (namedFiles 1 20 4000000 apps).length = 4 ∧
    ((namedFiles 1000000 20 4000000 apps).flatMap (recovered exCfg)).length = 2 ∧
    ((namedFiles 1 20 4000000 apps).flatMap (recovered exCfg)).length = 3 := by decide +kernel

/-- **C06_rotation_current.** Recovery of a cleanly closed, rotated log of the CURRENT source returns
every appended entry exactly once, in order — under the explicit hypothesis that the clock strictly
increases between `NewWriter` and the successive appends (with the regenerated ns name resolution). -/
theorem C06_rotation_current (dec : Bytes → Option (Bool × Bytes)) (maxSize t0 : Nat) (apps : List (Nat × Entry))
    (hwf : ∀ te ∈ apps, te.2.WF) (hinc : List.Pairwise (· < ·) (t0 :: apps.map Prod.fst)) :
    (namedFiles Arc.Generated.C06.fileNameResolutionNs maxSize t0 apps).flatMap (recovered (currentCfg dec)) =
      (apps.map Prod.snd).filterMap (view? (currentCfg dec)) := by
  rw [C06_rotation_named _ C06_file_name_resolution maxSize t0 apps hinc]
  exact C06_rotation (currentCfg dec) maxSize _
    (List.forall_mem_map.mpr hwf)
    (fun e _ => currentCfg_clean dec e)

/-! ## recovery order across files, ownership of appended bytes -/

theorem insByMtime_le_head (x : Nat × Bytes) (xs : List (Nat × Bytes)) (h : ∀ y ∈ xs, x.1 ≤ y.1) :
    insByMtime true x xs = x :: xs := by
  cases xs with
  | nil => rfl
  | cons y ys =>
    have : ¬ y.1 < x.1 := Nat.not_lt.mpr (h y mem_cons_self)
    simp [insByMtime, this]

theorem sortByMtime_sorted (fs : List (Nat × Bytes)) (h : List.Pairwise (fun a b => a.1 ≤ b.1) fs) :
    sortByMtime true fs = fs := by
  induction fs with
  | nil => rfl
  | cons x xs ih =>
    have hp := List.pairwise_cons.mp h
    rw [sortByMtime, ih hp.2, insByMtime_le_head x xs hp.1]

/-- the comparator of the CURRENT source is strict (`Before`), and appends own their bytes -/
theorem C06_mtime_comparator_strict : Arc.Generated.C06.mtimeComparatorStrict = true := by decide
theorem C06_append_owns_payload : Arc.Generated.C06.appendCopiesBeforeEnqueue = true := by decide

/-- **C06_recovery_order.** HYPOTHESIS stated explicitly: modification times do not decrease in file
name (= creation) order — equal mtimes (coarse kernel clock, burst rotation) are ALLOWED. Then the
recovery pass of the current source (strict comparator, insertion sort for ≤ 12 files) reads the
files in creation order, so it replays what `C06_rotation_current` says. -/
theorem C06_recovery_order (cfg : Cfg) (files : List (Nat × Bytes))
    (hm : List.Pairwise (fun a b => a.1 ≤ b.1) files) :
    recoverDir cfg Arc.Generated.C06.mtimeComparatorStrict files = (files.map Prod.snd).flatMap (recovered cfg) := by
  unfold recoverDir
  rw [C06_mtime_comparator_strict, sortByMtime_sorted files hm, List.flatMap_map]

/-- tightness: a non-strict comparator (`!After`) reverses files that share one mtime -/
theorem C06_recovery_order_tight :
    sortByMtime false [(5, [1]), (5, [2]), (5, [3]), (9, [4])] = [(5, [3]), (5, [2]), (5, [1]), (9, [4])] ∧
    sortByMtime true [(5, [1]), (5, [2]), (5, [3]), (9, [4])] = [(5, [1]), (5, [2]), (5, [3]), (9, [4])] := by decide +kernel

/-! ## size limit (any value of the limit), Reader→Recovery composition on torn tails -/

theorem C06_size_facts : Arc.Generated.C06.sizeLimitOnWrittenLength = true ∧
    Arc.Generated.C06.readAllStopIsNotAnError = true := by decide

/-- an accepted append writes the caller's bytes, whose length passed the limit test -/
theorem appendRawL_ok {lim ts : Nat} {p : Bytes} {e : Entry} (h : appendRawL lim ts p = .ok e) :
    e = ⟨ts, p⟩ ∧ p.length ≤ lim := by
  unfold appendRawL at h
  split at h
  · cases h
  · cases h; exact ⟨rfl, Nat.le_of_not_lt ‹_›⟩

/-- … and with metadata it writes the envelope, and it is the envelope's length that passed the test -/
theorem appendRawWithMetaL_ok {lim ts : Nat} {db p : Bytes} {e : Entry}
    (h : appendRawWithMetaL lim ts db p = .ok e) :
    e = ⟨ts, envelope db p⟩ ∧ (envelope db p).length ≤ lim := by
  unfold appendRawWithMetaL at h
  split at h
  · cases h
  · split at h <;> cases h
    exact ⟨rfl, envelope_length db p ▸ Nat.le_of_not_lt ‹_›⟩

/-- **C06_writer_accepts_reader_accepts.** For ANY value `lim` of the shared size constant: an
append the writer accepts produces an entry whose written length passes the reader's size guard
(`payloadLen > lim` is false). Regenerated facts: both sides compare the SAME constant, and the
writer compares the length it actually writes, envelope included (`sizeLimitOnWrittenLength`). -/
theorem C06_writer_accepts_reader_accepts (lim ts : Nat) (db p : Bytes) (e : Entry) :
    (appendRawL lim ts p = .ok e → ¬ e.payload.length > lim) ∧
    (appendRawWithMetaL lim ts db p = .ok e → ¬ e.payload.length > lim) :=
  ⟨fun h => by obtain ⟨rfl, hl⟩ := appendRawL_ok h; exact Nat.not_lt.mpr hl,
   fun h => by obtain ⟨rfl, hl⟩ := appendRawWithMetaL_ok h; exact Nat.not_lt.mpr hl⟩

/-- with the production limit an accepted append is a well-formed entry (hypothesis `Entry.WF` of
the other theorems), provided the clock is a uint64 -/
theorem C06_accepted_wf (ts : Nat) (hts : ts < 18446744073709551616) (db p : Bytes) (e : Entry) :
    (appendRaw ts p = .ok e → e.WF) ∧ (appendRawWithMeta ts db p = .ok e → e.WF) :=
  ⟨fun h => by obtain ⟨rfl, hl⟩ := appendRawL_ok h; exact ⟨hl, hts⟩,
   fun h => by obtain ⟨rfl, hl⟩ := appendRawWithMetaL_ok h; exact ⟨hl, hts⟩⟩

/-- tightness: limiting only the caller's bytes (not envelope + bytes) lets the writer accept an
entry the reader rejects: database "d", 8 caller bytes, limit 8 → written length 12 > 8 -/
example : (3 + 1 + 8 > 8) ∧ ¬ ((8 : Nat) > 8) := by decide

/-- **C06_torn_tail_recovered.** What recovery of the current source replays from a file cut at ANY
offset: exactly the completely written entries (that deserialise). Stopping on the torn tail is not
an error (`readAllStopIsNotAnError`), so `recovered` = the entries `ReadAll` returned. -/
theorem C06_torn_tail_recovered (dec : Bytes → Option (Bool × Bytes)) (es : List Entry) (hwf : ∀ e ∈ es, e.WF) (n : Nat) :
    recovered (currentCfg dec) ((fileOf es).take n) =
      (es.take (completeFile es n)).filterMap (view? (currentCfg dec)) := by
  obtain ⟨c, h⟩ := C06_truncate_current dec es hwf n
  unfold recovered; rw [h]

end Arc.C06
