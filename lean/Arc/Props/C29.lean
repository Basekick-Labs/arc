import Arc.Model.C29
import Arc.Generated.C29
/-!
# C29 — continuous query windows are contiguous and processed once

Property text: *Successive scheduled executions of a continuous query process time windows that are
contiguous and non-overlapping, each starting where the previous successful execution ended; a failed
execution does not advance the window, and output rows are labelled with the start of the window
they summarise.*  Quantifier: all sequences of scheduled and manual executions, failures, restarts
and query updates under a controlled clock.

Proved for ALL histories (`List Op`), all integer clock positions and every starting state:
`C29_fail_no_advance`, `C29_advance_only_if_written`, `C29_completed_advances`, `C29_cursor_is_last_completed_end`, `C29_chain`,
`C29_label`, `C29_label_cursor`.

The label clause is proved in full (`C29_label`; the sub-second label defect found by this check was
fixed in /repo 388c9ab).  The code as it is violates the contiguity / processed-once clauses on two
input classes (known findings, confirmed on the real handler by the harness): manual executions with
an explicit range move the cursor, and rows written by an execution whose record-and-advance
transaction failed are re-emitted.  For those the full statement is kept in a comment, concrete
`_witness`es are proved, and the `_partial` theorems hold under the decidable carve-out `tameOp`.

`Ran` collects what `execWindow` guarantees of its result whichever branch it takes; by `step_cases` a
step either does not get that far (`Idle`) or its result is `Ran`, and each per-step theorem reads off
the conjunct it needs.  The `_partial` theorems follow from one invariant, `tame_chainFrom`: along a
tame history the successful windows form a chain from the initial cursor (`ChainFrom`).
-/
namespace Arc.C29

theorem floorSec_mono {a b : Int} (h : a ≤ b) : floorSec a ≤ floorSec b :=
  Int.ediv_le_ediv (by decide) h

theorem floorSec_cursorStart (c now : Int) : floorSec (cursorStart (some c) now) = c :=
  Int.mul_ediv_cancel c (by decide)

/-- What holds of the result `r` of `execWindow st k _ a b dry f`, whichever branch is taken. -/
def Ran (st : State) (k : Kind) (a b : Int) (dry : Bool) (f : Fault) (r : State × Event) : Prop :=
  let w := (floorSec a, floorSec b)
  r.2.kind = k ∧ r.2.startNs = a ∧
  (∀ w', r.2.win = some w' → w' = w) ∧
  (∀ l, r.2.label = some l → l = w.1 * 1000000 ∧ r.2.win = some w) ∧
  (r.2.reportedOk = true → recFails f = false → r.2.status = .completed) ∧
  (r.2.status ≠ .completed → r.1.lp = st.lp) ∧
  (r.2.status = .completed → a < b ∧ dry = false ∧ writeFails st f (aggRows st w.1 w.2) = false ∧
    r.2.win = some w ∧ r.2.rows = aggRows st w.1 w.2 ∧ r.1.lp = some w.2)

theorem execWindow_spec (st : State) (k : Kind) (ex : Bool) (a b : Int) (dry : Bool) (f : Fault) :
    Ran st k a b dry f (execWindow st k ex a b dry f) := by
  unfold Ran execWindow
  by_cases h1 : a < b
  · by_cases h2 : dry = true
    · simp [h1, h2, Event.reportedOk]
    · by_cases h3 : aggFails st f = true
      · simp [h1, h2, h3, Event.reportedOk]
      · by_cases h5 : writeFails st f (aggRows st (floorSec a) (floorSec b)) = true
        · simp [h1, h2, h3, h5, Event.reportedOk]
        · cases recFails f with
          | false | true => simp [h1, h2, h3, h5, secLabelUs, Event.reportedOk]
  · simp [h1, Event.reportedOk]

/-- the result of an operation that does not get as far as `execWindow` -/
def Idle (st : State) (r : State × Event) : Prop :=
  r.1.lp = st.lp ∧ r.2.win = none ∧ r.2.label = none ∧ r.2.reportedOk = false

/-- `Reaches st op k a dry f`: from `st`, `op` gets as far as `execWindow`, as an execution of kind `k`
that starts at instant `a`, with dry-run flag `dry` and fault `f`. -/
inductive Reaches (st : State) : Op → Kind → Int → Bool → Fault → Prop
  | sched (now f) : Reaches st (.sched now f) .sched (cursorStart st.lp now) false f
  | manual (now s e dry f a) (h : pickStart s st.lp now = some a) :
      Reaches st (.manual now s e dry f) .manual a dry f

/-- The only unfolding of `step`; the per-step theorems below read off one conjunct of `Ran`. -/
theorem step_cases (st : State) (op : Op) :
    Idle st (step st op) ∨ ∃ k a b dry f, Reaches st op k a dry f ∧ Ran st k a b dry f (step st op) := by
  cases op with
  | sched now f =>
    rw [step]
    split
    · exact .inl ⟨rfl, rfl, rfl, rfl⟩
    · split
      · exact .inl ⟨rfl, rfl, rfl, rfl⟩
      · exact .inr ⟨_, _, _, _, _, .sched now f, execWindow_spec ..⟩
  | manual now s e dry f =>
    rw [step]
    split
    · exact .inl ⟨rfl, rfl, rfl, rfl⟩
    · split
      · exact .inl ⟨rfl, rfl, rfl, rfl⟩
      · split
        · exact .inl ⟨rfl, rfl, rfl, rfl⟩
        · exact .inr ⟨_, _, _, _, _, .manual now s e dry f _ ‹_›, execWindow_spec ..⟩
  | _ => exact .inl ⟨rfl, rfl, rfl, rfl⟩

theorem reportedOk_of_completed {ev : Event} (h : ev.status = .completed) : ev.reportedOk = true := by
  simp [Event.reportedOk, h]

theorem pickStart_of_not_explicit {s : TimeArg} (hs : s.isExplicit = false) (lp : Option Int) (now : Int) :
    pickStart s lp now = some (cursorStart lp now) := by
  cases s <;> first | rfl | cases hs

/-- In a tame history an execution that reports success was recorded, and started at the cursor. -/
theorem step_tame {st : State} {op : Op} (ht : tameOp op = true) (hok : (step st op).2.reportedOk = true) :
    (step st op).2.status = .completed ∧
    ∀ w c, (step st op).2.win = some w → st.lp = some c → w.1 = c := by
  obtain hi | ⟨k, a, b, dry, f, hr, _, _, hwin, _, hokc, _, hcomp⟩ := step_cases st op
  · rw [hi.2.2.2] at hok; cases hok
  · cases hr with
    | sched now f =>
      refine ⟨hokc hok (by simpa [tameOp] using ht), fun w c hw hlp => ?_⟩
      rw [hwin w hw, hlp, floorSec_cursorStart]
    | manual now s e dry f a hs =>
      simp only [tameOp, Bool.and_eq_true, Bool.or_eq_true, Bool.not_eq_true'] at ht
      have hc := hokc hok ht.2
      -- recorded, so not a dry run, hence (tame) no explicit start
      rw [pickStart_of_not_explicit (ht.1.resolve_left (by simp [(hcomp hc).2.1])).1] at hs
      cases hs
      exact ⟨hc, fun w c hw hlp => by rw [hwin w hw, hlp, floorSec_cursorStart]⟩

/-- **C29_fail_no_advance.** An execution that is not recorded as completed — aggregation failed,
record-and-advance failed, rejected (`start ≥ end`), malformed arguments, inactive query, no job,
dry run — and every update / restart / source write leaves `last_processed_time` untouched. -/
theorem C29_fail_no_advance (st : State) (op : Op) (h : (step st op).2.status ≠ .completed) :
    (step st op).1.lp = st.lp := by
  obtain hi | ⟨_, _, _, _, _, -, _, _, _, _, _, hnc, _⟩ := step_cases st op
  · exact hi.1
  · exact hnc h

/-- non-vacuity for the write-failure branch: the query returns a row, the buffer rejects it —
recorded as failed, nothing written, cursor stays. -/
example : (step { lp := some 100, src := [⟨100500000, false⟩] } (.sched 160250000000 .wr)).2.status = .aggfailed ∧
    (step { lp := some 100, src := [⟨100500000, false⟩] } (.sched 160250000000 .wr)).2.rows = [] ∧
    (step { lp := some 100, src := [⟨100500000, false⟩] } (.sched 160250000000 .wr)).1.lp = some 100 ∧
    (step { lp := some 100, q := .badtime, src := [⟨100500000, false⟩] } (.sched 160250000000 .none)).1.lp = some 100 := by
  decide +kernel

/-- **C29_advance_only_if_written.** The cursor moves only when the rows of the window really were
handed to the destination buffer: whenever an op changes `last_processed_time`, the aggregation
succeeded, the write was not rejected, and the event carries exactly the aggregated rows of the
recorded window. -/
theorem C29_advance_only_if_written (st : State) (op : Op) (h : (step st op).1.lp ≠ st.lp) :
    ∃ s e f, (step st op).2.win = some (s, e) ∧ (step st op).2.status = .completed ∧
      (step st op).2.rows = aggRows st s e ∧ writeFails st f (aggRows st s e) = false ∧
      (op = .sched (match op with | .sched n _ => n | .manual n _ _ _ _ => n | _ => 0) f ∨
       ∃ n a b d, op = .manual n a b d f) := by
  obtain hi | ⟨_, _, _, _, f, hr, _, _, _, _, _, hnc, hcomp⟩ := step_cases st op
  · exact absurd hi.1 h
  · have hc := Decidable.not_not.mp (mt hnc h)
    obtain ⟨_, _, hwf, hw, hrows, _⟩ := hcomp hc
    refine ⟨_, _, f, hw, hc, hrows, hwf, ?_⟩
    cases hr with
    | sched => exact .inl rfl
    | manual => exact .inr ⟨_, _, _, _, rfl⟩

/-- **C29_completed_advances.** A completed execution (scheduled or manual) ran a window `[s, e)`
with `s ≤ e` and moves the cursor exactly to `e`. -/
theorem C29_completed_advances (st : State) (op : Op) (h : (step st op).2.status = .completed) :
    ∃ s e, (step st op).2.win = some (s, e) ∧ s ≤ e ∧ (step st op).1.lp = some e := by
  obtain hi | ⟨_, _, _, _, _, -, _, _, _, _, _, _, hcomp⟩ := step_cases st op
  · cases (reportedOk_of_completed h).symm.trans hi.2.2.2
  · obtain ⟨hlt, _, _, hw, _, hlp⟩ := hcomp h
    exact ⟨_, _, hw, floorSec_mono (Int.le_of_lt hlt), hlp⟩

theorem lastCompletedEnd_cons (c : Option Int) (ev : Event) (evs : List Event) :
    lastCompletedEnd c (ev :: evs) = (match ev.status, ev.win with
      | .completed, some w => lastCompletedEnd (some w.2) evs
      | _, _ => lastCompletedEnd c evs) := rfl

/-- **C29_cursor_is_last_completed_end.** After ANY history the persisted cursor is the end of the
last completed execution (or the initial cursor when nothing completed). -/
theorem C29_cursor_is_last_completed_end (ops : List Op) : ∀ (st : State),
    (runState st ops).lp = lastCompletedEnd st.lp (trace st ops) := by
  induction ops with
  | nil => intro st; rfl
  | cons op ops ih =>
    intro st
    simp only [runState, trace, lastCompletedEnd_cons]
    rw [ih]
    by_cases hs : (step st op).2.status = .completed
    · obtain ⟨s, e, hw, _, hlp⟩ := C29_completed_advances st op hs
      simp only [hs, hw, hlp]
    · rw [C29_fail_no_advance st op hs]
      split
      · exact absurd ‹_› hs
      · rfl

/-- **C29_chain.** "each starting where the previous successful execution ended": after ANY history
(manual executions with explicit ranges, failures, restarts, updates included), a scheduled execution
that gets as far as choosing a window starts it exactly at the end of the last completed execution. -/
theorem C29_chain (st : State) (ops : List Op) (now : Int) (f : Fault) (c s e : Int)
    (hlast : lastCompletedEnd st.lp (trace st ops) = some c)
    (hwin : (step (runState st ops) (.sched now f)).2.win = some (s, e)) : s = c := by
  have hcur := C29_cursor_is_last_completed_end ops st
  rw [hlast] at hcur
  obtain hi | ⟨_, _, _, _, _, ⟨⟩, _, _, hw, _⟩ := step_cases (runState st ops) (.sched now f)
  · rw [hi.2.1] at hwin; cases hwin
  · have := hw _ hwin
    rw [hcur, floorSec_cursorStart] at this
    exact congrArg Prod.fst this

example : lastCompletedEnd (none : Option Int)
    (trace {src := [⟨0, false⟩]} [.sched 100500000000 .none, .manual 200000000000 (.at 5000000000) (.at 50000000000) false .none])
      = some 50 := by decide +kernel

/-- **C29_label.** (full, all histories — holds since /repo 388c9ab.) Rows written by ANY execution —
scheduled or manual, first run without a cursor, explicit start with fractional seconds or a
non-UTC offset, record failure afterwards — carry `time = s · 10⁶ µs` where `[s, e)` is exactly the
window that was aggregated and reported: the label is the whole-second start of the window the rows
summarise. -/
theorem C29_label (st : State) (op : Op) (l : Int) (h : (step st op).2.label = some l) :
    ∃ s e, (step st op).2.win = some (s, e) ∧ s = floorSec (step st op).2.startNs ∧ l = s * 1000000 := by
  obtain hi | ⟨_, _, _, _, _, -, _, hs, _, hlab, _⟩ := step_cases st op
  · rw [hi.2.2.1] at h; cases h
  · obtain ⟨hl, hw⟩ := hlab l h
    exact ⟨_, _, hw, by rw [hs], hl⟩

/-- non-vacuity: first execution (no cursor) at clock 7210.25 s — window `[3610, 7210)`, label 3610 s
(before 388c9ab the label was 3610.25 s). -/
example : (step { src := [⟨0, false⟩] } (.sched 7210250000000 .none)).2.win = some (3610, 7210) ∧
    (step { src := [⟨0, false⟩] } (.sched 7210250000000 .none)).2.label = some 3610000000 := by decide +kernel

/-- **C29_label_cursor.** Every scheduled execution that starts from a stored cursor `c` labels its
rows with exactly `c` (µs) — the start of the window it summarises. -/
theorem C29_label_cursor (st : State) (now : Int) (f : Fault) (c l : Int) (hc : st.lp = some c)
    (h : (step st (.sched now f)).2.label = some l) :
    l = c * 1000000 ∧ ∃ e, (step st (.sched now f)).2.win = some (c, e) := by
  obtain hi | ⟨_, _, _, _, _, ⟨⟩, _, _, _, hlab, _⟩ := step_cases st (.sched now f)
  · rw [hi.2.2.1] at h; cases h
  · have := hlab l h
    rw [hc, floorSec_cursorStart] at this
    exact ⟨this.1, _, this.2⟩

example : (step {lp := some 100, src := [⟨100500000, false⟩]} (.sched 160250000000 .none)).2.label = some 100000000 := by
  decide +kernel

/-! ## contiguity / processed once

FULL STATEMENT (false for the code as it is — see the witnesses):
  ∀ st ops, Contiguous (okWins (trace st ops)) ∧
    ∀ i < j, ∀ t, ¬ (covers (okSchedWins (trace st ops))[i] t ∧ covers (okSchedWins (trace st ops))[j] t)
i.e. the windows of all successful executions tile the time axis, and no instant is covered by two
successful scheduled windows, for ALL histories. -/

/-- windows form a chain starting at cursor `c`: each starts where the previous one ended. -/
def ChainFrom : Option Int → List (Int × Int) → Prop
  | _, [] => True
  | c, w :: rest => (∀ c', c = some c' → w.1 = c') ∧ w.1 ≤ w.2 ∧ ChainFrom (some w.2) rest

/-- successive windows are contiguous: `s_{i+1} = e_i`. -/
def Contiguous : List (Int × Int) → Prop
  | [] => True
  | [_] => True
  | a :: b :: rest => b.1 = a.2 ∧ Contiguous (b :: rest)

theorem chainFrom_contiguous : ∀ {c : Option Int} {ws : List (Int × Int)}, ChainFrom c ws → Contiguous ws
  | _, [], _ => trivial
  | _, [_], _ => trivial
  | _, _ :: _ :: _, h => ⟨h.2.2.1 _ rfl, chainFrom_contiguous h.2.2⟩

theorem chainFrom_pairwise : ∀ {c : Option Int} {ws : List (Int × Int)}, ChainFrom c ws →
    (∀ c' w, c = some c' → w ∈ ws → c' ≤ w.1) ∧ ws.Pairwise (fun a b => a.2 ≤ b.1)
  | _, [], _ => ⟨fun _ _ _ h => (nomatch h), .nil⟩
  | _, a :: rest, ⟨h0, h1, h2⟩ =>
    have ⟨lo, pw⟩ := chainFrom_pairwise h2
    ⟨fun c' w hc hw => by
      have := h0 c' hc
      rcases List.mem_cons.mp hw with rfl | hin
      · omega
      · have := lo _ w rfl hin; omega,
     .cons (fun b hb => lo _ b rfl hb) pw⟩

theorem okWins_cons (ev : Event) (evs : List Event) :
    okWins (ev :: evs) = (match ev.reportedOk, ev.win with
      | true, some w => w :: okWins evs
      | _, _ => okWins evs) := rfl

theorem tame_chainFrom (ops : List Op) : ∀ (st : State), (∀ op ∈ ops, tameOp op = true) →
    ChainFrom st.lp (okWins (trace st ops)) := by
  induction ops with
  | nil => intro st _; trivial
  | cons op ops ih =>
    intro st ht
    have ih' := ih (step st op).1 fun o ho => ht o (List.mem_cons_of_mem _ ho)
    simp only [trace, okWins_cons]
    cases hok : (step st op).2.reportedOk with
    | false =>
      rw [← C29_fail_no_advance st op fun h => by rw [reportedOk_of_completed h] at hok; cases hok]
      exact ih'
    | true =>
      obtain ⟨hc, hstart⟩ := step_tame (ht op List.mem_cons_self) hok
      obtain ⟨s, e, hw, hle, hlp⟩ := C29_completed_advances st op hc
      simp only [hw]
      exact ⟨fun c hcur => hstart _ c hw hcur, hle, hlp ▸ ih'⟩

/-- **C29_contiguous_partial.** For every history without (non-dry) manual executions carrying an
explicit `start_time`/`end_time` and without a failing record-and-advance (`tameOp`), from any starting
state: the windows of the successful executions form a chain — the first starts at the initial cursor
(if any), each next one starts exactly where the previous one ended (`s_{i+1} = e_i`), and `s_i ≤ e_i`.
Aggregation failures, rejected / dry-run / inactive executions, manual executions from the cursor,
updates, restarts, clock jumps in either direction are all allowed. -/
theorem C29_contiguous_partial (st : State) (ops : List Op) (ht : ∀ op ∈ ops, tameOp op = true) :
    ChainFrom st.lp (okWins (trace st ops)) ∧ Contiguous (okWins (trace st ops)) :=
  ⟨tame_chainFrom ops st ht, chainFrom_contiguous (tame_chainFrom ops st ht)⟩

example : okWins (trace {src := [⟨0, false⟩]}
    [.sched 7200250000000 .none, .sched 7260000000000 .agg, .manual 7290000000000 .absent .empty false .none,
     .restart 7300000000000, .sched 7320500000000 .none]) = [(3600, 7200), (7200, 7290), (7290, 7320)] := by decide +kernel

theorem okSchedWins_sublist : ∀ evs : List Event, (okSchedWins evs).Sublist (okWins evs)
  | [] => List.Sublist.slnil
  | ev :: evs => by
    have ih := okSchedWins_sublist evs
    simp only [okSchedWins, okWins]
    cases hok : ev.reportedOk <;> cases hw : ev.win <;> cases hk : (ev.kind == Kind.sched) <;>
      simp [ih, List.Sublist.cons]

/-- **C29_once_partial.** Under the same carve-out no instant is covered by two successful
scheduled windows (nor by any two successful windows): for windows at positions `i < j` of the
sequence actually executed, the earlier one ends no later than the later one starts, so they share no
instant `t`. -/
theorem C29_once_partial (st : State) (ops : List Op) (ht : ∀ op ∈ ops, tameOp op = true) :
    (okSchedWins (trace st ops)).Pairwise (fun a b => a.2 ≤ b.1 ∧ ∀ t, ¬ (covers a t ∧ covers b t)) ∧
    (okWins (trace st ops)).Pairwise (fun a b => a.2 ≤ b.1 ∧ ∀ t, ¬ (covers a t ∧ covers b t)) := by
  -- enough for all successful windows: the scheduled ones are a sub-sequence
  suffices hp : _ from ⟨List.Pairwise.sublist (okSchedWins_sublist _) hp, hp⟩
  refine (chainFrom_pairwise (tame_chainFrom ops st ht)).2.imp fun hab => ⟨hab, fun t ⟨h1, h2⟩ => ?_⟩
  unfold covers at h1 h2
  omega

/-- **C29_sched_contiguous_partial.** With no manual execution in the history (and no record
failure) the successful *scheduled* windows themselves satisfy `s_{i+1} = e_i`. -/
theorem C29_sched_contiguous_partial (st : State) (ops : List Op) (ht : ∀ op ∈ ops, tameOp op = true)
    (hnm : ∀ op ∈ ops, ∀ now s e d f, op ≠ .manual now s e d f) :
    Contiguous (okSchedWins (trace st ops)) := by
  have hEq : ∀ (ops : List Op) (st : State), (∀ op ∈ ops, ∀ now s e d f, op ≠ .manual now s e d f) →
      okSchedWins (trace st ops) = okWins (trace st ops) := by
    intro ops
    induction ops with
    | nil => intro _ _; rfl
    | cons op ops ih =>
      intro st h
      have hk : (step st op).2.reportedOk = true → (step st op).2.kind = .sched := fun hok => by
        obtain hi | ⟨_, _, _, _, _, hr, hk, _⟩ := step_cases st op
        · rw [hi.2.2.2] at hok; cases hok
        · cases hr with
          | sched => exact hk
          | manual => exact absurd rfl (h _ List.mem_cons_self _ _ _ _ _)
      simp only [trace, okSchedWins, okWins]
      rw [ih _ fun o ho => h o (List.mem_cons_of_mem _ ho)]
      cases hok : (step st op).2.reportedOk
      · simp
      · simp [hk hok]
  rw [hEq ops st hnm]
  exact (C29_contiguous_partial st ops ht).2

/-! ### witnesses: the carve-out cannot be dropped (each history was replayed on the real handler) -/

/-- one source row so that the aggregation has files to read -/
def w0 : State := { src := [⟨0, false⟩] }

/-- **C29_once_witness** (manual backfill rewinds the cursor). tick, tick, manual `[0,1800)`, tick:
the third tick processes `[1800, 7330)`, which contains the whole second window `[7210, 7270)`;
instant 7250 is covered by two successful scheduled windows. -/
theorem C29_once_witness :
    okSchedWins (trace w0 [.sched 7210000000000 .none, .sched 7270000000000 .none,
        .manual 7280000000000 (.at 0) (.at 1800000000000) false .none, .sched 7330000000000 .none])
      = [(3610, 7210), (7210, 7270), (1800, 7330)] ∧
    covers (7210, 7270) 7250 ∧ covers (1800, 7330) 7250 := by
  refine ⟨by decide +kernel, ?_, ?_⟩ <;> (unfold covers; omega)

/-- **C29_contiguous_witness** (manual range ahead of the cursor leaves a gap). tick, manual
`[7240, 7250)`, tick: successful windows `[3610,7210) [7240,7250) [7250,7270)` — the instants
`[7210, 7240)` are processed by nobody, `Contiguous` fails. -/
theorem C29_contiguous_witness :
    okWins (trace w0 [.sched 7210000000000 .none, .manual 7250000000000 (.at 7240000000000) .absent false .none,
        .sched 7270000000000 .none]) = [(3610, 7210), (7240, 7250), (7250, 7270)] ∧
    ¬ Contiguous [(3610, 7210), (7240, 7250), (7250, 7270)] := by
  refine ⟨by decide +kernel, ?_⟩
  simp [Contiguous]

/-- **C29_rerun_witness** (rows written, record-and-advance failed). tick ok, tick whose SQLite
transaction fails, tick ok: the second tick wrote its row for `[7210,7270)` and reported completed,
the cursor stayed at 7210, and the third tick processes `[7210,7330)` again. -/
theorem C29_rerun_witness :
    let evs := trace w0 [.sched 7210000000000 .none, .sched 7270000000000 .recUpd, .sched 7330000000000 .none]
    okSchedWins evs = [(3610, 7210), (7210, 7270), (7210, 7330)] ∧
    evs.map (fun ev => (ev.status, ev.rows.length, ev.lpAfter)) =
      [(.completed, 1, some 7210), (.recfailed, 1, some 7210), (.completed, 1, some 7330)] := by
  decide +kernel

/-- **C29_source_shape.** The facts factgen extracts from the CURRENT `continuous_query.go` /
`cq_scheduler.go` are the ones the model is built on: look-back constant; in both execution paths the
order validity-check → (dry-run return) → executeAggregation → failed-record on error →
recordExecutionAndUpdateTime; record+advance is one transaction writing `endTime.Format(RFC3339)`;
the only writers of `last_processed_time`; the label expression; the destination write's error is
returned (a rejected write fails the execution); `startTime`/`endTime` are assigned only from the
cursor, the request, or the clock (no clamp / rounding of the window); the scheduler calls `ExecuteCQ`. -/
theorem C29_source_shape :
    Arc.Generated.C29.lookbackNs = hourNs ∧
    Arc.Generated.C29.executeCQSteps =
      ["getQuery", "activeCheck", "cursorOrLookback", "beforeCheck", "executeAggregation", "recordExecution:failed",
       "recordExecutionAndUpdateTime"] ∧
    Arc.Generated.C29.handleExecuteSteps =
      ["getQuery", "activeCheck", "parseStart", "cursorOrLookback", "parseEnd", "beforeCheck", "dryRunReturn",
       "executeAggregation", "recordExecution:failed", "recordExecutionAndUpdateTime"] ∧
    Arc.Generated.C29.recordTx = ["Begin", "defer Rollback", "INSERT continuous_query_executions:startTime.Format(time.RFC3339),endTime.Format(time.RFC3339)",
       "UPDATE last_processed_time:endTime.Format(time.RFC3339)", "Commit"] ∧
    Arc.Generated.C29.cursorWriters = ["recordExecutionAndUpdateTime", "updateLastProcessedTime"] ∧
    Arc.Generated.C29.recordCallers = ["ExecuteCQ", "handleExecute"] ∧
    Arc.Generated.C29.updateLastProcessedTimeCallers = [] ∧
    Arc.Generated.C29.labelExpr = "startTime.UTC().Truncate(time.Second).UnixMicro()" ∧
    Arc.Generated.C29.writeStep = "if err := write; err != nil { return 0, wrap(err) }" ∧
    Arc.Generated.C29.executeCQStartAssigns =
      ["time.Parse(time.RFC3339, *cq.LastProcessedTime)", "startTime.UTC()", "time.Now().UTC().Add(-1 * time.Hour)"] ∧
    Arc.Generated.C29.executeCQEndAssigns = ["time.Now().UTC()"] ∧
    Arc.Generated.C29.handleExecuteStartAssigns =
      ["time.Parse(time.RFC3339, *req.StartTime)", "startTime.UTC()", "time.Parse(time.RFC3339, *cq.LastProcessedTime)",
       "startTime.UTC()", "time.Now().UTC().Add(-1 * time.Hour)"] ∧
    Arc.Generated.C29.handleExecuteEndAssigns =
      ["time.Parse(time.RFC3339, *req.EndTime)", "endTime.UTC()", "time.Now().UTC()"] ∧
    Arc.Generated.C29.windowFormat = "time.RFC3339" ∧
    Arc.Generated.C29.schedulerCalls = ["ExecuteCQ"] := by
  exact ⟨rfl, rfl, rfl, rfl, rfl, rfl, rfl, rfl, rfl, rfl, rfl, rfl, rfl, rfl, rfl⟩

end Arc.C29
