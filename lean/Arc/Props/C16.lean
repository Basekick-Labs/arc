import Arc.Generated.C16
import Arc.Proofs.C16.Main
import Arc.Proofs.C16.Mask
import Arc.Base.Lists
/-!
C16 — Query answers match DuckDB's semantics for the same SQL.

What is PROVED here is the shape of the rewrite (substitution exactness), on token streams:
for every raw token stream `ts` (comments, arbitrary whitespace, literals, quoted names) whose PREPARED
form (`prep`: function-body FROMs masked, comments stripped, whitespace merged) is the flattening of an
annotated statement `q` of the grammar `Item`, with or without the database header,

    rewrite hdr ts = unmask (flat (mapRefs hdr q))                                     (C16_subst_partial)

i.e. every base-table reference of `q` is replaced by its read_parquet call and every other token is
unchanged — under the decidable carve-out `Carve hdr q` and outside the two early exits of the code.
The FULL statement (no carve-out, no side conditions) is false of the current source; it is kept here:

    theorem C16_subst_full (hdr) (ts) (q) (hp : prep ts = flat q) :
        rewrite hdr ts = unmask (specFlat hdr q)

with one refutation per excluded class (`C16_*_witness`, all by kernel evaluation).
The transform-cache key clause is proved at FULL strength (`C16_cache_key`, true since /repo 12df811).
The step from "exact substitution" to "same rows as DuckDB with views" is the HYPOTHESIS
`DuckCompositional` of `C16_same_rows` (never an axiom); the harness exercises it on the real DuckDB and
finds two classes where it fails for Arc's replacement text (implicit table alias, name case).
-/
namespace Arc.C16

/-- the SPEC replacement at full strength: also comma-join positions are table positions -/
def specItem (hdr : Option Str) : Item → Item
  | .ref s => if s.cte then .ref s else .tok (s.replaced hdr)
  | .commaRef g t c => if c then .commaRef g t c else .tok (.rpT (dbOf hdr none) t.name)
  | it => it
def specToks (hdr : Option Str) : Item → List Tok
  | .commaRef g t c => if c then [.p ',', .s g, t.tok] else [.p ',', .s g, .rpT (dbOf hdr none) t.name]
  | it => (specItem hdr it).toks
def specFlat (hdr : Option Str) (q : List Item) : List Tok := q.flatMap (specToks hdr)

/-- MAIN: on the regex path, the rewrite replaces exactly the base-table references. -/
theorem C16_subst_partial (hdr : Option Str) (ts : List Tok) (q : List Item)
    (hsc : shortCircuit ts = false) (hslow : hdr.isSome = true → fastEligible ts = false)
    (hprep : prep ts = flat q) (hc : Carve hdr q = true) :
    rewrite hdr ts = unmask (flat (mapRefs hdr q)) := by
  unfold Carve cteOf at hc
  cases hdr with
  | none =>
    simp only [rewrite, hsc, Bool.false_eq_true, if_false, convert, slow, hprep]
    rw [passes_none _ q hc]
  | some h =>
    simp only [rewrite, hsc, Bool.false_eq_true, if_false, convert, hslow rfl, slow, hprep]
    rw [passes_some h _ q hc]

/-- the same on texts -/
theorem C16_subst_render (hdr : Option Str) (ts : List Tok) (q : List Item)
    (hsc : shortCircuit ts = false) (hslow : hdr.isSome = true → fastEligible ts = false)
    (hprep : prep ts = flat q) (hc : Carve hdr q = true) :
    render (rewrite hdr ts) = render (unmask (flat (mapRefs hdr q))) := by
  rw [C16_subst_partial hdr ts q hsc hslow hprep hc]

/-- nothing else: a statement without table positions is returned token for token -/
theorem C16_no_refs_identity (hdr : Option Str) (ts : List Tok) (toks : List Tok)
    (hsc : shortCircuit ts = false) (hslow : hdr.isSome = true → fastEligible ts = false)
    (hprep : prep ts = flat (toks.map Item.tok)) (hc : Carve hdr (toks.map Item.tok) = true) :
    rewrite hdr ts = unmask (flat (toks.map Item.tok)) := by
  have := C16_subst_partial hdr ts _ hsc hslow hprep hc
  simpa [mapRefs, mapItem, Function.comp_def] using this

/-- "same rows" from exact substitution, under the explicit DuckDB hypothesis. `evalViews` runs a
statement on DuckDB with one view per measurement, `evalFiles` on Arc's DuckDB. -/
theorem C16_same_rows {R : Type} (evalViews evalFiles : List Tok → Option R)
    (hdr : Option Str) (ts : List Tok) (q : List Item)
    (DuckCompositional : evalViews (unmask (flat q)) = evalFiles (unmask (flat (mapRefs hdr q))))
    (hsc : shortCircuit ts = false) (hslow : hdr.isSome = true → fastEligible ts = false)
    (hprep : prep ts = flat q) (hc : Carve hdr q = true) :
    evalFiles (rewrite hdr ts) = evalViews (unmask (flat q)) := by
  rw [C16_subst_partial hdr ts q hsc hslow hprep hc, DuckCompositional]

private def S (x : String) : Str := x.toList
private def sp : Tok := .s [' ']
private def from_ (tbl : String) (cte := false) : Item :=
  .ref ⟨[], none, S "FROM", false, [' '], none, .bare (S tbl), cte⟩

/-- `WITH r AS (SELECT x FROM cpu) SELECT * FROM r a LEFT OUTER JOIN prod."mem" b ON a.x = EXTRACT(hour FROM b.t)`
with comments and newlines in the raw text. -/
private def exQ : List Item :=
  [.tok (.w (S "WITH")), .tok sp, .tok (.w (S "r")), .tok sp, .tok (.w (S "AS")), .tok sp, .tok (.p '('),
   .tok (.w (S "SELECT")), .tok sp, .tok (.w (S "x")), .tok sp, from_ "cpu", .tok (.p ')'), .tok sp,
   .tok (.w (S "SELECT")), .tok sp, .tok (.p '*'), .tok (.s (S " \n ")), from_ "r" true, .tok sp, .tok (.w (S "a")), .tok sp,
   .ref ⟨[(S "LEFT", S " "), (S "OUTER", S "   ")], none, S "JOIN", true, [' '], some (.bare (S "prod")), .quoted (S "\"mem\""), false⟩,
   .tok sp, .tok (.w (S "b")), .tok sp, .tok (.w (S "ON")), .tok sp, .tok (.w (S "a")), .tok (.p '.'), .tok (.w (S "x")),
   .tok sp, .tok (.p '='), .tok sp, .tok (.w (S "EXTRACT")), .tok (.p '('), .tok (.w (S "hour")), .tok sp,
   .tok (.m (S "FROM")), .tok sp, .tok (.w (S "b")), .tok (.p '.'), .tok (.w (S "t")), .tok (.p ')')]

private def exRaw : List Tok :=
  [.w (S "WITH"), sp, .w (S "r"), sp, .w (S "AS"), sp, .p '(', .w (S "SELECT"), sp, .w (S "x"), sp, .w (S "FROM"), sp,
   .w (S "cpu"), .p ')', sp, .w (S "SELECT"), sp, .p '*', sp, .c (S "-- FROM mem"), .s (S "\n "), .w (S "FROM"), sp, .w (S "r"), sp,
   .w (S "a"), sp, .w (S "LEFT"), .b (S "/* x */"), .w (S "OUTER"), sp, .b (S "/* JOIN disk */"), sp, .w (S "JOIN"), sp,
   .w (S "prod"), .p '.', .q (S "\"mem\""), sp, .w (S "b"), sp, .w (S "ON"), sp, .w (S "a"), .p '.', .w (S "x"), sp, .p '=', sp,
   .w (S "EXTRACT"), .p '(', .w (S "hour"), sp, .w (S "FROM"), sp, .w (S "b"), .p '.', .w (S "t"), .p ')']

-- the hypotheses of `C16_subst_partial` can be met, and by a statement with two base tables
example : shortCircuit exRaw = false ∧ prep exRaw = flat exQ ∧ Carve none exQ = true ∧
    baseTableRefs exQ = [(none, .bare (S "cpu")), (some (.bare (S "prod")), .quoted (S "\"mem\""))] := by decide +kernel

set_option maxRecDepth 8000 in
example : String.ofList (render (rewrite none exRaw)) =
    "WITH r AS (SELECT x FROM read_parquet('ROOT/default/cpu/**/*.parquet', union_by_name=true)) SELECT * \n FROM r a LEFT OUTER JOIN read_parquet('ROOT/prod/mem/**/*.parquet', union_by_name=true) b ON a.x = EXTRACT(hour FROM b.t)" := by
  -- compare character lists: a literal is `String.ofList` of its characters by definition, so
  -- `String.toList_ofList` hands them to the kernel, which otherwise decodes the literal's UTF-8
  -- by well-founded recursion (four times the cost of running `rewrite`).
  apply String.toList_injective
  repeat rw [String.toList_ofList]
  decide +kernel

/-- MaskFromKeywordsInFunctionBodies, transcribed as `maskFns`: in `TRIG ( pre FROM rest`, TRIG one of
EXTRACT/SUBSTRING/TRIM/OVERLAY, the FROM at the body's own level is masked WHATEVER is nested in the operand
`pre` before it — calls and parentheses to any depth, FROM keywords of sub-queries inside them (`walk 0 pre =
some 0`: balanced, no further trigger word, no FROM at the body level) — and the scan continues inside the same
frame. (A frame popped one level too early, seeded change C16-b1, falsifies exactly this.) -/
theorem C16_mask_body (st : MS) (t f : Str) (pre rest : List Tok) (ht : isTrigger t = true)
    (hf : lower f = "from".toList) (hw : walk 0 pre = some 0) :
    maskFns st (.w t :: .p '(' :: (pre ++ .w f :: rest)) =
      .w t :: .p '(' :: (pre ++ .m f :: maskFns ⟨st.depth + 1, (st.depth + 1) :: st.stack, false⟩ rest) := by
  have hnf : (lower t == "from".toList && topIs st) = false := by rw [trigger_not_from t ht, Bool.false_and]
  have h0 := maskFns_walk pre (.w f :: rest) 0 (st.depth + 1) st.stack 0 hw
  simp only [Int.natCast_zero, Int.add_zero] at h0
  have hcond : (lower f == "from".toList && topIs ⟨st.depth + 1, (st.depth + 1) :: st.stack, false⟩) = true := by
    simp [hf, topIs]
  simp only [maskFns, hnf, Bool.false_eq_true, if_false, ht, if_true, h0, hcond]

/-- `SUBSTRING(UPPER(CONCAT(a.pfx,(b.host))) FROM a.n FOR 3)`: three nested levels before the FROM. -/
example : walk 0 [.w (S "UPPER"), .p '(', .w (S "CONCAT"), .p '(', .w (S "a"), .p '.', .w (S "pfx"), .p ',', .p '(',
      .w (S "b"), .p '.', .w (S "host"), .p ')', .p ')', .p ')', sp] = some 0 ∧ isTrigger (S "SUBSTRING") = true := by decide +kernel

example : String.ofList (render (rewrite none
    [.w (S "SELECT"), sp, .w (S "SUBSTRING"), .p '(', .w (S "UPPER"), .p '(', .w (S "host"), .p ')', sp, .w (S "FROM"), sp,
     .w (S "cnt"), .p ')', sp, .w (S "FROM"), sp, .w (S "cpu")])) =
    "SELECT SUBSTRING(UPPER(host) FROM cnt) FROM read_parquet('ROOT/default/cpu/**/*.parquet', union_by_name=true)" := by 
  apply String.toList_injective
  repeat rw [String.toList_ofList]
  decide +kernel

private def tk (xs : List Tok) : List Item := xs.map Item.tok
private def sel : List Item := tk [.w (S "SELECT"), sp, .p '*', sp]

/-- comma join: `SELECT * FROM cpu a, mem b` — `mem` is a base table, the patterns never reach it. -/
theorem C16_comma_join_witness :
    let q := sel ++ [from_ "cpu", .tok sp, .tok (.w (S "a")), .commaRef [' '] (.bare (S "mem")) false, .tok sp, .tok (.w (S "b"))]
    prep (flat q) = flat q ∧ rewrite none (flat q) ≠ unmask (specFlat none q) := by decide +kernel

/-- `IS DISTINCT FROM region`: a FROM that is not a table position is rewritten. -/
theorem C16_distinct_from_witness :
    let q := sel ++ [from_ "cpu", .tok sp] ++ tk [.w (S "WHERE"), sp, .w (S "host"), sp, .w (S "IS"), sp, .w (S "DISTINCT"), sp] ++
      [.notRef (S "FROM") [' '] (.w (S "region"))]
    prep (flat q) = flat q ∧ rewrite none (flat q) ≠ unmask (specFlat none q) := by decide +kernel

/-- a CTE name of an inner scope hides a measurement referenced outside that scope (the registry is global):
`SELECT * FROM cpu a JOIN (WITH cpu AS (SELECT 1) SELECT * FROM cpu) s` — the first `cpu` is a base table. -/
theorem C16_cte_shadow_witness :
    let q := sel ++ [from_ "cpu", .tok sp, .tok (.w (S "a")), .tok sp] ++
      tk [.w (S "JOIN"), sp, .p '(', .w (S "WITH"), sp, .w (S "cpu"), sp, .w (S "AS"), sp, .p '(', .w (S "SELECT"), sp, .n (S "1"), .p ')', sp] ++
      sel ++ [from_ "cpu" true, .tok (.p ')'), .tok sp, .tok (.w (S "s"))]
    prep (flat q) = flat q ∧ rewrite none (flat q) ≠ unmask (specFlat none q) := by decide +kernel

/-- fixed by /repo 73763cd (history: the registry held only the placeholder of a quoted CTE definition and the bare
reference was rewritten): the unquoted name is registered too. -/
theorem C16_cte_quoted_fixed :
    let q := tk [.w (S "WITH"), sp, .q (S "\"agg\""), sp, .w (S "AS"), sp, .p '(', .w (S "SELECT"), sp, .n (S "1"), .p ')', sp] ++
      sel ++ [from_ "agg" true]
    prep (flat q) = flat q ∧ Carve none q = true ∧ rewrite none (flat q) = unmask (specFlat none q) := by decide +kernel

/-- fixed by /repo 56228b9 (history: the text `read_parquet` anywhere switched the whole rewrite off): only a real
call short-circuits. -/
theorem C16_rp_text_fixed :
    let q := sel ++ [from_ "cpu", .tok sp] ++ tk [.w (S "WHERE"), sp, .w (S "host"), sp, .p '=', sp, .l (S "'read_parquet'")]
    prep (flat q) = flat q ∧ shortCircuit (flat q) = false ∧ Carve none q = true ∧
      rewrite none (flat q) = unmask (specFlat none q) := by decide +kernel

/-- header, comma join through the single-table fast path: one "from ", one FROM reference, no JOIN word — the fast
path rewrites the first table and the second one (a base table) is never reached. (The JOIN-on-a-new-line variant
is fixed by /repo d4e5686.) -/
theorem C16_fastpath_partial_witness :
    let q := sel ++ [from_ "cpu", .tok sp, .tok (.w (S "a")), .commaRef [' '] (.bare (S "mem")) false, .tok sp, .tok (.w (S "b"))]
    prep (flat q) = flat q ∧ fastEligible (flat q) = true ∧
      rewrite (some (S "prod")) (flat q) ≠ unmask (specFlat (some (S "prod")) q) := by decide +kernel

/-- fixed by /repo d4e5686: JOIN followed by a newline no longer takes the fast path -/
example :
    let q := tk [.w (S "SELECT"), sp, .w (S "a"), .p '.', .w (S "rid"), sp] ++ [from_ "cpu", .tok sp, .tok (.w (S "a")), .tok (.s ['\n']),
      .ref ⟨[], none, S "JOIN", true, ['\n'], none, .bare (S "mem"), false⟩] ++ tk [sp, .w (S "b")]
    fastEligible (flat q) = false ∧ rewrite (some (S "prod")) (flat q) = unmask (specFlat (some (S "prod")) q) := by decide +kernel

/-- fixed by /repo 53c9b19: a second FROM reference (sub-query, UNION) now sends the statement to the regex path -/
example :
    let q := tk [.w (S "SELECT"), sp, .w (S "rid"), sp] ++ [.ref ⟨[], none, S "FROM", false, ['\n'], none, .bare (S "cpu"), false⟩] ++
      tk [sp, .w (S "WHERE"), sp, .w (S "rid"), sp, .w (S "IN"), sp, .p '(', .w (S "SELECT"), sp, .w (S "rid"), sp] ++
      [from_ "mem", .tok (.p ')')]
    fastEligible (flat q) = false ∧ rewrite (some (S "prod")) (flat q) = unmask (specFlat (some (S "prod")) q) := by decide +kernel

/-- fixed by /repo 002a8ca (history: the fast path did not skip CR after `from `, found no name and returned the
statement unchanged). -/
theorem C16_fastpath_cr_fixed :
    let q := tk [.w (S "SELECT"), sp, .w (S "rid"), sp] ++ [.ref ⟨[], none, S "FROM", false, S " \r\n", none, .bare (S "cpu"), false⟩]
    prep (flat q) = flat q ∧ fastEligible (flat q) = true ∧
      rewrite (some (S "prod")) (flat q) = unmask (specFlat (some (S "prod")) q) := by decide +kernel

/-- fixed by /repo 7134395 (history: the fast path had no call guard and turned `range` into a measurement). -/
theorem C16_tablefunc_fast_fixed :
    let q := tk [.w (S "SELECT"), sp, .w (S "g"), sp, .w (S "FROM"), sp, .w (S "range"), .p '(', .n (S "1"), .p ',', sp, .n (S "3"), .p ')',
      sp, .w (S "t"), .p '(', .w (S "g"), .p ')']
    prep (flat q) = flat q ∧ fastEligible (flat q) = true ∧ baseTableRefs q = [] ∧
      rewrite (some (S "prod")) (flat q) = unmask (specFlat (some (S "prod")) q) := by decide +kernel

/-- fixed by /repo 04fa395 (the header path always extracts the CTE names): `WITH` + newline no longer leaves the
registry empty; the statement that used to be the witness is now rewritten exactly. -/
theorem C16_with_newline_fixed :
    let q := tk [.w (S "WITH"), .s ['\n'], .w (S "r"), sp, .w (S "AS"), sp, .p '(', .w (S "SELECT"), sp, .n (S "1"), .p ')', sp] ++
      tk [.w (S "SELECT"), sp, .l (S "'x'"), sp] ++ [from_ "r" true]
    prep (flat q) = flat q ∧ Carve (some (S "prod")) q = true ∧
      rewrite (some (S "prod")) (flat q) = unmask (specFlat (some (S "prod")) q) := by decide +kernel

/-- fixed by /repo 00bd721 (history: isDotOrCallAt skipped blanks and tabs only, LATERAL + newline + `(` became a
table). -/
theorem C16_lateral_newline_fixed :
    let q := sel ++ [from_ "cpu", .tok sp, .tok (.w (S "a")), .tok sp] ++
      tk [.w (S "JOIN"), sp, .w (S "LATERAL"), .s ['\n'], .p '(', .w (S "SELECT"), sp, .n (S "1"), .p ')', sp, .w (S "b")]
    prep (flat q) = flat q ∧ rewrite none (flat q) = unmask (specFlat none q) := by decide +kernel

/-- fixed by /repo 168cceb (history: a block comment closing one byte before the end swallowed that byte). -/
theorem C16_comment_last_byte_fixed :
    let ts : List Tok := [.w (S "SELECT"), sp, .n (S "1"), sp, .w (S "LIMIT"), sp, .b (S "/* c */"), .n (S "9")]
    String.ofList (render (prep ts)) = "SELECT 1 LIMIT  9" := by decide +kernel

theorem fastGo_skip (h : Str) (t : Tok) (rest : List Tok) (hn : endsWith (lower t.text) "from".toList = false) :
    fastGo h (t :: rest) = (fastGo h rest).map (t :: ·) := by
  conv => lhs; unfold fastGo
  split
  · rw [if_neg (by rw [hn]; exact Bool.false_ne_true)]
  · rfl

theorem fastGo_site (h : Str) {pre post : List Tok} {kw gap name : Str}
    (hpre : ∀ t ∈ pre, endsWith (lower t.text) "from".toList = false)
    (hkw : lower kw = ['f', 'r', 'o', 'm'])
    (hgap : (gap.dropWhile blank4).isEmpty = true) (hpost : dotOrCall post = false)
    (hskip : shouldSkip (lower name) = false) :
    fastGo h (pre ++ (.w kw :: .s (' ' :: gap) :: .w name :: post)) = some (pre ++ (.rpF h name :: post)) := by
  have hlen : kw.length = 4 := by simpa [lower] using congrArg List.length hkw
  induction pre with
  | nil =>
    have he : endsWith (lower kw) ['f', 'r', 'o', 'm'] = true := by rw [hkw]; decide
    simp [fastGo, Tok.text, he, hgap, hpost, identRun, hskip, hlen]
  | cons t pre ih =>
    obtain ⟨ht, hpre⟩ := List.forall_mem_cons.mp hpre
    rw [List.cons_append, fastGo_skip h t _ ht, ih hpre]
    rfl

theorem flat_eq_flatMap (q : List Item) : flat q = q.flatMap Item.toks := by
  induction q with
  | nil => rfl
  | cons it q ih => rw [flat, ih, List.flatMap_cons]

/-- the fast path (header set, exactly one "from ", no JOIN word, no "with ", no quote/comment byte, no
EXTRACT/SUBSTRING/TRIM/OVERLAY call) replaces the one table position when it is the one after that "from ":
`pre FROM␠<blanks> name post`, no token of `pre` ending in "from". -/
theorem C16_fast_partial (h : Str) (pre post : List Tok) (kw gap name : Str)
    (hsc : shortCircuit (pre ++ (.w kw :: .s (' ' :: gap) :: .w name :: post)) = false)
    (hfe : fastEligible (pre ++ (.w kw :: .s (' ' :: gap) :: .w name :: post)) = true)
    (hpre : ∀ t ∈ pre, endsWith (lower t.text) "from".toList = false)
    (hkw : lower kw = "from".toList)
    (hgap : (gap.dropWhile blank4).isEmpty = true) (hpost : dotOrCall post = false)
    (hskip : shouldSkip (lower name) = false) :
    rewrite (some h) (pre ++ (.w kw :: .s (' ' :: gap) :: .w name :: post)) =
      flat (mapRefs (some h) (pre.map Item.tok ++
        (.ref ⟨[], none, kw, false, ' ' :: gap, none, .bare name, false⟩ :: post.map Item.tok))) := by
  simp only [rewrite, hsc, Bool.false_eq_true, if_false, convert, hfe, if_true, fast,
    fastGo_site h hpre hkw hgap hpost hskip, Option.getD_some]
  simp [flat_eq_flatMap, mapRefs, mapItem, List.flatMap_map, Item.toks, Site.replaced, dbOf, NameTok.name]

example : let pre : List Tok := [.w (S "SELECT"), sp, .w (S "rid"), sp]
    let ts := pre ++ (.w (S "from") :: .s (S " \n ") :: .w (S "cpu") :: [sp, .w (S "WHERE"), sp, .w (S "cnt"), .p '>', .n (S "3")])
    shortCircuit ts = false ∧ fastEligible ts = true ∧ (∀ t ∈ pre, endsWith (lower t.text) "from".toList = false) := by decide +kernel

/-- what the request gate lets through as x-arc-database: no header, or validIdentifierPattern -/
def hdrOK (h : Str) : Bool := h.isEmpty || validIdent h

theorem hdrOK_noNul (h : Str) (ok : hdrOK h = true) : '\x00' ∉ h := by
  intro hmem
  cases h with
  | nil => cases hmem
  | cons c rest =>
    simp only [hdrOK, List.isEmpty_cons, Bool.false_or, validIdent, Bool.and_eq_true, List.all_eq_true] at ok
    obtain ⟨⟨hc, hr⟩, _⟩ := ok
    simp only [List.mem_cons] at hmem
    rcases hmem with rfl | hm
    · revert hc; decide
    · have := hr _ hm
      revert this; decide

/-- FULL (true since /repo 12df811, key = headerDB + NUL + sql): the transform-cache key determines
(header, sql) for every pair of requests the gate accepts — any SQL text (NUL bytes included), any
accepted header (absent, or matching validIdentifierPattern, hence NUL free). -/
theorem C16_cache_key (h₁ s₁ h₂ s₂ : Str) (v₁ : hdrOK h₁ = true) (v₂ : hdrOK h₂ = true)
    (hk : cacheKey h₁ s₁ = cacheKey h₂ s₂) : h₁ = h₂ ∧ s₁ = s₂ := by
  unfold cacheKey at hk
  simp only [List.append_assoc, List.cons_append, List.nil_append] at hk
  exact split_sep (hdrOK_noNul h₁ v₁) (hdrOK_noNul h₂ v₂) hk

/-- the hypothesis on headers is needed: a header containing NUL could collide (the gate rejects it) -/
theorem C16_cache_key_needs_header_gate :
    cacheKey ['a', '\x00', 'b'] (S "q") = cacheKey ['a'] ('b' :: '\x00' :: S "q") := by decide +kernel

example : hdrOK [] = true ∧ hdrOK (S "prod") = true ∧ hdrOK (S "my-db_2") = true ∧
    cacheKey (S "prod") (S "SELECT 1 FROM cpu") ≠ cacheKey [] (S "prod:SELECT 1 FROM cpu") := by decide +kernel

/-- record of the defect fixed by 12df811: the previous construction (`sql`, or `headerDB + ":" + sql`)
let two different requests share one entry. -/
def cacheKeyOld (hdr : Str) (sql : Str) : Str := if hdr.isEmpty then sql else hdr ++ [':'] ++ sql
theorem C16_cache_key_old_witness :
    cacheKeyOld (S "prod") (S "SELECT 1 FROM cpu") = cacheKeyOld [] (S "prod:SELECT 1 FROM cpu") ∧
      (S "prod", S "SELECT 1 FROM cpu") ≠ (([] : Str), S "prod:SELECT 1 FROM cpu") := by decide +kernel

/-- the literals the model was written for are the ones in the source now -/
theorem C16_facts_tied :
    Arc.Generated.C16.patternDBTable = "(?i)\\bFROM\\s+([a-zA-Z0-9_]+)\\.([a-zA-Z0-9_]+)\\b" ∧
    Arc.Generated.C16.patternSimpleTable = "(?i)\\bFROM\\s+([a-zA-Z_][a-zA-Z0-9_]*)\\b" ∧
    Arc.Generated.C16.patternJoinDBTable = "(?i)\\b((?:(?:LEFT|RIGHT|FULL|INNER|OUTER|CROSS|NATURAL|SEMI|ANTI|ASOF|POSITIONAL)\\s+)*(?:LATERAL\\s+)?JOIN\\s+(?:LATERAL\\s+)?)([a-zA-Z0-9_]+)\\.([a-zA-Z0-9_]+)\\b" ∧
    Arc.Generated.C16.patternJoinSimpleTable = "(?i)\\b((?:(?:LEFT|RIGHT|FULL|INNER|OUTER|CROSS|NATURAL|SEMI|ANTI|ASOF|POSITIONAL)\\s+)*(?:LATERAL\\s+)?JOIN\\s+(?:LATERAL\\s+)?)([a-zA-Z_][a-zA-Z0-9_]*)\\b" ∧
    Arc.Generated.C16.patternCTENames = "(?i)\\bWITH\\s+(?:RECURSIVE\\s+)?(\\w+)(?:\\s*\\([^)]*\\))?\\s+AS\\s*\\(|,\\s*(\\w+)(?:\\s*\\([^)]*\\))?\\s+AS\\s*\\(" ∧
    Arc.Generated.C16.validIdentifierPattern = "^[a-zA-Z_][a-zA-Z0-9_-]*$" ∧
    Arc.Generated.C16.skipPrefixes = skipPrefixes ∧
    Arc.Generated.C16.fromKeywordFunctions = ["extract", "substring", "trim", "overlay"] ∧
    Arc.Generated.C16.sentinel.toList = sentinel ∧
    Arc.Generated.C16.readParquetOptions = "union_by_name=true" ∧
    Arc.Generated.C16.cacheKeySep.toList = ['\x00'] ∧
    Arc.Generated.C16.cacheKeyShape = "headerDB+sep+sql" ∧
    Arc.Generated.C16.shortCircuitLits = ["read_parquet", "from", "join"] ∧
    Arc.Generated.C16.patternJoinWord = "\\bjoin\\b" ∧
    Arc.Generated.C16.patternReadParquetCall = "(?i)\\bread_parquet\\s*\\(" ∧
    Arc.Generated.C16.singleTableLits = ["from ", "patternJoinWord", " \t\r\n", "from "] ∧
    Arc.Generated.C16.dotOrCallTrim = " \t\r\n" ∧
    Arc.Generated.C16.fastPathCallGuard = true ∧
    Arc.Generated.C16.quotedCteRegistered = true ∧
    Arc.Generated.C16.readParquetShortCircuitNeedsCall = true ∧
    Arc.Generated.C16.singleTableGuards = ["FindAllStringIndex", "extractCTENames"] ∧
    Arc.Generated.C16.headerCteAlways = true ∧
    Arc.Generated.C16.slowPassOrder = ["patternDBTable:all", "patternJoinDBTable:all",
      "patternSimpleTable:guarded+cteNames+shouldSkipTableConversion+isDotOrCallAt",
      "patternJoinSimpleTable:guarded+cteNames+shouldSkipTableConversion+isDotOrCallAt"] ∧
    Arc.Generated.C16.headerPassOrder = ["patternSimpleTable:guarded+cteNames+shouldSkipTableConversion+isDotOrCallAt",
      "patternJoinSimpleTable:guarded+cteNames+shouldSkipTableConversion+isDotOrCallAt"] ∧
    Arc.Generated.C16.localPathTemplate = "b.GetBasePath() + \"/\" + database + \"/\" + measurement + \"/**/*.parquet\"" := by
  and_intros <;> rfl

end Arc.C16
