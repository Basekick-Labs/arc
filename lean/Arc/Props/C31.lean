import Arc.Proofs.C31.Convert
/-!
# C31 — file imports store every data row of the uploaded file

Property (fixed text): *for every CSV or Parquet file accepted by the import endpoints, each data
row is stored once in the target database and measurement with its time converted to microseconds
as requested and every other value converted to its inferred type without loss; a file that cannot
be imported completely is rejected without storing a partial import.*

The model (`Arc.Model.C31`) reads the conversion tables and the error policy from
`Arc.Generated.C31` (regenerated from the current source), so every theorem below is re-checked
against the source on every run.

The real code violated three clauses and still VIOLATES the first and the third; each of those has a
witness theorem, a `_partial` theorem under an explicit carve-out, and a monitor key in the harness:

* time, "as requested … no silent wrap": `intTimeToMicros` / `arrowTimestampToMicros` multiply in
  wrapping int64 arithmetic and cannot reject (`C31_time_int_witness`, `C31_time_arrow_witness`).
  FULL STATEMENT (false):  ∀ n fmt, inI64 n → intTimeToMicros n fmt = n · unit(fmt) ∨ rejected.
* "converted to its inferred type without loss": FIXED in /repo (8033d9e, 273e2e1, 306d476,
  83c5101) and now proved at full strength for the modelled classes (`C31_infer_lossless_int/_str/
  _bool/_float`, `C31_no_cell_dropped`, `C31_no_column_dropped`, `C31_uint64_exact`); the former
  witnesses are kept as HISTORY theorems (`C31_infer_big_int_stays_text`, `C31_long_row_rejected`,
  `C31_underscore_rejected`, `C31_uint64_rejected`).  Still open, outside the model (library
  parameters): CRLF inside quoted CSV fields, DECIMAL128 → float64.
* "rejected without storing a partial import": a storage write fault on the k-th hour file leaves
  the first k files in storage (`C31_flush_fault_witness`); for every INPUT-caused failure the clause
  holds at full strength (`C31_all_or_nothing`).
-/
namespace Arc.C31
open Arc.Generated.C31 (Op)

/-- Explicit units: the conversion is EXACT whenever the exact product fits int64 (carve-out),
`epoch_us` is the identity, `epoch_ns` is Go's truncating division (exact value rounded toward
zero, error < 1 µs). -/
theorem C31_time_int_partial (n : Int) (_h : inI64 n) :
    (inI64 (n * 1000000) → intTimeToMicros n "epoch_s" = n * 1000000) ∧
    (inI64 (n * 1000) → intTimeToMicros n "epoch_ms" = n * 1000) ∧
    intTimeToMicros n "epoch_us" = n ∧
    intTimeToMicros n "epoch_ns" = Int.tdiv n 1000 ∧
    (0 ≤ n → 1000 * intTimeToMicros n "epoch_ns" ≤ n ∧ n < 1000 * intTimeToMicros n "epoch_ns" + 1000) ∧
    (n < 0 → n ≤ 1000 * intTimeToMicros n "epoch_ns" ∧ 1000 * intTimeToMicros n "epoch_ns" - 1000 < n) := by
  obtain ⟨hs, hms, hus, hns⟩ := intTime_units n
  rw [hs, hms, hus, hns]
  exact ⟨wrap64_id, wrap64_id, rfl, rfl, (tdiv1000 n).1, (tdiv1000 n).2⟩

example : inI64 1609459200 ∧ inI64 (1609459200 * 1000000) ∧
    intTimeToMicros 1609459200 "epoch_s" = 1609459200000000 := by decide +kernel

/-- The carve-out is tight: the result equals the exact product IF AND ONLY IF the product fits;
outside it a *different* int64 is returned and nothing is rejected. -/
theorem C31_time_int_exact_iff (n : Int) :
    (intTimeToMicros n "epoch_s" = n * 1000000 ↔ inI64 (n * 1000000)) ∧
    (intTimeToMicros n "epoch_ms" = n * 1000 ↔ inI64 (n * 1000)) := by
  rw [(intTime_units n).1, (intTime_units n).2.1]; exact ⟨wrap64_eq_iff _, wrap64_eq_iff _⟩

/-- WITNESS (finding `time-overflow-wrapped:epoch_s` / `:epoch_ms`): an int64 epoch-seconds value
whose microsecond value does not fit is silently wrapped to a negative time; a nanosecond epoch
mis-declared as seconds likewise. -/
theorem C31_time_int_witness :
    inI64 9223372036855 ∧ ¬ inI64 (9223372036855 * 1000000) ∧
    intTimeToMicros 9223372036855 "epoch_s" = -9223372036854551616 ∧
    intTimeToMicros 1609459200000000000 "epoch_s" = -773687084668944384 ∧
    intTimeToMicros 9223372036854776 "epoch_ms" = -9223372036854775616 := by decide +kernel

/-- Auto-detection (time_format empty or, for Parquet integer columns, unknown): FULL STRENGTH over
the whole int64 range including MinInt64 — the unit is chosen by |n| with the thresholds of the
current source, the conversion is exact for that unit and never leaves int64. -/
theorem C31_time_auto (n : Int) (h : inI64 n) :
    inI64 (autoIntEpochToMicros n) ∧
    ((-10000000000 < n ∧ n < 10000000000) → autoIntEpochToMicros n = n * 1000000) ∧
    ((10000000000 ≤ n ∧ n < 10000000000000) ∨ (-10000000000000 < n ∧ n ≤ -10000000000) →
        autoIntEpochToMicros n = n * 1000) ∧
    ((10000000000000 ≤ n ∧ n < 10000000000000000) ∨ (-10000000000000000 < n ∧ n ≤ -10000000000000) →
        autoIntEpochToMicros n = n) ∧
    (10000000000000000 ≤ n ∨ n ≤ -10000000000000000 → autoIntEpochToMicros n = Int.tdiv n 1000) := by
  have hb := h
  unfold inI64 at hb
  rw [autoInt_eq n h]
  refine ⟨?_, fun hx => ?_, fun hx => ?_, fun hx => ?_, fun hx => ?_⟩
  · split
    · exact wrap64_range _
    · split
      · exact wrap64_range _
      · split
        · exact h
        · have hq := tdiv1000 n
          unfold inI64; omega
  · rw [if_pos hx, wrap64_id (by unfold inI64; omega)]
  · rw [if_neg (by omega), if_pos (by omega), wrap64_id (by unfold inI64; omega)]
  · rw [if_neg (by omega), if_neg (by omega), if_pos (by omega)]
  · rw [if_neg (by omega), if_neg (by omega), if_neg (by omega)]

example : autoIntEpochToMicros 9999999999 = 9999999999000000 ∧ autoIntEpochToMicros 10000000000 = 10000000000000 ∧
    autoIntEpochToMicros (-9223372036854775808) = -9223372036854775 := by decide +kernel

/-- `intTimeToMicros` with any format other than the four explicit ones IS the auto-detection
(Parquet integer time columns: an unknown `time_format` is not rejected). -/
theorem C31_time_int_default (n : Int) : intTimeToMicros n "" = autoIntEpochToMicros n ∧
    intTimeToMicros n "rfc3339" = autoIntEpochToMicros n := by
  constructor <;> simp [intTimeToMicros, lookupOp, Arc.Generated.C31.intTime, Arc.Generated.C31.intTimeDefault, List.lookup, applyOp]

/-- Arrow TIMESTAMP columns, per unit (same carve-out as the explicit integer formats). -/
theorem C31_time_arrow_partial (v : Int) (_h : inI64 v) :
    (inI64 (v * 1000000) → arrowTimestampToMicros v "Second" = v * 1000000) ∧
    (inI64 (v * 1000) → arrowTimestampToMicros v "Millisecond" = v * 1000) ∧
    arrowTimestampToMicros v "Microsecond" = v ∧
    arrowTimestampToMicros v "Nanosecond" = Int.tdiv v 1000 := by
  obtain ⟨hs, hms, hus, hns⟩ := arrow_units v
  rw [hs, hms, hus, hns]
  exact ⟨wrap64_id, wrap64_id, rfl, rfl⟩

example : arrowTimestampToMicros 1609459200123 "Millisecond" = 1609459200123000 := by decide +kernel

/-- WITNESS (finding `time-overflow-wrapped:arrow_ms`). -/
theorem C31_time_arrow_witness :
    inI64 9223372036854776 ∧ ¬ inI64 (9223372036854776 * 1000) ∧
    arrowTimestampToMicros 9223372036854776 "Millisecond" = -9223372036854775616 := by decide +kernel

/-- the guards of the current source, as regenerated facts -/
theorem C31_repairs_tied :
    Arc.Generated.C31.rejectLongRows = true ∧ Arc.Generated.C31.headerRejectsUnderscore = true ∧
    Arc.Generated.C31.uint64RangeChecked = true ∧ Arc.Generated.C31.inexactIntsStayText = true ∧
    Arc.Generated.C31.underscoreSkips = 2 := by decide +kernel

/-- ParseInt is exact and never wraps: an accepted integer cell denotes an int64, and rendering the
stored value gives back the cell up to the DOCUMENTED NORMAL FORM `canonInt`
(no `+` sign, no leading zeros, no negative zero: `+5`→`5`, `007`→`7`, `-0`→`0`). -/
theorem C31_parse_int_exact (s : Cell) (n : Int) (h : parseInt s = some n) :
    inI64 n ∧ renderInt n = canonInt s := by
  cases s with
  | nil => cases h
  | cons c rest =>
    unfold parseInt at h
    rcases ite_cases h with ⟨hc, h⟩ | ⟨hc, h⟩
    · cases hp : parseUDigits rest with
      | none => rw [hp] at h; cases h
      | some m =>
        rw [hp] at h
        rcases ite_cases h with ⟨hm, h⟩ | ⟨_, h⟩
        · cases h
          refine ⟨by unfold inI64; omega, ?_⟩
          rw [renderInt_neg, parseUDigits_toDigits hp, canonInt, if_pos hc]
          simp only [beq_iff_eq]
        · cases h
    · -- no minus sign: the digits are `rest` after a `+`, otherwise the whole cell
      obtain ⟨ds, h, hcan⟩ : ∃ ds, (match parseUDigits ds with
          | some m => if m < 9223372036854775808 then some (m : Int) else none
          | none => none) = some n ∧ canonInt (c :: rest) = stripZeros ds := by
        rcases ite_cases h with ⟨hp, h⟩ | ⟨hp, h⟩
        · exact ⟨rest, h, by rw [canonInt, if_neg hc, if_pos hp]⟩
        · exact ⟨c :: rest, h, by rw [canonInt, if_neg hc, if_neg hp]⟩
      cases hp : parseUDigits ds with
      | none => rw [hp] at h; cases h
      | some m =>
        rw [hp] at h
        rcases ite_cases h with ⟨hm, h⟩ | ⟨_, h⟩
        · cases h
          exact ⟨by unfold inI64; omega, by rw [renderInt_natCast, parseUDigits_toDigits hp, hcan]⟩
        · cases h

example : parseInt "007".toList = some 7 ∧ parseInt "+5".toList = some 5 ∧ parseInt "-0".toList = some 0 ∧
    parseInt "9223372036854775808".toList = none ∧ parseInt "-9223372036854775808".toList = some (-9223372036854775808) ∧
    parseInt " 5".toList = none ∧ parseInt "1e3".toList = none := by
  -- hand the kernel character lists: it decodes a literal's UTF-8 by well-founded recursion otherwise
  repeat rw [String.toList_ofList]
  decide +kernel

/-- INT columns are lossless (full strength): the column is typed int only when EVERY non-empty
cell is an int64 literal, the stored value is exactly that integer, and it renders back to the
cell's normal form. -/
theorem C31_infer_lossless_int (pf : Cell → Option Nat) (raw : List Cell) (vs : List Int) (v : Option (List Bool))
    (h : inferCol pf raw = (.int vs, v)) :
    vs = raw.map intCell ∧
    ∀ c ∈ raw, c ≠ [] → ∃ n, parseInt c = some n ∧ intCell c = n ∧ inI64 n ∧ renderInt n = canonInt c := by
  rcases inferCol_cases h with e | ⟨e, hp⟩ | ⟨e, _⟩ | ⟨e, _⟩
  · cases e
  · refine ⟨Col.int.inj e, fun c hc hne => ?_⟩
    have hok := dropWhile_nil_all hp c hc
    rw [intOK, List.isEmpty_eq_false_iff.mpr hne, Bool.false_or] at hok
    obtain ⟨n, hn⟩ := Option.isSome_iff_exists.mp hok
    exact ⟨n, hn, by rw [intCell, hn]; rfl, C31_parse_int_exact c n hn⟩
  · cases e
  · cases e

/-- STRING columns are stored verbatim (full strength), with no null bitmap. -/
theorem C31_infer_lossless_str (pf : Cell → Option Nat) (raw vs : List Cell) (v : Option (List Bool))
    (h : inferCol pf raw = (.str vs, v)) : vs = raw ∧ v = none := by
  rcases inferCol_cases h with e | ⟨e, _⟩ | ⟨e, _⟩ | ⟨e, _⟩
  · cases e; exact ⟨rfl, rfl⟩
  all_goals cases e

/-- BOOL columns (full strength): every non-empty cell is one of the accepted spellings
(`1`, `0`, or a case-folded `true`/`false`) and the stored bit is its meaning. -/
theorem C31_infer_lossless_bool (pf : Cell → Option Nat) (raw : List Cell) (vs : List Bool) (v : Option (List Bool))
    (h : inferCol pf raw = (.bool vs, v)) :
    vs = raw.map (fun c => !c.isEmpty && boolVal c) ∧ ∀ c ∈ raw, c ≠ [] → isBoolLiteral c = true := by
  rcases inferCol_cases h with e | ⟨e, _⟩ | ⟨e, _⟩ | ⟨e, hb⟩
  · cases e
  · cases e
  · cases e
  · refine ⟨Col.bool.inj e, fun c hc hne => ?_⟩
    have := List.all_eq_true.mp hb c hc
    rwa [List.isEmpty_eq_false_iff.mpr hne, Bool.false_or] at this

example : (inferCol (fun _ => none) ["TRUE".toList, [], "0".toList]).1 = .bool [true, false, false] := by decide +kernel

/-- FLOAT columns, what is stored: cells before the first non-integer cell are `float64(int64)`
of the parsed integer, the rest are `strconv.ParseFloat` (parameter `pf`). -/
theorem C31_infer_float_cells (pf : Cell → Option Nat) (raw : List Cell) (vs : List Nat) (v : Option (List Bool))
    (h : inferCol pf raw = (.float vs, v)) :
    vs = (raw.takeWhile intOK).map (fun c => f64BitsOfInt (intCell c)) ++
         (raw.dropWhile intOK).map (fun c => if c.isEmpty then 0 else (pf c).getD 0) := by
  rcases inferCol_cases h with e | ⟨e, _⟩ | ⟨e, _⟩ | ⟨e, _⟩
  · cases e
  · cases e
  · exact Col.float.inj e
  · cases e

/-- carve-out of the float clause: `float64(n)` is exact for |n| ≤ 2^53 -/
theorem C31_infer_lossless_float_partial (n : Int) (h : -9007199254740992 ≤ n ∧ n ≤ 9007199254740992) :
    roundF64 n = n := by
  rw [roundF64, roundNat53_le (by omega)]
  split <;> omega

/-- FLOAT columns are lossless for integer cells (full strength since /repo 83c5101): a column is
typed float only if every integer cell before the demotion point is within ±2^53 — so
`float64(n)` is exact — and no later integer literal parses to |f| ≥ 2^53.  (Decimal literals →
nearest float64 is the documented normal form; ParseFloat itself is a parameter.) -/
theorem C31_infer_lossless_float (pf : Cell → Option Nat) (raw : List Cell) (vs : List Nat) (v : Option (List Bool))
    (h : inferCol pf raw = (.float vs, v)) :
    (∀ c ∈ raw.takeWhile intOK, roundF64 (intCell c) = intCell c) ∧
    (∀ c ∈ raw.dropWhile intOK, c ≠ [] → intSyntax c = true → f64AbsGe2p53 ((pf c).getD 0) = false) := by
  rcases inferCol_cases h with e | ⟨e, _⟩ | ⟨_, hg⟩ | ⟨e, _⟩
  · cases e
  · cases e
  · simp only [exactGuards, C31_repairs_tied.2.2.2.1, Bool.not_true, Bool.false_or, Bool.and_eq_true,
      List.all_eq_true] at hg
    refine ⟨fun c hc => ?_, fun c hc hne hsyn => ?_⟩
    · have := hg.1 c hc
      simp only [smallInt, Bool.and_eq_true, decide_eq_true_eq] at this
      exact C31_infer_lossless_float_partial _ this
    · have := hg.2 c hc
      simpa only [List.isEmpty_eq_false_iff.mpr hne, Bool.false_or, hsyn, Bool.and_true, Bool.not_eq_true'] using this
  · cases e

/-- HISTORY (findings `value-lossy:int-demoted-to-float`, `value-lossy:int-beyond-int64-as-float`,
fixed in /repo 83c5101): these columns used to be stored as float64 with 2^53+1 ↦ 2^53 and
2^64-1 ↦ 2^64 (`roundF64`, `parseFloatDigits` below show the rounding); they now stay text. -/
theorem C31_infer_big_int_stays_text :
    (inferCol (fun c => if c = "0.5".toList then some 0x3fe0000000000000 else none)
        ["9007199254740993".toList, "9007199254740992".toList, "0.5".toList]).1
      = .str ["9007199254740993".toList, "9007199254740992".toList, "0.5".toList] ∧
    (inferCol (fun c => if c = "1.5".toList then some 0x3ff8000000000000
                        else if c = "18446744073709551615".toList then some 0x43f0000000000000 else none)
        ["1.5".toList, "18446744073709551615".toList]).1
      = .str ["1.5".toList, "18446744073709551615".toList] ∧
    roundF64 9007199254740993 = 9007199254740992 ∧
    parseInt "18446744073709551615".toList = none ∧
    parseFloatDigits "18446744073709551615".toList = some 0x43f0000000000000 ∧
    parseFloatDigits "18446744073709551614".toList = some 0x43f0000000000000 := by
  repeat rw [String.toList_ofList]
  decide +kernel

theorem count_eraseDups : ∀ (l : List Int) (h : Int), l.eraseDups.count h = if h ∈ l then 1 else 0
  | [], h => rfl
  | a :: as, h => by
    rw [List.eraseDups_cons, List.count_cons, count_eraseDups (as.filter fun b => !b == a) h]
    by_cases hah : a = h
    · subst hah; simp
    · simp [hah, Ne.symm hah, List.mem_filter]
termination_by l => l.length
decreasing_by exact Nat.lt_succ_of_le (List.length_filter_le ..)

theorem count_hourFiles (rows : List Row) (r : Row) (hs : List Int) :
    ((hs.map (fun h => rows.filter (fun x => hourOf x.time == h))).flatten).count r
      = rows.count r * hs.count (hourOf r.time) := by
  induction hs with
  | nil => rfl
  | cons h hs ih =>
    rw [List.map_cons, List.flatten_cons, List.count_append, ih, List.count_cons, Nat.mul_add, Nat.add_comm]
    by_cases e : hourOf r.time = h
    · rw [List.count_filter (p := fun x : Row => hourOf x.time == h) (beq_iff_eq.mpr e),
        if_pos (beq_iff_eq.mpr e.symm), Nat.mul_one]
    · have hn : r ∉ rows.filter fun x => hourOf x.time == h := fun hm => e (beq_iff_eq.mp (List.mem_filter.mp hm).2)
      rw [List.count_eq_zero_of_not_mem hn, if_neg fun c => e (beq_iff_eq.mp c).symm, Nat.mul_zero]

/-- EACH ROW IS STORED ONCE: the hour files written by a flush contain every buffered row exactly
as often as the batch does (count equality for every row = multiset equality), whatever the number
of hour partitions. -/
theorem C31_rows_once (rows : List Row) (r : Row) :
    (((hourFiles rows).map (·.2)).flatten).count r = rows.count r := by
  rw [hourFiles, List.map_map]
  refine (count_hourFiles rows r _).trans ?_
  rw [count_eraseDups]
  by_cases hr : r ∈ rows
  · rw [if_pos (List.mem_map.mpr ⟨r, hr, rfl⟩), Nat.mul_one]
  · rw [List.count_eq_zero_of_not_mem hr, Nat.zero_mul]

/-- every file holds rows of one hour only (rows land in their own hour partition) -/
theorem C31_rows_hour (rows : List Row) : ∀ f ∈ hourFiles rows, ∀ r ∈ f.2, hourOf r.time = f.1 := by
  intro f hf r hr
  unfold hourFiles at hf
  obtain ⟨h, _, rfl⟩ := List.mem_map.mp hf
  exact beq_iff_eq.mp (List.mem_filter.mp hr).2

/-- ACCEPTED ⇒ one stored row per data record: the header and exactly `skip_rows` leading records
are excluded, every other record of the file becomes one row. -/
theorem C31_rows (pf : Cell → Option Nat) (fb : Cell → Option Int) (x : CsvIn) (b : Batch)
    (h : convertCSV pf fb x = some b) :
    b.time.length = (x.recs.drop (x.skip.toNat + 1)).length ∧
    (batchRows b).length = (x.recs.drop (x.skip.toNat + 1)).length ∧
    0 < b.time.length := by
  obtain ⟨h00, hr, body, ti, hrest, _, he, _, ht, _⟩ := convertCSV_shape h
  have hl2 := timeCells_length ht
  simp only [column, List.length_map] at hl2
  simp only [batchRows, List.length_map, List.length_range, hl2, drop_succ_of_drop_cons hrest]
  exact ⟨trivial, trivial, List.length_pos_iff.mpr he⟩

/-- NO CELL IS DROPPED (full strength since /repo 8033d9e; before it a surplus cell was
discarded, see `C31_long_row_rejected`): in an accepted file no data record is longer than the
header, so padding to the header width keeps every cell. -/
theorem C31_no_cell_dropped (pf : Cell → Option Nat) (fb : Cell → Option Int) (x : CsvIn) (b : Batch)
    (h : convertCSV pf fb x = some b) :
    ∀ r ∈ x.recs.drop (x.skip.toNat + 1), r.length ≤ ((x.recs.drop x.skip.toNat).headD []).length ∧
      (padTo ((x.recs.drop x.skip.toNat).headD []).length r).take r.length = r := by
  obtain ⟨h00, hr, body, ti, hrest, _, _, hlong, _, _⟩ := convertCSV_shape h
  intro r hrm
  rw [drop_succ_of_drop_cons hrest] at hrm
  have hle := hlong r hrm
  rw [hrest]
  simp only [List.headD_cons, List.length_cons]
  refine ⟨hle, ?_⟩
  unfold padTo
  rw [List.take_take, Nat.min_eq_left hle, List.take_append_of_le_length (Nat.le_refl _)]
  simp

/-- NO COLUMN IS DROPPED (full strength since /repo 273e2e1; before it a `_`-column
vanished at the Parquet schema step, see `C31_underscore_rejected`): every converted column of an accepted
CSV file reaches the stored rows. -/
theorem C31_no_column_dropped (pf : Cell → Option Nat) (fb : Cell → Option Int) (x : CsvIn) (b : Batch)
    (h : convertCSV pf fb x = some b) : b.cols.filter storedCol = b.cols := by
  obtain ⟨h00, hr, body, ti, _, hv, _, _, _, hnames⟩ := convertCSV_shape h
  refine List.filter_eq_self.mpr fun c hc => ?_
  obtain ⟨h1, h2⟩ := validateHeader_some hv c.name (hnames c hc)
  unfold storedCol
  cases hn : c.name with
  | nil => rw [hn] at h1; cases h1
  | cons ch rest =>
    simp only [hn, List.head?_cons, ne_eq, Option.some.injEq] at h2
    simp [h2]

/-- the regenerated error policy: every error branch of the import control flow RETURNS an error
(no `continue` past a bad row / column / hour), except the end-of-file `break` of the CSV read
loop; each import function performs exactly ONE buffer write, placed after every conversion-error
return and followed by FlushAll. -/
theorem C31_policy_tied :
    Arc.Generated.C31.errBranches.filter (fun b => b.2.2 != "return-error") = [("importCSV", "err == io.EOF", "break")] ∧
    Arc.Generated.C31.writeSeq.all (fun s => s.2.1 == 1 && s.2.2.2.1 == 2 && s.2.2.2.2) = true ∧
    aborts "stringsToTimeMicros" 0 = true ∧ aborts "stringsToTimeMicros" 1 = true ∧ aborts "stringsToTimeMicros" 2 = true ∧
    Arc.Generated.C31.unknownFormatRejected = true := by decide +kernel

/-- one bad time cell (empty after trimming, or not convertible) rejects the whole column -/
theorem C31_bad_time_rejects (fb : Cell → Option Int) (fmt : String) (pre post : List Cell) (c : Cell)
    (hbad : trimSpace c = [] ∨ oneTime fb fmt (trimSpace c) = none) :
    timeCells fb fmt (pre ++ c :: post) = none := by
  induction pre with
  | nil =>
    obtain ⟨_, _, a0, a1, a2, _⟩ := C31_policy_tied
    rw [List.nil_append, timeCells]
    rcases hbad with he | hn
    · simp [he, a0]
    · by_cases he : (trimSpace c).isEmpty = true
      · simp [he, a0]
      · simp [he, hn, a1, a2]
  | cons p pre ih =>
    rw [List.cons_append, timeCells, ih]
    split
    · next h => cases h
    · rfl

/-- ALL-OR-NOTHING for every input-caused failure (full strength over the model): an import that
is not accepted leaves the storage exactly as it was; an accepted one appends exactly the rows of
the converted batch. -/
theorem C31_all_or_nothing (pf : Cell → Option Nat) (fb : Cell → Option Int) (x : CsvIn) (st : List Row) :
    ((importCSV pf fb x st).1 = false → (importCSV pf fb x st).2 = st) ∧
    ((importCSV pf fb x st).1 = true → ∃ b, convertCSV pf fb x = some b ∧
        (importCSV pf fb x st).2 = st ++ ((hourFiles (batchRows b)).map (·.2)).flatten) := by
  unfold importCSV
  cases convertCSV pf fb x with
  | none => exact ⟨fun _ => rfl, fun h => nomatch h⟩
  | some b => exact ⟨fun h => Bool.noConfusion h, fun _ => ⟨b, rfl, rfl⟩⟩

theorem C31_all_or_nothing_parquet (x : PqIn) (st : List Row) :
    ((importPQ x st).1 = false → (importPQ x st).2 = st) ∧
    ((importPQ x st).1 = true → ∃ b, convertPQ x = some b ∧
        (importPQ x st).2 = st ++ ((hourFiles (batchRows b)).map (·.2)).flatten) := by
  unfold importPQ
  cases convertPQ x with
  | none => exact ⟨fun _ => rfl, fun h => nomatch h⟩
  | some b => exact ⟨fun h => Bool.noConfusion h, fun _ => ⟨b, rfl, rfl⟩⟩

def demoRecs : List (List Cell) :=
  [["time".toList, "v".toList], ["1609459200".toList, "5".toList], ["oops".toList, "6".toList]]

/-- non-vacuity: a file whose LAST row has a bad time is rejected as a whole and stores nothing;
without that row it is accepted with one row. -/
example : importCSV (fun _ => none) (fun _ => none) { delimOk := true, skip := 0, timeCol := timeLit, fmt := "epoch_s", recs := demoRecs } [] = (false, []) ∧
    (importCSV (fun _ => none) (fun _ => none) { delimOk := true, skip := 0, timeCol := timeLit, fmt := "epoch_s", recs := demoRecs.take 2 } []).1 = true := by
  decide +kernel

/-- WITNESS (finding `partial-import-after-error:csv:storage-write-fault`): when the write of the
second hour file fails, `flushPartitionedData` returns the error (→ HTTP 500) and the first hour
file stays in storage. -/
theorem C31_flush_fault_witness :
    let rows : List Row := [{ time := 0, vals := [] }, { time := 3600000000, vals := [] }]
    flushFiles (hourFiles rows) (some 1) = ([(0, [{ time := 0, vals := [] }])], false) := by decide +kernel

/-- partial: without a storage fault the flush keeps every file -/
theorem C31_flush_partial (files : List (Int × List Row)) : flushFiles files none = (files, true) := rfl

/-- HISTORY (finding `value-lossy:extra-fields-dropped`, fixed in /repo 8033d9e): a data record
with more fields than the header used to be accepted with the surplus cell discarded; it is now
rejected (see `C31_no_cell_dropped`). -/
theorem C31_long_row_rejected :
    (convertCSV (fun _ => none) (fun _ => none)
      { delimOk := true, skip := 0, timeCol := timeLit, fmt := "epoch_s",
        recs := [["time".toList, "v".toList], ["1".toList, "5".toList, "dropped".toList]] })
    = none := by decide +kernel

/-- HISTORY (finding `value-lossy:underscore-column-dropped`, fixed in /repo 273e2e1): the Parquet
writer still skips `_`-columns (first conjunct), which is why the header validation now rejects
such names for CSV and Parquet imports (second and third conjunct; see `C31_no_column_dropped`). -/
theorem C31_underscore_rejected :
    batchRows { time := [1000000], cols := [{ name := "_v".toList, col := .int [5], validity := none }] }
      = [{ time := 1000000, vals := [] }] ∧
    validateHeader [timeLit, "_v".toList] timeLit = none ∧
    convertPQ { timeCol := timeLit, fmt := "", cols := [
      { name := timeLit, kind := .i64, cells := [{ v := .i 1 }] },
      { name := "_v".toList, kind := .i64, cells := [{ v := .i 5 }] }] } = none := by decide +kernel

/-- UINT64 is exact or rejected (full strength since /repo 306d476): an accepted UINT64 column has
no value above MaxInt64, so the int64 reinterpretation never wraps. -/
theorem C31_uint64_exact (c : PCol) (tc : TCol) (hk : c.kind = .u64) (h : pqTyped c = some tc) :
    ∀ x ∈ c.cells, ∀ n, x.v = .i n → n ≤ maxI64 ∧ (0 ≤ n → wrap64 n = n) := by
  unfold pqTyped at h
  simp only [hk, C31_repairs_tied.2.2.1, Bool.true_and] at h
  rcases ite_cases h with ⟨_, h⟩ | ⟨hany, _⟩
  · cases h
  intro x hx n hn
  have hle := List.any_eq_false.mp (Bool.not_eq_true _ ▸ hany) x hx
  simp only [hn, decide_eq_true_eq, gt_iff_lt, Int.not_lt] at hle
  refine ⟨hle, fun h0 => wrap64_id ⟨Int.le_trans (by decide) h0, hle⟩⟩

/-- HISTORY (finding `value-lossy:uint64-wrapped`): 2^64-1 used to be stored as -1; now rejected. -/
theorem C31_uint64_rejected :
    (pqTyped { name := "u".toList, kind := .u64, cells := [{ v := .i 18446744073709551615 }] }) = none ∧
    (pqTyped { name := "u".toList, kind := .u64, cells := [{ v := .i 9223372036854775807 }] })
      = some { name := "u".toList, col := .int [9223372036854775807], validity := none } := by decide +kernel

end Arc.C31
