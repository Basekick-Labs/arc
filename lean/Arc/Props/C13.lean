import Arc.Model.C13Current
import Arc.Proofs.C13.Ops
/-!
# C13 — backup then restore reproduces the data or reports failure

Property theorems `C13_*` over ALL storage trees (association lists with distinct paths), ALL fault
subsets (any files, read or write, during backup or restore) and — where the statement does not
depend on it — ALL error policies. The policy of the current source is `Arc.C13.current`
(regenerated by factgen); theorems ending in `_current` instantiate the general ones at it, their
side conditions discharged by `decide` over the regenerated facts.

HISTORY (restore clause). On the tree as first checked `restoreDataFiles` logged a per-file error
and `continue`d, and `RestoreBackup` reported `completed`: the regenerated fact `restoreFileErr` was 0
and clause 2 was FALSE (`C13_restore_honest_witness`, replayed on the real Manager; fixed in /repo
79c3a87, fact now 1). Clause 2 is now proved at full strength for the current source
(`C13_restore_honest_current`) from two regenerated facts: the per-file policy is not
`continueSilently`, and the step program of `RestoreBackup` (order of the data / SQLite / arc.toml
steps and what happens to each step's error) is `progOk` — e.g. a later step's success can not
overwrite a data-step failure (`C13_restore_masked_witness` is the known-bad program). The witness
and the carved-out `C13_restore_honest_partial` are kept: they hold of the named policy `asFound` /
of every policy and document exactly what breaks if the source regresses.
The check regenerates `Arc/Audit/C13.lean` from the `theorem C13_…` lines of this file: nothing else
here may carry that prefix.
-/
namespace Arc.C13

/-- **C13_roundtrip.** With no fault in either phase, for every tree with distinct paths and every
error policy: the backup completes, records no skipped file, inventories the parquet files, the
restore into empty storage completes having processed every listed file, and the restored storage
maps a path to bytes **iff** the original tree holds exactly those bytes at that path and the path is
a (visible) parquet data file or Iceberg metadata file — byte-for-byte, at the original path,
nothing lost, nothing added. -/
theorem C13_roundtrip (pol : Policy) (t : Tree) (hnd : (keys t).Nodup) :
    (backup pol noFaults t).status = .completed ∧
    (∃ m, (backup pol noFaults t).manifest = some m ∧ m.skipped = 0 ∧ m.totalFiles = (parquetItems t).length) ∧
    (restore pol noFaults (backup pol noFaults t) []).status = .completed ∧
    (restore pol noFaults (backup pol noFaults t) []).processed =
      (restore pol noFaults (backup pol noFaults t) []).total ∧
    ∀ p b, lookup (restore pol noFaults (backup pol noFaults t) []).data p = some b ↔
      ((p, b) ∈ t ∧ eligible p = true) := by
  have hokB : AllOk (bOutcome pol noFaults) (backupItems t) := fun e _ => noFaults_ok _ _ e.1
  have hbl := bLoop_eq pol noFaults t fun _ _ => .inr rfl
  obtain ⟨hab, hsk, _⟩ := copyLoop_ok_state (backupCfg pol) { dest := [] } hokB rfl
  rw [← hbl] at hab hsk
  have hcomp : (backup pol noFaults t).status = .completed :=
    (backup_completed_iff pol noFaults t).mpr ⟨hab, by rw [hsk]; simp [ratioExceeded], rfl⟩
  have hm : (backup pol noFaults t).manifest = some (manifestOf pol noFaults t) := by
    rw [backup_manifest, if_pos hcomp]
  have hitems : ∀ p b, (p, b) ∈ walkSort (backup pol noFaults t).store ↔ (p, b) ∈ backupItems t := by
    intro p b
    rw [walkSort, mem_sortBy, mem_iff_lookup (functional_of_nodup (backup_store_nodup pol noFaults t)), backup_store, hbl]
    exact copyLoop_ok_iff hokB (functional_backupItems hnd)
  have hfun : Functional (walkSort (backup pol noFaults t).store) :=
    (functional_backupItems hnd).mono fun x => (hitems x.1 x.2).mp
  have hokR : AllOk (rOutcome pol noFaults) (walkSort (backup pol noFaults t).store) := fun e _ => noFaults_ok _ _ e.1
  have hrl := rLoop_eq pol noFaults (backup pol noFaults t) [] fun _ _ => .inr rfl
  obtain ⟨rab, rsk, rpr⟩ := copyLoop_ok_state (restoreCfg pol) { dest := [] } hokR rfl
  rw [restore_of_manifest pol noFaults _ [] _ hm rfl, hrl]
  refine ⟨hcomp, ⟨_, hm, by simp [manifestOf, hsk], rfl⟩, by simp [rab, rsk], by simpa using rpr, fun p b => ?_⟩
  rw [copyLoop_ok_iff hokR hfun, hitems, mem_backupItems]

/-- non-vacuity: a tree with two databases, nested hour directories, an Iceberg metadata directory,
an empty file, a hidden file and a non-data file round-trips (the last two are not backed up). -/
example :
    let t : Tree := [("prod/cpu/2026/07/14/15/f1.parquet".toList, [80, 65, 82, 49]),
      ("prod/cpu/2026/07/14/16/f2.parquet".toList, []),
      ("a-b/mem/2025/01/02/03/f1.parquet".toList, [1, 2]),
      ("arc_prod.db/cpu/metadata/v1.metadata.json".toList, [123, 125]),
      ("arc_prod.db/cpu/metadata/snap-1.avro".toList, [9]),
      ("prod/cpu/2026/07/14/15/.hidden.parquet".toList, [7]),
      ("prod/cpu/notes.txt".toList, [8])]
    (keys t).Nodup ∧
    (restore asFound noFaults (backup asFound noFaults t) []).processed = 5 ∧
    lookup (restore asFound noFaults (backup asFound noFaults t) []).data
      "arc_prod.db/cpu/metadata/v1.metadata.json".toList = some [123, 125] ∧
    lookup (restore asFound noFaults (backup asFound noFaults t) []).data "prod/cpu/notes.txt".toList = none := by
  -- a literal is `String.ofList` of its characters by definition: rewriting with `String.toList_ofList`
  -- hands the kernel the characters, which it would otherwise get by decoding the literal's UTF-8
  repeat rw [String.toList_ofList]
  decide +kernel

/-- the restore clause at full strength, as a predicate of the policy -/
def RestoreHonest (pol : Policy) : Prop :=
  ∀ (f : Faults) (bk : Backup), (keys bk.store).Nodup → ∀ (d0 : Tree),
    (restore pol f bk d0).status = .completed →
    ∀ p b, lookup bk.store p = some b → lookup (restore pol f bk d0).data p = some b

/-- carve-out of the finding: no restore-phase fault (read or write) names a file held by the backup -/
def restoreFaultFree (pol : Policy) (f : Faults) (bk : Backup) : Bool :=
  bk.store.all fun e => (match rOutcome pol f e.1 with
    | .ok => true
    | _ => false) && (f.readT.lookup e.1).isNone

def RestoreHonestCarved (pol : Policy) : Prop :=
  ∀ (f : Faults) (bk : Backup), (keys bk.store).Nodup → restoreFaultFree pol f bk = true → ∀ (d0 : Tree),
    (restore pol f bk d0).status = .completed →
    ∀ p b, lookup bk.store p = some b → lookup (restore pol f bk d0).data p = some b

/-- **C13_restore_data_honest** (full strength; every tree, fault subset, restore target). For every
policy under which `restoreDataFiles` does not continue silently after a per-file error — it either
returns the error, or counts the file and fails at the end — and whose read phase hands on the stored
bytes (`restoreExact`: no retry, or a retry that resets the temp file): if the restore reports success
then every file held by the backup is in the data storage, byte-for-byte, at its original path. -/
theorem C13_restore_data_honest (pol : Policy) (hpol : pol.restoreFileErr ≠ .continueSilently)
    (hx : restoreExact pol = true) : RestoreHonest pol := by
  intro f bk hnd d0 hst
  obtain ⟨hab, hsk, _⟩ := restore_completed hst
  rw [rLoop_eq pol f bk d0 fun _ _ => .inl hx] at hab hsk
  exact restore_of_allOk hnd hst (fun _ _ => .inl hx) (copyLoop_clean hpol hpol hab hsk)

/-- non-vacuity of `C13_restore_data_honest`: under the repaired policies a restore with faults on other
targets still succeeds (hypothesis satisfiable), and one with a fault on a backed-up file fails. -/
example :
    let p : Path := "db/cpu/2026/07/14/15/a.parquet".toList
    let bk := backup repairedCount noFaults [(p, [80, 65, 82, 49])]
    (restore repairedCount { read := ["other/x.parquet".toList] } bk []).status = .completed ∧
    (restore repairedCount { read := [p] } bk []).status = .failedData ∧
    (restore repairedAbort { write := [(p, some 2)] } bk []).status = .failedData := by
  repeat rw [String.toList_ofList]
  decide +kernel

/-- **C13_restore_honest_witness** (the finding). With the policy of the source as found
(`restoreDataFiles`: log + `continue`, return nil): back up one parquet file without faults, restore
into empty storage with a read failure on that file — the restore reports `completed`, and the file
is not in the data storage. Same input as the harness replay
`restore-success-missing-files:restoreDataFiles`. -/
theorem C13_restore_honest_witness :
    let p : Path := "db/cpu/2026/07/14/15/a.parquet".toList
    let bk := backup asFound noFaults [(p, [80, 65, 82, 49])]
    lookup bk.store p = some [80, 65, 82, 49] ∧
    (restore asFound { read := [p] } bk []).status = .completed ∧
    (restore asFound { read := [p] } bk []).processed = 0 ∧
    lookup (restore asFound { read := [p] } bk []).data p = none := by
  repeat rw [String.toList_ofList]
  decide +kernel

/-- the same with a write failure after 2 bytes: `completed`, and only `<path>.part` exists. -/
theorem C13_restore_honest_witness_write :
    let p : Path := "db/cpu/2026/07/14/15/a.parquet".toList
    let bk := backup asFound noFaults [(p, [80, 65, 82, 49])]
    (restore asFound { write := [(p, some 2)] } bk []).status = .completed ∧
    lookup (restore asFound { write := [(p, some 2)] } bk []).data p = none ∧
    lookup (restore asFound { write := [(p, some 2)] } bk []).data (p ++ partSuffix) = some [80, 65] := by
  repeat rw [String.toList_ofList]
  decide +kernel

/-- The finding is live for EVERY policy that continues silently (whatever its other fields), and
only for those: the full statement holds of a policy iff its `restoreFileErr` is not
`continueSilently`. -/
theorem C13_restore_data_honest_iff (pol : Policy) (hx : restoreExact pol = true) :
    RestoreHonest pol ↔ pol.restoreFileErr ≠ .continueSilently := by
  constructor
  · intro H hsil
    let p : Path := "a.parquet".toList
    let m : Manifest := { totalFiles := 1, totalSize := 1, skipped := 0, dbs := 1, meas := 1 }
    let bk : Backup := { status := .completed, store := [(p, [1])], manifest := some m, processed := 1, pbytes := 1, skipped := 0, total := 1 }
    have hout : rOutcome pol ({ read := [p] } : Faults) p = .readErr := by
      simp [rOutcome, Faults.outcomeA]
    -- the only file fails to read and the loop goes on in silence
    have hrl : rLoop pol { read := [p] } bk [] = { dest := [] } := by
      have hws : walkSort bk.store = [(p, [1])] := rfl
      simp [rLoop, hws, rContent, copyLoop, stepFile, hout, restoreCfg, hsil, onErr]
    have hr := restore_of_manifest pol { read := [p] } bk [] m rfl rfl
    rw [hrl] at hr
    have := H { read := [p] } bk (List.nodup_cons.mpr ⟨List.not_mem_nil, List.nodup_nil⟩) [] (by rw [hr]; rfl) p [1]
      (by rw [lookup_cons, if_pos rfl])
    rw [hr] at this
    cases this
  · exact fun h => C13_restore_data_honest pol h hx

/-- **C13_restore_honest_partial** (every policy, hence the current one). Under the carve-out
`restoreFaultFree f bk` — no restore-phase read/write fault names a file held by the backup — a
restore that reports success restored every backed-up file byte-for-byte. The carve-out excludes the
finding's input class, and with it every transient read fault on a backed-up file, harmless or not. -/
theorem C13_restore_honest_partial (pol : Policy) : RestoreHonestCarved pol := by
  intro f bk hnd hfree d0 hst
  have hall : ∀ e ∈ walkSort bk.store, rOutcome pol f e.1 = .ok ∧ f.readT.lookup e.1 = none := by
    intro e he
    rw [walkSort, mem_sortBy] at he
    have := List.all_eq_true.mp hfree e he
    simp only [Bool.and_eq_true, Option.isNone_iff_eq_none] at this
    refine ⟨?_, this.2⟩
    have h1 := this.1
    split at h1
    · assumption
    · cases h1
  exact restore_of_allOk hnd hst (fun e he => .inr (hall e he).2) fun e he => (hall e he).1

/-- non-vacuity of the carve-out: faults on files the backup does not hold are allowed. -/
example :
    let p : Path := "db/cpu/2026/07/14/15/a.parquet".toList
    let bk := backup asFound noFaults [(p, [80, 65, 82, 49])]
    restoreFaultFree asFound { read := ["zz/y.parquet".toList], write := [("q.parquet".toList, none)] } bk = true ∧
    restoreFaultFree asFound { read := [p] } bk = false := by
  repeat rw [String.toList_ofList]
  decide +kernel

/-- **C13_restore_counts** (every policy with an exact read phase, every fault subset): what the
as-found code does report honestly are its counters — if the restore got past the manifest and
`processed = total` then every backed-up file was restored byte-for-byte. (So `processed < total` is
the only trace a failed per-file restore leaves there.) -/
theorem C13_restore_counts (pol : Policy) (hx : restoreExact pol = true) (f : Faults) (bk : Backup)
    (hnd : (keys bk.store).Nodup) (d0 : Tree)
    (hst : (restore pol f bk d0).status = .completed)
    (hcnt : (restore pol f bk d0).processed = (restore pol f bk d0).total) :
    ∀ p b, lookup bk.store p = some b → lookup (restore pol f bk d0).data p = some b := by
  obtain ⟨_, _, _, hpr, htot⟩ := restore_completed hst
  rw [hpr, htot, rLoop_eq pol f bk d0 fun _ _ => .inl hx] at hcnt
  exact restore_of_allOk hnd hst (fun _ _ => .inl hx)
    ((copyLoop_processed (restoreCfg pol) (rOutcome pol f) _ { dest := d0 }).2 (by simpa using hcnt))

/-! ### the whole of `RestoreBackup`: options and the step program -/

/-- clause 2 for `RestoreBackup` with any options that request the data step -/
def RestoreBackupHonest (pol : Policy) : Prop :=
  ∀ (o : ROpts) (f : Faults) (bk : Backup), (keys bk.store).Nodup → ∀ (d0 : Tree), o.data = true →
    (restoreBackup pol o f bk d0).status = .completed →
    ∀ p b, lookup bk.store p = some b → lookup (restoreBackup pol o f bk d0).data p = some b

/-- **C13_restore_honest** (full strength, whole `RestoreBackup`). For every policy whose per-file
restore error is not silently continued, whose read phase is exact (`restoreExact`), whose step
program is well-behaved (`progOk`: decidable, checked over every combination of requested steps and
step outcomes — in particular a later step's success can not overwrite a data-step failure) and does
not skip the data step of a backup without parquet files: for every option set requesting the data
step (metadata / config restore on or off, present in the backup or not, succeeding or failing),
every store, fault subset and target, `completed` implies every backed-up file is restored
byte-for-byte. -/
theorem C13_restore_honest (pol : Policy) (hpol : pol.restoreFileErr ≠ .continueSilently)
    (hx : restoreExact pol = true) (hprog : progOk pol.restoreProg = true)
    (hns : pol.dataSkipNoParquet = false) : RestoreBackupHonest pol := by
  intro o f bk hnd d0 hd hst p b hpb
  cases hm : bk.manifest with
  | none => simp [restoreBackup, hm] at hst
  | some m =>
    cases hf : f.manifest with
    | true => simp [restoreBackup, hm, hf] at hst
    | false =>
      obtain ⟨hcomp, hdata⟩ := (restoreBackup_progOk hprog hns hd hm f hf d0).1 hst
      rw [hdata]
      exact C13_restore_data_honest pol hpol hx f bk hnd d0 hcomp p b hpb

/-- **C13_restore_masked_witness** (seeded mutant C13-2 as a theorem). With a step program that
carries the data error in the shared variable and lets the SQLite step assign the same variable
(`maskedProg`), a restore with metadata whose SQLite step succeeds reports `completed` although the
only backed-up file could not be read; without the metadata step the same restore fails. -/
theorem C13_restore_masked_witness :
    let pol : Policy := { repairedCount with restoreProg := maskedProg }
    let p : Path := "db/cpu/2026/07/14/15/a.parquet".toList
    let bk := backupFull pol { metadata := true } noFaults [(p, [80, 65, 82, 49])]
    progOk maskedProg = false ∧
    (restoreBackup pol { metadata := true } { read := [p] } bk []).status = .completed ∧
    lookup (restoreBackup pol { metadata := true } { read := [p] } bk []).data p = none ∧
    (restoreBackup pol { metadata := false } { read := [p] } bk []).status = .failedData ∧
    (restoreBackup pol { metadata := true } { read := [p], sqlite := true } bk []).status = .failedSqlite := by
  repeat rw [String.toList_ofList]
  decide +kernel

/-- **C13_restore_noparquet_witness** (seeded mutant C13-c1 as a theorem). If `RestoreBackup` skips the
data step whenever the manifest inventories no parquet file, a backup that holds only Iceberg
metadata (`total_files = 0`, one file in the store) restores as `completed` with nothing restored. -/
theorem C13_restore_noparquet_witness :
    let pol : Policy := { repairedCount with dataSkipNoParquet := true }
    let p : Path := "arc_prod.db/cpu/metadata/v1.metadata.json".toList
    let bk := backupFull pol {} noFaults [(p, [123, 125])]
    (bk.manifest.map (·.totalFiles)) = some 0 ∧ lookup bk.store p = some [123, 125] ∧
    (restoreBackup pol {} noFaults bk []).status = .completed ∧
    lookup (restoreBackup pol {} noFaults bk []).data p = none ∧
    lookup (restoreBackup repairedCount {} noFaults bk []).data p = some [123, 125] := by
  repeat rw [String.toList_ofList]
  decide +kernel

/-- **C13_restore_honest_current.** The CURRENT source (regenerated per-file policy and step program
of `RestoreBackup`, read attempts, no skipping of the data step) satisfies the side conditions of
`C13_restore_honest`, so clause 2 holds of it at full strength. -/
theorem C13_restore_honest_current : RestoreBackupHonest current :=
  C13_restore_honest current (by decide) (by decide) (by decide +kernel) (by decide)

/-- the carved-out statement holds of the current policy in any case (kept for the record of the
finding fixed in 79c3a87). -/
theorem C13_restore_honest_partial_current : RestoreHonestCarved current :=
  C13_restore_honest_partial current

/-- **C13_roundtrip_full.** Clause 1 for the whole operations: any backup options (SQLite metadata /
arc.toml included or not), any restore options that request the data step, no faults, any policy
with a well-behaved step program. -/
theorem C13_roundtrip_full (pol : Policy) (hprog : progOk pol.restoreProg = true)
    (hns : pol.dataSkipNoParquet = false) (t : Tree)
    (hnd : (keys t).Nodup) (bo : BOpts) (o : ROpts) (hd : o.data = true) :
    (backupFull pol bo noFaults t).status = .completed ∧
    (restoreBackup pol o noFaults (backupFull pol bo noFaults t) []).status = .completed ∧
    ∀ p b, lookup (restoreBackup pol o noFaults (backupFull pol bo noFaults t) []).data p = some b ↔
      ((p, b) ∈ t ∧ eligible p = true) := by
  obtain ⟨hst, ⟨m, hm, _, _⟩, hrst, _, hdata⟩ := C13_roundtrip pol t hnd
  have hm' := backupFull_manifest pol bo noFaults t
  rw [hm] at hm'
  obtain ⟨h1, h2⟩ := (restoreBackup_progOk hprog hns hd hm' noFaults rfl []).2
    (by rw [restore_backupFull]; exact hrst) rfl rfl
  refine ⟨hst, h1, fun p b => ?_⟩
  rw [h2, restore_backupFull]
  exact hdata p b

/-- **C13_backup_marks.** For every policy whose backup loop never continues silently, whose read
phase is exact (`backupExact`) and whose manifest takes its skip count from the progress counter: a
completed backup (one that has a manifest) that lacks some visible data / Iceberg metadata file of the
tree, or holds other bytes for it, records a non-zero `skipped_files` in its manifest — over all trees
and all fault subsets. -/
theorem C13_backup_marks (pol : Policy)
    (hr : pol.backupReadErr ≠ .continueSilently) (hw : pol.backupWriteErr ≠ .continueSilently)
    (hm : pol.manifestSkipped = true) (hbx : backupExact pol = true)
    (f : Faults) (t : Tree) (hnd : (keys t).Nodup) (m : Manifest)
    (hman : (backup pol f t).manifest = some m)
    (hmiss : ∃ p b, (p, b) ∈ t ∧ eligible p = true ∧ lookup (backup pol f t).store p ≠ some b) :
    0 < m.skipped := by
  rw [backup_manifest] at hman
  split at hman
  · rename_i hc
    cases hman
    obtain ⟨hab, _, _⟩ := (backup_completed_iff pol f t).mp hc
    have hbl := bLoop_eq pol f t fun _ _ => .inl hbx
    refine Nat.pos_of_ne_zero fun h0 => ?_
    have hsk : (bLoop pol f t).skipped = 0 := by simpa [manifestOf, hm] using h0
    rw [hbl] at hab hsk
    have hok := copyLoop_clean hr hw hab hsk
    obtain ⟨p, b, hpt, hel, hne⟩ := hmiss
    apply hne
    rw [backup_store, hbl]
    exact copyLoop_ok_mem hok rfl (functional_backupItems hnd) ((mem_backupItems t p b).mpr ⟨hpt, hel⟩)
  · cases hman

/-- non-vacuity: 10 files, one unreadable — the backup completes and its manifest says 1 skipped;
with two unreadable it fails the skip ratio instead. -/
example :
    let mk (i : Nat) : Path × Bytes := (("db/cpu/f" ++ toString i ++ ".parquet").toList, [1, 2, 3])
    let t : Tree := (List.range 10).map mk
    ((backup asFound { read := [(mk 3).1] } t).manifest.map (·.skipped)) = some 1 ∧
    lookup (backup asFound { read := [(mk 3).1] } t).store (mk 3).1 = none ∧
    (backup asFound { read := [(mk 3).1, (mk 4).1] } t).status = .failedRatio := by
  simp only [String.toList_append]
  repeat rw [String.toList_ofList]
  decide +kernel

/-- **C13_backup_retry_witness** (seeded mutant C13-b2 as a theorem). With a read phase that retries
once into the same, un-reset temp file (`retryNoReset`: 2 attempts, no truncate/rewind), a TRANSIENT
read fault that delivers 2 bytes and then fails makes the backup store `prefix ++ content`, report
`completed` and record 0 skipped; with the single-attempt read phase the same fault is a counted skip. -/
theorem C13_backup_retry_witness :
    let mk (i : Nat) : Path × Bytes := (("db/cpu/f" ++ toString i ++ ".parquet").toList, [1, 2, 3, 4])
    let t : Tree := (List.range 10).map mk
    let f : Faults := { readT := [((mk 3).1, 1, 2)] }
    backupExact retryNoReset = false ∧
    (backup retryNoReset f t).status = .completed ∧
    ((backup retryNoReset f t).manifest.map (·.skipped)) = some 0 ∧
    lookup (backup retryNoReset f t).store (mk 3).1 = some [1, 2, 1, 2, 3, 4] ∧
    ((backup repairedCount f t).manifest.map (·.skipped)) = some 1 ∧
    lookup (backup repairedCount f t).store (mk 3).1 = none := by
  simp only [String.toList_append]
  repeat rw [String.toList_ofList]
  decide +kernel

/-- **C13_backup_marks_current**: the side conditions of `C13_backup_marks` hold of the regenerated
policy of the current source (`decide` over `Arc.Generated.C13`). -/
theorem C13_backup_marks_current (f : Faults) (t : Tree) (hnd : (keys t).Nodup) (m : Manifest)
    (hman : (backup current f t).manifest = some m)
    (hmiss : ∃ p b, (p, b) ∈ t ∧ eligible p = true ∧ lookup (backup current f t).store p ≠ some b) :
    0 < m.skipped :=
  C13_backup_marks current (by decide) (by decide) (by decide) (by decide) f t hnd m hman hmiss

/-- `backupFull` only adds the two manifest flags: clause 3 transfers verbatim. -/
theorem C13_backup_marks_full_current (bo : BOpts) (f : Faults) (t : Tree) (hnd : (keys t).Nodup) (m : Manifest)
    (hman : (backupFull current bo f t).manifest = some m)
    (hmiss : ∃ p b, (p, b) ∈ t ∧ eligible p = true ∧ lookup (backupFull current bo f t).store p ≠ some b) :
    0 < m.skipped := by
  rw [backupFull_manifest] at hman
  obtain ⟨m0, hm0, rfl⟩ := Option.map_eq_some_iff.mp hman
  exact C13_backup_marks_current f t hnd m0 hm0 hmiss

/-- **C13_backup_status.** A backup has a (persisted) manifest iff it reports `completed`; a failed
backup can therefore not be restored (`restore` answers `failedNoManifest`, storage untouched). -/
theorem C13_backup_status (pol : Policy) (f : Faults) (t : Tree) :
    ((backup pol f t).manifest.isSome ↔ (backup pol f t).status = .completed) ∧
    ((backup pol f t).status ≠ .completed → ∀ g d0,
      (restore pol g (backup pol f t) d0).status = .failedNoManifest ∧
      (restore pol g (backup pol f t) d0).data = d0) := by
  have h1 : ((backup pol f t).manifest.isSome ↔ (backup pol f t).status = .completed) := by
    rw [backup_manifest]
    split <;> simp [*]
  refine ⟨h1, fun hne g d0 => ?_⟩
  have : (backup pol f t).manifest = none := by rw [backup_manifest, if_neg hne]
  simp [restore, restoreItems, this]

/-- **C13_backup_ratio.** When the skip-ratio check is in force, a completed backup skipped at most
`ratioNum/ratioDen` of the files it listed. -/
theorem C13_backup_ratio (pol : Policy) (hrc : pol.ratioChecked = true) (f : Faults) (t : Tree)
    (h : (backup pol f t).status = .completed) :
    (backup pol f t).skipped * pol.ratioDen ≤ pol.ratioNum * (backup pol f t).total := by
  obtain ⟨_, hex, _⟩ := (backup_completed_iff pol f t).mp h
  rw [backup_skipped, backup_total]
  simp only [hrc, Bool.true_and, ratioExceeded, Bool.and_eq_false_iff, Bool.not_eq_false', Bool.or_eq_true,
    beq_iff_eq, decide_eq_false_iff_not] at hex
  rcases hex with (h0 | h0) | h0
  · simp [h0]
  · -- nothing was listed, so nothing was skipped
    have : bLoop pol f t = { dest := [] } := by rw [bLoop, List.eq_nil_of_length_eq_zero h0]; rfl
    simp [this]
  · omega

/-- **C13_policy_tied.** The regenerated facts decode to a well-formed policy: the skip ratio is a
proper fraction and the path constants of the model are the string literals of the source. -/
theorem C13_policy_tied :
    0 < current.ratioDen ∧ current.ratioNum ≤ current.ratioDen ∧
    dotParquet.map Char.toNat = Arc.Generated.C13.parquetSuffix ∧
    metadataSeg.map Char.toNat = Arc.Generated.C13.metadataSeg ∧
    partSuffix.map Char.toNat = Arc.Generated.C13.partSuffix := by decide +kernel

end Arc.C13
