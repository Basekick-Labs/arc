import Arc.Model.C24
import Arc.Generated.C24
import Arc.Proofs.C24.Inv
import Arc.Proofs.C24.Healthy
import Arc.Proofs.C24.Ckpt
/-!
# C24 — the replicated WAL stream is ordered, gap-free and authenticated

Property theorems only; the invariants live in `Arc/Proofs/C24/` (`Inv`: writer side and ordered
channel, `Ckpt`: checkpoint records and the reader, `Healthy`: honest wire).
All theorems quantify over every reachable state of the LTS `Arc.C24.step`, i.e. over ALL
interleavings of any number of producer threads and ALL wire behaviours (the adversary may deliver
any frame at any time).  MAC / hash security are hypotheses (`Unforgeable`, `CollisionFree`).
-/
namespace Arc.C24

variable {α : Type} [DecidableEq α]

/-- **C24_applied_sorted.** Whatever the writer's interleaving and whatever the wire does (no
crypto hypothesis needed), the reader's applied sequence numbers are strictly increasing and never
exceed `lastSeq`. -/
theorem C24_applied_sorted (cfg : Cfg) (hashFn : Bytes → α) (s : State)
    (h : Reach cfg hashFn (fun _ _ => True) s) :
    s.applied.Pairwise (fun a b => a.seq < b.seq) ∧ ∀ e ∈ s.applied, e.seq ≤ s.lastSeq :=
  applied_sorted h

/-- **C24_no_replay.** An entry frame whose sequence number was already applied is never applied
again (byte-identical replay, duplicate, or a re-tagged copy alike): the applied log is unchanged. -/
theorem C24_no_replay (cfg : Cfg) (hashFn : Bytes → α) (s : State)
    (h : Reach cfg hashFn (fun _ _ => True) s) (e : Entry) (he : e ∈ s.applied)
    (p : Bytes) (tagOk applyOk : Bool) :
    (recvEntry s e.seq p tagOk applyOk).applied = s.applied ∧
    (s.applied.map (·.seq)).Nodup := by
  have hs := applied_sorted h
  refine ⟨?_, (List.pairwise_map.mpr hs.1).imp Nat.ne_of_lt⟩
  -- a bad tag or `seq ≤ lastSeq` drops the connection, and that leaves `applied` alone
  cases tagOk <;> simp [recvEntry, dropConn, hs.2 e he]

/-- **C24_authentic.** Under `Unforgeable` (a tag verifies only on a (seq, payload) the sender
emitted in this session) every applied entry was enqueued by the writer with exactly that sequence
number and payload — nothing altered, spliced or injected is ever applied. -/
theorem C24_authentic (cfg : Cfg) (hashFn : Bytes → α) (s : State)
    (h : Reach cfg hashFn (Unforgeable hashFn) s) :
    (∀ e ∈ s.applied, e ∈ s.queued) ∧ (∀ e ∈ s.queued, 1 ≤ e.seq ∧ e.seq ≤ s.ctr) :=
  ⟨applied_queued h, (struct_reach h).qbound⟩

/-- **C24_drops_reported.** Every sequence number the writer ever assigned is either enqueued,
still held by a thread between assignment and enqueue, or reported as dropped; the channel is FIFO
(`queued = dist ++ queue`) and a session's frames are a contiguous segment of what was popped
(`post` = entries popped after the writer removed the reader). -/
theorem C24_drops_reported (cfg : Cfg) (hashFn : Bytes → α) (s : State)
    (h : Reach cfg hashFn (fun _ _ => True) s) :
    (∀ n, 1 ≤ n → n ≤ s.ctr →
      n ∈ s.queued.map (·.seq) ∨ n ∈ s.dropped ∨ n ∈ s.holding.map (·.2.seq)) ∧
    s.queued = s.dist ++ s.queue ∧ (∃ pre post, s.dist = pre ++ s.sent ++ post) :=
  have ⟨fifo, ⟨pre, post, hseg, _⟩, _, _, _, acct⟩ := struct_reach h
  ⟨acct, fifo, pre, post, hseg⟩

/-- **C24_checkpoint (gap-free).** With an ordered channel (`Carve`: assignment and enqueue atomic,
or one producer), `Unforgeable`, `CollisionFree` for the running hash, non-empty payloads and no
local apply failure: whenever a checkpoint verifies, the entries applied in this session are
exactly a prefix of the frames the sender emitted in this session — nothing was dropped, reordered
or inserted on the wire since the handshake. -/
theorem C24_checkpoint (cfg : Cfg) (hashFn : Bytes → α) (hcf : CollisionFree hashFn) (s s' : State)
    (h : Reach cfg hashFn (fun st ev => Unforgeable hashFn st ev ∧ Carve cfg ev ∧ Clean ev) s)
    (l : Nat) (hv : α) (c f m : Bool)
    (hu : Unforgeable hashFn s (.deliverC l hv c f m))
    (hstep : step cfg hashFn s (.deliverC l hv c f m) = some s') (hok : s'.conn = true) :
    ∃ n, 0 < n ∧ s.appliedS = s.sent.take n ∧ (s.appliedS.map (·.seq)).getLast? = some l :=
  checkpoint cfg hashFn hcf s s' h l hv c f m hu hstep hok

/-- **C24_checkpoint_hash_scope_tied.** `C24_checkpoint` is a theorem about a running hash that
covers EVERY payload since the handshake on both sides (`doDist`: `pre := flat sent'`, `recvCkpt`:
compared with `flat fed`, neither ever reset inside a session). This is the regenerated fact that
the current `sendToReader`/`emitCheckpointLocked` and `receiveLoop` do exactly that. With a
per-window hash on both sides the gap-free clause is false: removing all frames of one checkpoint
window (its entries and its closing checkpoint) leaves a stream whose next window verifies. -/
theorem C24_checkpoint_hash_scope_tied :
    Arc.Generated.C24.hashScopeSender = "session" ∧ Arc.Generated.C24.hashScopeReceiver = "session" :=
  ⟨rfl, rfl⟩

/-- **C24_checkpoint_source.** `C24_checkpoint` for the current source: its proof consumes the
regenerated hash-scope fact, so a source edit that changes the scope breaks THIS obligation by name. -/
theorem C24_checkpoint_source (cfg : Cfg) (hashFn : Bytes → α) (hcf : CollisionFree hashFn) (s s' : State)
    (h : Reach cfg hashFn (fun st ev => Unforgeable hashFn st ev ∧ Carve cfg ev ∧ Clean ev) s)
    (l : Nat) (hv : α) (c f m : Bool)
    (hu : Unforgeable hashFn s (.deliverC l hv c f m))
    (hstep : step cfg hashFn s (.deliverC l hv c f m) = some s') (hok : s'.conn = true) :
    Arc.Generated.C24.hashScopeSender = "session" ∧ Arc.Generated.C24.hashScopeReceiver = "session" ∧
    ∃ n, 0 < n ∧ s.appliedS = s.sent.take n ∧ (s.appliedS.map (·.seq)).getLast? = some l :=
  ⟨C24_checkpoint_hash_scope_tied.1, C24_checkpoint_hash_scope_tied.2,
    C24_checkpoint cfg hashFn hcf s s' h l hv c f m hu hstep hok⟩

/-- **C24_payload_ownership_tied.** `C24_authentic` speaks about the payload value an entry had
when it was enqueued; that is the payload on the wire only if nobody writes to the queued slice
afterwards. Regenerated fact: either `Sender.Replicate` copies the payload, or the envelope that
`AppendRawWithMeta` hands to the hook is a fresh `make` (never pooled / reused). (`AppendRaw` passes
the caller's slice: its callers hand over ownership — an assumption, see props/C24.py.) -/
theorem C24_payload_ownership_tied :
    Arc.Generated.C24.senderCopiesPayload = true ∨
    (Arc.Generated.C24.hookPayloadAppendRawWithMeta = "fresh-make" ∧
     Arc.Generated.C24.hookPayloadAppendRaw = "caller-slice") := by decide +kernel

/-! ### non-vacuity: a concrete two-producer run, a verified checkpoint, a replayed frame -/

/-- the symbolic hash used in the examples (pre-image itself: collision-free). -/
def exHash (b : Bytes) : Bytes := b

/-- producers 0 and 1 (atomic config, so they do not overlap), one entry each, a checkpoint every
2 entries; the wire delivers entry 1 and entry 2 (the examples below add the checkpoint, and a
replay of entry 1). -/
def exTrace : List (Ev Bytes) :=
  [.connect, .assign 0 [1], .enqueue 0, .assign 1 [2, 2], .enqueue 1, .dist, .dist,
   .deliverE 1 [1] true true, .deliverE 2 [2, 2] true true]

example : CollisionFree exHash := fun _ _ h => h

/-- hypotheses of `C24_checkpoint` (and of the other safety theorems) hold on a non-trivial state:
after `exTrace` the checkpoint (2, hash [1,2,2]) verifies and the two applied entries are the
sender's first two frames. -/
example : ∃ s s', Reach ⟨true, 4, 2⟩ exHash
      (fun st ev => Unforgeable exHash st ev ∧ Carve ⟨true, 4, 2⟩ ev ∧ Clean ev) s ∧
    Unforgeable exHash s (.deliverC 2 [1, 2, 2] true true true) ∧
    step ⟨true, 4, 2⟩ exHash s (.deliverC 2 [1, 2, 2] true true true) = some s' ∧ s'.conn = true ∧
    s.appliedS.map (·.seq) = [1, 2] ∧ s.applied.length = 2 := by
  obtain ⟨s, hr, hq⟩ := (Option.any_eq_true _ _).mp (show (runChk ⟨true, 4, 2⟩ exHash
      (fun st ev => Unforgeable exHash st ev ∧ Carve ⟨true, 4, 2⟩ ev ∧ Clean ev) init exTrace).any
      (fun s => decide (Unforgeable exHash s (.deliverC 2 [1, 2, 2] true true true) ∧
        (step ⟨true, 4, 2⟩ exHash s (.deliverC 2 [1, 2, 2] true true true)).map (·.conn) = some true ∧
        s.appliedS.map (·.seq) = [1, 2] ∧ s.applied.length = 2)) = true by decide +kernel)
  obtain ⟨hu, hs, h1, h2⟩ := of_decide_eq_true hq
  match hst : step ⟨true, 4, 2⟩ exHash s (.deliverC 2 [1, 2, 2] true true true), hs with
  | some s', hs =>
    exact ⟨s, s', reach_runChk exTrace init s .init hr, hu, hst, by simpa using hs, h1, h2⟩

/-- … and the adversary is constrained only by `Unforgeable`: a replayed entry 1 after entry 2
(valid tag) is a legal event of the LTS, and drops the connection instead of being applied. -/
example : (run ⟨true, 4, 2⟩ exHash init (exTrace ++ [.deliverE 1 [1] true true])).map
    (fun s => (s.lastDrop, s.applied.map (·.seq))) = some (some .seq, [1, 2]) := by decide +kernel

/-- `C24_healthy_partial` is not vacuous: a single producer, two entries, a checkpoint after the
second (and a thread cannot assign again before it has enqueued: that run is not enabled). -/
example : (hrun ⟨false, 4, 2⟩ exHash init
      [.connect, .assign 0 [1], .enqueue 0, .dist, .assign 0 [2], .assign 0 [3]]).isNone = true ∧
    HCarve ⟨false, 4, 2⟩ [.connect, .assign 0 [1], .enqueue 0, .dist, .assign 0 [2], .enqueue 0, .dist] = true ∧
    (hrun ⟨false, 4, 2⟩ exHash init
      [.connect, .assign 0 [1], .enqueue 0, .dist, .assign 0 [2], .enqueue 0, .dist]).map
      (fun s => (s.lastDrop, s.appliedS.map (·.seq), s.ckpts.length)) = some (none, [1, 2], 1) := by
  decide +kernel

/-- **C24_checkpoint_nonempty_needed_witness.** The non-empty-payload hypothesis of
`C24_checkpoint` cannot be dropped: the running hash is over the concatenation of payloads, so after
a session that streamed only an empty payload, its checkpoint (hash of nothing) replayed into a
FRESH session verifies although nothing was applied in that session (harmless: it vouches for no
entry; observed on the real receiver, harness tag `ckpt-monitor:empty-payload-checkpoint-…`). -/
theorem C24_checkpoint_nonempty_needed_witness :
    (run ⟨true, 4, 1⟩ exHash init
      [.connect, .assign 0 [], .enqueue 0, .dist, .deliverE 1 [] true true, .close, .connect,
       .deliverC 1 [] true true true]).map
      (fun s => (s.conn, s.lastDrop, s.appliedS.length, s.ckpts.map (·.pre))) =
    some (true, none, 0, [[]]) := by decide +kernel

/-
**C24_healthy_full** (the last clause of the property, at full strength) — FALSE when assignment
and enqueue are separate critical sections (`cfg.atomic = false`) and two or more producers run
concurrently:

  theorem C24_healthy_full (cfg) (tr : List HEv) (s) :
      hrun cfg hashFn init tr = some s → s.lastDrop = none

refuted by `C24_healthy_witness` below.  What holds is `C24_healthy_partial` under the decidable
carve-out `HCarve cfg tr` = "assignment and enqueue are one critical section (regenerated fact) or
every `assign` of the trace comes from thread 0 (one producer)".
-/

/-- **C24_healthy_witness.** Two producers, honest wire: assign(1), assign(2), enqueue(2),
enqueue(1) puts 2 before 1 into the channel; the reader applies 2 and then drops the healthy
connection on 1 (`seq ≤ lastSeq`). -/
theorem C24_healthy_witness :
    (hrun ⟨false, 8, 1024⟩ (fun b : Bytes => b) init
      [.connect, .assign 0 [1], .assign 1 [2], .enqueue 1, .enqueue 0, .dist, .dist]).map
      (fun s => (s.lastDrop, s.applied.map (·.seq), s.conn)) = some (some .seq, [2], false) := by
  decide +kernel

/-- **C24_healthy_partial.** With an honest wire, if assignment+enqueue are atomic or there is a
single producer thread, the connection is never dropped, and everything the sender emitted in the
session has been applied, in order. -/
theorem C24_healthy_partial (cfg : Cfg) (hashFn : Bytes → α) (hint : 1 ≤ cfg.interval)
    (tr : List HEv) (s : State)
    (hc : HCarve cfg tr = true) (hr : hrun cfg hashFn init tr = some s) :
    s.lastDrop = none ∧ (s.conn = true → s.appliedS = s.sent) :=
  healthy cfg hashFn hint tr s hc hr

/-- **C24_healthy_source.** The carve-out instantiated with the fact regenerated from the current
source: as soon as `Sender.Replicate` assigns and enqueues in one critical section the carve-out is
`true` for every trace and `C24_healthy_partial` is the full theorem. -/
theorem C24_healthy_source (cap interval : Nat) (tr : List HEv)
    (h : Arc.Generated.C24.assignEnqueueAtomic = true) :
    HCarve ⟨Arc.Generated.C24.assignEnqueueAtomic, cap, interval⟩ tr = true := by
  simp [HCarve, h]

/-- The receiver steps the model assumes are the steps (and the order) found in the current
`receiveLoop` (regenerated). -/
theorem C24_receiver_order_tied :
    Arc.Generated.C24.recvEntryOrder =
      ["verify-tag", "seq-check", "hash-write", "apply", "apply-error-continue", "advance"] ∧
    Arc.Generated.C24.recvCkptOrder = ["cluster", "seq", "hash", "hmac"] ∧
    Arc.Generated.C24.senderOverwritesSequence = true := ⟨rfl, rfl, rfl⟩

end Arc.C24
