import Arc.Proofs.C07.Basic
import Arc.Generated.C07
/-!
# C07 — Backpressure and storage outages never lose or duplicate acknowledged writes

Model: `Arc/Model/C07.lean` (durability LTS with ghost row ids; code facts = `Arc.Generated.C07.facts`).
A trace is a list of events, each with the harness' observation of which hour files a partial
multi-hour flush managed to write.

The first two clauses FAIL on the current tree (each class replayed on the real code by the harness, see
`props/C07.py`); the third clause holds at full strength since repair C (a6bcf98): `C07_nowal_ack`.
Full statements of the failing clauses, kept visible:

```
theorem C07_no_dup     : ∀ c tr i, cnt (runO c {} tr).stored i ≤ 1
theorem C07_eventually : ∀ c tr, Cov (runO c {} tr)          -- acked ∧ ¬stored → still in memory or in a WAL file
```
Below: `_witness` theorems (concrete traces evaluated on the model instantiated with the GENERATED
facts) and `_partial` theorems under explicit decidable carve-outs on traces.
-/
namespace Arc.C07

abbrev Trace := List (Ev × List Nat)

def runO (c : Cfg) (s : St) : Trace → St
  | [] => s
  | (e, o) :: t => runO c (step c s e o) t

/-- configuration used by the harness (`new wal=1 cc=2 q=1 bm=2 am=601 sa=1802 ra=301 mf=5`), thresholds
derived from the generated constants: `safeAge = max(floor, mult · 600.5 s)` compared with `>`,
`MinFileAge` compared with `<` -/
def cfgGen (wal : Bool) : Cfg :=
  { walOn := wal, chanCap := 2, qCap := 1, bufMax := 2, ageMax := 601,
    safeAge := (max Arc.Generated.C07.safeAgeFloorNs (Arc.Generated.C07.safeAgeMult * 600500000000)) / 1000000000 + 1,
    rotAge := 301, minFileAge := (Arc.Generated.C07.minFileAgeNs + 999999999) / 1000000000,
    facts := Arc.Generated.C07.facts }

/-- the tree before repairs B and C (explicitly named pre-fix configuration) -/
def cfgPre (wal : Bool) : Cfg := { cfgGen wal with facts := Facts.round1 }

/-- the facts the witnesses below were found with; a source change that alters any of them (e.g. a
repair) makes this fail, so the findings are re-examined instead of silently kept -/
theorem C07_facts_current :
    Arc.Generated.C07.facts = Facts.current ∧ (cfgGen true).safeAge = 1802 ∧ (cfgGen true).minFileAge = 5
      ∧ Arc.Generated.C07.hooksBeforeComponents = true ∧ 8 ≤ Arc.Generated.C07.apiWriteCallersChecked := by decide +kernel

/-! ## no duplicates -/

def DupFree (s : St) : Prop := ∀ i, cntLS s i ≤ 1

/-- carve-out, per event: ghost ids of a write are fresh; an event that replays WAL files (tick, restart)
finds no row in them that is still in memory or already in Parquet (nor twice in the files) -/
def dupSafe (s : St) : Ev → Bool
  | .write _ rows => rows.all (fun r => decide (cnt rows r.id + cntLS s r.id ≤ 1))
  | .writeT _ _ rows => rows.all (fun r => decide (cnt rows r.id + cntLS s r.id ≤ 1))
  | .tick => (filesRows s.files).all (fun r => decide (phi s r.id ≤ 1))
  | .restart => (filesRows s.files).all (fun r => decide (phi s r.id ≤ 1))
  | .tickF _ => false      -- a replay pass with a rejected callback keeps the file: its replayed rows WILL be replayed again
  | .restartF _ => false
  | _ => true

def carveDup (c : Cfg) (s : St) : Trace → Bool
  | [] => true
  | (e, o) :: t => dupSafe s e && carveDup c (step c s e o) t

/-- what `dupSafe` asks of the rows the event may add to memory -/
theorem dupSafe_spec {s : St} {e : Ev} (h : dupSafe s e = true) :
    e.injects = false ∧ ∀ r ∈ added s.files e, cnt (added s.files e) r.id + cntLS s r.id ≤ 1 := by
  cases e with
  | write _ rows | writeT _ _ rows =>
    exact ⟨rfl, fun r hr => of_decide_eq_true (List.all_eq_true.mp h r hr)⟩
  | tick | restart =>
    refine ⟨rfl, fun r hr => ?_⟩
    have : phi s r.id ≤ 1 := of_decide_eq_true (List.all_eq_true.mp h r hr)
    exact Nat.add_comm _ _ ▸ this
  | tickF _ | restartF _ => cases h
  | _ => exact ⟨rfl, nofun⟩

theorem step_dupFree (c : Cfg) (s : St) (e : Ev) (obs : List Nat) (hs : DupFree s) (hc : dupSafe s e = true) :
    DupFree (step c s e obs) := by
  intro i
  obtain ⟨hne, hsafe⟩ := dupSafe_spec hc
  have hb := step_cntLS c s e obs i hne
  have h0 := hs i
  by_cases ha : cnt (added s.files e) i = 0
  · omega
  · -- a row with id `i` is added: `dupSafe` says it is the only copy
    obtain ⟨r, hr, hi⟩ := List.countP_pos_iff.mp (Nat.pos_of_ne_zero ha)
    have := hsafe r hr
    rw [beq_iff_eq.mp hi] at this
    omega

theorem run_dupFree (c : Cfg) (tr : Trace) (s : St) (hs : DupFree s) (hc : carveDup c s tr = true) :
    DupFree (runO c s tr) := by
  induction tr generalizing s with
  | nil => exact hs
  | cons x t ih =>
    obtain ⟨e, o⟩ := x
    simp only [carveDup, Bool.and_eq_true] at hc
    exact ih _ (step_dupFree c s e o hs hc.1) hc.2

/-- **no_dup, partial**: for every configuration, all code facts and every trace (any interleaving of
writes, saturation, failures, rotation, ticks, shutdown, crash, restart): if no replaying event finds an
already stored / still buffered row in the WAL files it replays (and ghost ids are fresh), every row is in
Parquet at most once — and at most once in memory ∪ Parquet. -/
theorem C07_no_dup_partial (c : Cfg) (tr : Trace) (hc : carveDup c {} tr = true) (i : Nat) :
    cnt (runO c {} tr).stored i ≤ 1 := by
  have h := run_dupFree c tr {} (fun _ => Nat.zero_le 1) hc i
  simp only [cntLS_eq] at h
  omega

def r (i h : Nat) : Row := ⟨i, h⟩
def noObs (es : List Ev) : Trace := es.map (fun e => (e, []))

/-- (d) rows 1,2 flushed fine, rows 3,4 hit an outage (flag), the WAL file rotates, the tick replays the
whole file: rows 1,2 are written to Parquet a second time -/
def traceDup : Trace := noObs [.restart, .write 0 [r 1 0, r 2 0], .mode (some 0), .write 1 [r 3 0, r 4 0],
  .mode none, .adv 310, .write 0 [r 5 0], .adv 10, .tick]

theorem C07_no_dup_witness : cnt (runO (cfgGen true) {} traceDup).stored 1 = 2 := by decide +kernel

/-- (d2) partial multi-hour flush: hour 0 written, hour 1 fails; replay re-stores the hour-0 row -/
def traceDupPartial : Trace :=
  [(.restart, []), (.mode (some 1), []), (.write 0 [r 1 0, r 2 1], [0]), (.mode none, []), (.adv 310, []),
   (.write 1 [r 3 0], []), (.adv 10, []), (.tick, [])]

theorem C07_no_dup_witness_partial_flush : cnt (runO (cfgGen true) {} traceDupPartial).stored 1 = 2 := by decide +kernel

-- non-vacuity of the carve-out: an outage whose rows are all replayed exactly once
example : carveDup (cfgGen true) {} (noObs [.restart, .mode (some 0), .write 0 [r 1 0, r 2 0],
    .adv 310, .write 1 [r 3 0, r 4 0], .mode none, .adv 10, .tick]) = true
  ∧ cnt (runO (cfgGen true) {} (noObs [.restart, .mode (some 0), .write 0 [r 1 0, r 2 0],
    .adv 310, .write 1 [r 3 0, r 4 0], .mode none, .adv 10, .tick])).stored 1 = 1 := by decide +kernel
-- the write that triggers the rotation is itself in the rotated file: replay re-buffers row 3 while its
-- first copy is still buffered
example : carveDup (cfgGen true) {} (noObs [.restart, .mode (some 0), .write 0 [r 1 0, r 2 0], .mode none,
    .adv 310, .write 1 [r 3 0], .adv 10, .tick]) = false := by decide +kernel
example : carveDup (cfgGen true) {} traceDup = false := by decide +kernel

/-! ## eventually stored (as a safety invariant) -/

/-- every acknowledged row has a copy somewhere: Parquet, memory (buffer, queue, in flight) or a WAL file
that is still on disk / the WAL channel -/
def Cov (s : St) : Prop := ∀ i ∈ s.acked, 0 < tot s i

/-- the event removes the last copy of an acknowledged row that never reached Parquet (or acknowledges a
row of which no copy is kept) -/
def lossy (c : Cfg) (s : St) (e : Ev) (obs : List Nat) : Bool :=
  (step c s e obs).acked.any (fun i => tot (step c s e obs) i == 0 && (decide (0 < tot s i) || !s.acked.contains i))

def carveLoss (c : Cfg) (s : St) : Trace → Bool
  | [] => true
  | (e, o) :: t => !lossy c s e o && carveLoss c (step c s e o) t

theorem step_cov (c : Cfg) (s : St) (e : Ev) (obs : List Nat) (hs : Cov s) (hc : lossy c s e obs = false) :
    Cov (step c s e obs) := by
  intro i hi
  apply Nat.pos_of_ne_zero
  intro hz
  -- with no copy left, `i` is one of the ids `lossy` looks for
  apply List.any_eq_false.mp hc i hi
  by_cases hm : i ∈ s.acked
  · simp [hz, hs i hm]
  · simp [hz, hm]

theorem run_cov (c : Cfg) (tr : Trace) (s : St) (hs : Cov s) (hc : carveLoss c s tr = true) :
    Cov (runO c s tr) := by
  induction tr generalizing s with
  | nil => exact hs
  | cons x t ih =>
    obtain ⟨e, o⟩ := x
    simp only [carveLoss, Bool.and_eq_true, Bool.not_eq_true'] at hc
    exact ih _ (step_cov c s e o hs hc.1) hc.2

/-- **eventually, partial**: along every trace without a `lossy` event every acknowledged row that is not
in Parquet is still in memory or in the WAL.  (Which events are lossy on the current tree: the witnesses.) -/
theorem C07_eventually_partial (c : Cfg) (tr : Trace) (hc : carveLoss c {} tr = true) :
    Cov (runO c {} tr) :=
  run_cov c tr {} nofun hc

/-- row `i` was acknowledged and no copy of it exists anywhere at the end of the trace -/
def lostIn (c : Cfg) (tr : Trace) (i : Nat) : Bool :=
  (runO c {} tr).acked.contains i && tot (runO c {} tr) i == 0

/-- the tree between repairs B/C and 945541f (named pre-fix configuration) -/
def cfgPre945 (wal : Bool) : Cfg := { cfgGen wal with facts := Facts.pre945 }

/-- **pending failure ⇒ no age purge (945541f), full strength**: for every configuration carrying the
generated facts and every state with the flush-failure flag up, the maintenance tick is exactly "replay
every old-enough rotated file, then clear the flag": no file leaves the disk without its entries having
been handed to the buffer (classes (b′) and (c): outage or overflow longer than safeAge). -/
theorem C07_pending_failure_tick_never_age_purges (c : Cfg) (hf : c.facts = Arc.Generated.C07.facts)
    (hw : c.walOn = true) (s : St) (hs : s.flag = true) :
    tick c s = { replayFiles c c.minFileAge s with flag := false } := by
  have h : c.facts.tickFlag = [.replay, .reset] := by rw [hf]; decide
  unfold tick
  simp [hw, hs, h, tickAct]

/-- (b′) queue-full drop with the WAL on: rows 5,6 are acknowledged and only in the WAL; the flag is
raised (repair B), no tick comes before the rotated file is older than safeAge -/
def traceQueueFull : Trace := noObs [.restart, .hold, .write 0 [r 1 0, r 2 0], .write 0 [r 3 0, r 4 0],
  .write 0 [r 5 0, r 6 0], .unhold, .adv 310, .write 1 [r 7 0], .adv 1810, .tick]
/-- history: before 945541f the flag branch purged first and rows 5,6 were lost; now they are replayed and
stored exactly once -/
theorem C07_queue_full_long_gap_fixed :
    lostIn (cfgPre945 true) traceQueueFull 5 = true ∧ lostIn (cfgGen true) traceQueueFull 5 = false
      ∧ cnt (runO (cfgGen true) {} traceQueueFull).stored 5 = 1 := by decide +kernel

/-- (b) same overflow, the tick comes in time (file rotated, younger than safeAge), then a graceful
shutdown -/
def traceQueueFullShort : Trace := noObs [.restart, .hold, .write 0 [r 1 0, r 2 0], .write 0 [r 3 0, r 4 0],
  .write 0 [r 5 0, r 6 0], .unhold, .adv 310, .write 1 [r 7 0], .adv 10, .tick, .shutdown 0]
/-- effect of repair B (52926d5): on the pre-fix tree the overflowed rows are never replayed and the
shutdown purge removes their last copy; on the current tree the tick replays them -/
theorem C07_queue_full_flag_effect :
    lostIn (cfgPre true) traceQueueFullShort 5 = true ∧ lostIn (cfgGen true) traceQueueFullShort 5 = false
      ∧ cnt (runO (cfgGen true) {} traceQueueFullShort).stored 5 = 1 := by decide +kernel

/-- (c) outage longer than safeAge, then a tick -/
def traceLongOutage : Trace := noObs [.restart, .mode (some 0), .write 0 [r 1 0, r 2 0], .adv 310,
  .write 1 [r 3 0], .adv 1810, .mode none, .tick]
/-- history: before 945541f the tick purged the rotated file before replaying it; now rows 1,2 are stored -/
theorem C07_long_outage_fixed :
    lostIn (cfgPre945 true) traceLongOutage 1 = true ∧ lostIn (cfgGen true) traceLongOutage 1 = false
      ∧ cnt (runO (cfgGen true) {} traceLongOutage).stored 1 = 1 := by decide +kernel

/-- (e) graceful shutdown: the purge hook runs before `ArrowBuffer.Close`, whose final flush fails -/
def traceShutdown : Trace := noObs [.restart, .write 0 [r 1 0], .mode (some 0), .shutdown 0]
theorem C07_eventually_witness_shutdown_purge : lostIn (cfgGen true) traceShutdown 1 = true := by decide +kernel

/-- (f) `Close()` drops the queued task (rows 3,4); the WAL has been purged -/
def traceCloseDrop : Trace := noObs [.restart, .hold, .write 0 [r 1 0, r 2 0], .write 0 [r 3 0, r 4 0], .shutdown 0]
theorem C07_eventually_witness_close_drops_queue : lostIn (cfgGen true) traceCloseDrop 3 = true := by decide +kernel

/-- (g) WAL channel full: the entry of row 3 is dropped, then the flush of its buffer fails -/
def traceWalDrop : Trace := noObs [.restart, .wpause, .write 0 [r 1 0], .write 1 [r 2 0], .mode (some 0),
  .write 0 [r 3 0], .wresume]
theorem C07_eventually_witness_wal_drop : lostIn (cfgGen true) traceWalDrop 3 = true := by decide +kernel

/-- (h) the failed rows sit in the ACTIVE file, periodic replay skips it and the tick still clears the flag -/
def traceFlagReset : Trace := noObs [.restart, .mode (some 0), .write 0 [r 1 0, r 2 0], .mode none, .adv 10, .tick,
  .adv 310, .write 1 [r 3 0], .adv 1810, .tick]
theorem C07_eventually_witness_flag_reset : lostIn (cfgGen true) traceFlagReset 1 = true := by decide +kernel

/-- (i) replay while the outage lasts: the file is deleted after re-buffering, the re-flush fails -/
def traceReplayOutage : Trace := noObs [.restart, .mode (some 0), .write 0 [r 1 0, r 2 0], .adv 310,
  .write 1 [r 3 0], .adv 10, .tick]
theorem C07_eventually_witness_replay_during_outage : lostIn (cfgGen true) traceReplayOutage 1 = true := by decide +kernel

-- non-vacuity of the carve-out: outage, rotation, replay by the tick — nothing lossy, row 1 ends in Parquet
example : carveLoss (cfgGen true) {} (noObs [.restart, .mode (some 0), .write 0 [r 1 0, r 2 0], .mode none,
    .adv 310, .write 1 [r 3 0], .adv 10, .tick]) = true := by decide +kernel
example : carveLoss (cfgGen true) {} traceShutdown = false := by decide +kernel

/-- time passing, stalling the WAL writer, parking the worker and switching the storage mode never lose
anything by themselves -/
theorem C07_eventually_benign_events (c : Cfg) (s : St) (obs : List Nat) (e : Ev)
    (he : (∃ d, e = .adv d) ∨ e = .hold ∨ e = .wpause ∨ (∃ m, e = .mode m)) (hs : Cov s) :
    Cov (step c s e obs) := by
  -- in each case the new state differs from `s` in fields `Cov` does not read
  rcases he with ⟨d, rfl⟩ | rfl | rfl | ⟨m, rfl⟩
  · exact hs
  · show Cov (if s.up then stepUp c (begin s obs 1) .hold else begin s obs 0)
    split <;> exact hs
  · show Cov (if s.up then stepUp c (begin s obs 1) .wpause else begin s obs 0)
    split <;> exact hs
  · exact hs

/-- mixed-format file (columnar entry of rows 1,2, row-format entry of rows 3,4, columnar entry of row 5),
flush failures, rotation; the tick's replay pass has its first callback invocation rejected -/
def traceReplayReject : Trace := noObs [.restart, .mode (some 0), .write 0 [r 1 0, r 2 0], .writeT true 1 [r 3 0, r 4 0],
  .adv 310, .write 0 [r 5 0], .mode none, .adv 10, .tickF 0]

/-- **a WAL file is deleted by a replay pass only if every entry of it was replayed**: after the rejected
columnar entry the later row / columnar entries are replayed, and the file — rows 1,2 included — is still
on disk (`RecoverWithOptions`: `allEntriesSucceeded` stays false) -/
theorem C07_replay_keeps_file_of_rejected_entry :
    cnt (filesRows (runO (cfgGen true) {} traceReplayReject).files) 1 = 1
      ∧ 0 < cntLS (runO (cfgGen true) {} traceReplayReject) 3
      ∧ lostIn (cfgGen true) traceReplayReject 1 = false := by decide +kernel

/-- the same at start-up recovery -/
theorem C07_restart_keeps_file_of_rejected_entry :
    cnt (filesRows (runO (cfgGen true) {} (noObs [.restart, .mode (some 0), .write 0 [r 1 0, r 2 0],
      .writeT true 1 [r 3 0, r 4 0], .crash, .mode none, .restartF 0])).files) 1 = 1 := by decide +kernel

/-! ## WAL disabled: a dropped write is not acknowledged -/

/-- a write path that reports the queue-full drop acknowledges only what it kept -/
theorem ack_kept {c : Cfg} {s : St} {path k : Nat} {rows : List Row} (hr : reportsOn c path = true)
    (ha : (writeP c s path k rows).lastAck = true) : (writeP c s path k rows).lastFull = false := by
  unfold writeP finishWrite at ha ⊢
  simp only [ackOf, hr, Bool.and_true, Bool.not_eq_true'] at ha
  simpa using ha

/-- **nowal_ack, FULL strength** (current tree, facts regenerated): for every configuration carrying the
generated facts with the WAL disabled, every state, every write path (0 generic columnar, 1 typed msgpack
decode, 2 `WriteTypedColumnarDirect`), every key and batch: a write that is acknowledged did not take the
queue-full arm of `tryEnqueueFlush`, i.e. its rows were buffered or handed to the flush queue. -/
theorem C07_nowal_ack (c : Cfg) (hf : c.facts = Arc.Generated.C07.facts) (hw : c.walOn = false)
    (s : St) (path k : Nat) (rows : List Row) (ha : (writeP c s path k rows).lastAck = true) :
    (writeP c s path k rows).lastFull = false := by
  have hrep : reportsOn c path = true := by
    unfold reportsOn reportsFull reportsFullTyped; rw [hf, hw]; split <;> decide
  exact ack_kept hrep ha

/-- the same for any facts that report the drop on that path -/
theorem C07_nowal_ack_of_reports (c : Cfg) (s : St) (path k : Nat) (rows : List Row) (hr : reportsOn c path = true)
    (ha : (writeP c s path k rows).lastAck = true) : (writeP c s path k rows).lastFull = false :=
  ack_kept hr ha

/-- (a) WAL disabled, queue saturated: rows 5,6 are dropped by `tryEnqueueFlush` -/
def traceNoWal : Trace := noObs [.restart, .hold, .write 0 [r 1 0, r 2 0], .write 0 [r 3 0, r 4 0], .write 0 [r 5 0, r 6 0]]

/-- pre-fix tree (before a6bcf98): the dropped write was acknowledged (204) and its rows exist nowhere;
current tree: the same write is refused -/
theorem C07_nowal_ack_prefix_witness :
    ((runO (cfgPre false) {} traceNoWal).lastAck = true ∧ (runO (cfgPre false) {} traceNoWal).lastFull = true
      ∧ lostIn (cfgPre false) traceNoWal 5 = true)
    ∧ ((runO (cfgGen false) {} traceNoWal).lastAck = false ∧ (runO (cfgGen false) {} traceNoWal).lastFull = true
      ∧ (runO (cfgGen false) {} traceNoWal).acked.contains 5 = false) := by decide +kernel

-- non-vacuity: acknowledged writes on the generic and on the typed path in the generated WAL-off configuration
example : (runO (cfgGen false) {} (noObs [.restart, .write 0 [r 1 0, r 2 0]])).lastAck = true
    ∧ (runO (cfgGen false) {} (noObs [.restart, .writeT true 0 [r 1 0, r 2 0]])).lastAck = true := by decide +kernel

/-- the typed path under saturation with the WAL disabled: refused, nothing acknowledged is lost -/
def traceNoWalTyped : Trace := noObs [.restart, .hold, .writeT false 0 [r 1 0, r 2 0], .writeT true 0 [r 3 0, r 4 0],
  .writeT false 0 [r 5 0, r 6 0], .writeT true 0 [r 7 0, r 8 0]]
theorem C07_nowal_ack_typed_paths :
    (runO (cfgGen false) {} traceNoWalTyped).lastAck = false
      ∧ (runO (cfgGen false) {} traceNoWalTyped).acked = [1, 2, 3, 4] := by decide +kernel

/-- a stalled storage write (flush deadline exceeded) on the worker path raises the flag like an error
does, so the tick replays the rows: stored exactly once -/
def traceStall : Trace := noObs [.restart, .stall, .write 0 [r 1 0, r 2 0], .adv 310, .write 1 [r 3 0, r 4 0],
  .mode none, .adv 10, .tick]
theorem C07_stall_flags_and_replays :
    (runO (cfgGen true) {} (traceStall.take 3)).flag = true
      ∧ cnt (runO (cfgGen true) {} traceStall).stored 1 = 1 := by decide +kernel

/-! ## what the small repairs buy (facts edited, same traces) -/

/-- the repair NOT applied (fix-1): purge after the buffer close, skipped while the flag is up; Close raises
the flag when it drops queued tasks -/
def Facts.repaired : Facts :=
  { Facts.current with shutdown := [.bufClose, .purgeAll, .walClose], purgeGuardedByFlag := true,
                       closeDropSetsFlag := true }

def cfgRep (wal : Bool) : Cfg := { cfgGen wal with facts := Facts.repaired }

/-- fix-1 would stop the shutdown losses (e) (f) — the kept WAL is replayed at restart (duplicates of what
had been stored); (h) (i) remain: they need the purge / delete-after-replay to depend on what reached Parquet -/
theorem C07_repairs_effect :
    lostIn (cfgRep true) traceShutdown 1 = false ∧ lostIn (cfgRep true) traceCloseDrop 3 = false
      ∧ lostIn (cfgRep true) traceFlagReset 1 = true ∧ lostIn (cfgRep true) traceReplayOutage 1 = true := by decide +kernel

end Arc.C07
