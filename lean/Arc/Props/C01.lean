import Arc.Proofs.C01.Main
import Arc.Model.C01.Float
import Arc.Generated.C01
/-!
# C01 — line-protocol points are stored exactly as written

Model: `Arc/Model/C01*.lean` (byte-level transcription of the parser, of BatchToColumnar and of
convertColumnsToTyped).  Spec: `Arc/Spec/C01.lean` (`Point`, `render` = InfluxDB escaping rules,
`denote`, `WF`).  Helper lemmas: `Arc/Proofs/C01/*.lean`.

FULL statement (false of the current source — kept here for reference):

    theorem C01_full : WFgen pf p = true → WFSpacing sp = true →
        parseLine pf now pr valid (render sp p) = some (denote pf now pr p)

where `WFgen` (below) only has the generator's exclusions of the property text (non-empty names, no
newline, no reserved `time`, no field named like a tag, unique keys).  It is refuted by
`C01_quote_witness` (a `"` inside a measurement / tag / key) and, as long as the source cuts keys
escape-unaware (`kvCutEscapeAware = false`), by `C01_keyeq_witness` (escaped `=` inside a tag/field
key), both inside `WFgen` (`C01_witnesses_in_class`).  `C01_line_carved` proves it
under the explicit decidable carve-outs `CarveQuote`, `CarveKeyEq`, `CarveBackslash`;
`C01_line_partial` is the same statement with the carve-outs folded into `WF` (`nameOK`, `keyOK`).
-/
namespace Arc.C01

/-! ## 0. the generator's class and the explicit carve-outs -/

def nameGen (s : Bytes) : Bool := !s.isEmpty && noNL s

/-- the generator's exclusions of the property text only: non-empty names, no newline, no reserved
`time`, unique keys, no field named like a tag, representable numbers -/
def WFgen (pf : Bytes → Option UInt64) (p : Point) : Bool :=
  nameGen p.meas && measHeadOK p.meas &&
  p.tags.all (fun t => nameGen t.1 && nameGen t.2 && !reserved t.1) &&
  p.fields.all (fun f => nameGen f.1 && WFVal pf f.2 && !reserved f.1) &&
  !p.fields.isEmpty &&
  decide (p.tags.map (·.1)).Nodup && decide (p.fields.map (·.1)).Nodup &&
  p.fields.all (fun f => !(p.tags.map (·.1)).contains f.1) &&
  WFTs p.ts

/-- measurement, tag keys, tag values, field keys -/
def names (p : Point) : List Bytes := p.meas :: (p.tags.flatMap (fun t => [t.1, t.2]) ++ p.fields.map (·.1))
def keys (p : Point) : List Bytes := p.tags.map (·.1) ++ p.fields.map (·.1)

/-- carve-out of finding quote-in-name -/
def CarveQuote (p : Point) : Bool := (names p).all (fun s => !s.contains cDQ)
/-- carve-out of finding key-escaped-equals; void once the source cuts escape-aware (regenerated fact) -/
def CarveKeyEq (p : Point) : Bool :=
  (keys p).all (fun s => Arc.Generated.C01.kvCutEscapeAware || !s.contains cEQ)
/-- line protocol has no escape for a backslash outside string field values -/
def CarveBackslash (p : Point) : Bool := (names p).all (fun s => !s.contains cBS)

theorem WF_of_carved {pf : Bytes → Option UInt64} {p : Point} (hg : WFgen pf p = true)
    (hq : CarveQuote p = true) (he : CarveKeyEq p = true) (hb : CarveBackslash p = true) : WF pf p = true := by
  -- `nameOK`/`keyOK` are `nameGen` and the carve-outs' tests: both sides unfold to the same atoms
  simp only [CarveQuote, CarveBackslash, CarveKeyEq, names, keys, List.all_cons, List.all_append, List.all_flatMap,
    List.all_map, List.all_nil, Bool.and_true, Bool.and_eq_true, List.all_eq_true, Bool.not_eq_true',
    Function.comp_def] at hq hb he
  simp only [WFgen, nameGen, Bool.and_eq_true, List.all_eq_true, Bool.not_eq_true', decide_eq_true_eq] at hg
  simp only [WF, nameOK, keyOK, Bool.and_eq_true, List.all_eq_true, Bool.not_eq_true', decide_eq_true_eq]
  obtain ⟨⟨⟨⟨⟨⟨⟨⟨g1, g2⟩, g3⟩, g4⟩, g5⟩, g6⟩, g7⟩, g8⟩, g9⟩ := hg
  exact ⟨⟨⟨⟨⟨⟨⟨⟨⟨⟨g1, hq.1⟩, hb.1⟩, g2⟩,
    fun t ht => ⟨⟨⟨⟨⟨(g3 t ht).1.1, (hq.2.1 t ht).1⟩, (hb.2.1 t ht).1⟩, he.1 t ht⟩,
      ⟨(g3 t ht).1.2, (hq.2.1 t ht).2⟩, (hb.2.1 t ht).2⟩, (g3 t ht).2⟩⟩,
    fun f hf => ⟨⟨⟨⟨⟨(g4 f hf).1.1, hq.2.2 f hf⟩, hb.2.2 f hf⟩, he.2 f hf⟩, (g4 f hf).1.2⟩, (g4 f hf).2⟩⟩,
    g5⟩, g6⟩, g7⟩, g8⟩, g9⟩

/-! ## 1. one point, one line -/

/-- **C01_line_partial.**  Every well-formed point (all escapable characters allowed: `,` ` ` `=` in
names and tag values, `"` `\` `,` ` ` `=` in string values, UTF-8 everywhere; all five field types;
optional timestamp over the whole int64 range; any legal spacing) is parsed by arc's
`parseLineWithPrecision` to exactly its denotation — for every precision, every value of the
`validUTF8` flag, every `ParseFloat` (`pf`).  Carve-outs (in `WF`): no `"`/`\` in names, no `=` in keys. -/
theorem C01_line_partial (pf : Bytes → Option UInt64) (now : Int) (pr : Prec) (valid : Bool)
    (sp : Spacing) (p : Point) (hw : WF pf p = true) (hs : WFSpacing sp = true) :
    parseLine pf now pr valid (render sp p) = some (denote pf now pr p) :=
  parseLine_render now pr valid hw hs

/-- **C01_line_carved.**  The same with the carve-outs spelled out: the generator's class `WFgen`
(exclusions of the property text only) minus the three decidable input classes `CarveQuote`
(finding quote-in-name), `CarveKeyEq` (finding key-escaped-equals), `CarveBackslash`. -/
theorem C01_line_carved (pf : Bytes → Option UInt64) (now : Int) (pr : Prec) (valid : Bool)
    (sp : Spacing) (p : Point) (hg : WFgen pf p = true) (hq : CarveQuote p = true) (he : CarveKeyEq p = true)
    (hb : CarveBackslash p = true) (hs : WFSpacing sp = true) :
    parseLine pf now pr valid (render sp p) = some (denote pf now pr p) :=
  parseLine_render now pr valid (WF_of_carved hg hq he hb) hs

/-! ## 2. batches: no drop, no merge, no split, order preserved -/

/-- a line of a request: a rendered point, or a comment / blank line -/
inductive Item
  | point (sp : Spacing) (p : Point)
  | other (l : Bytes)

def Item.text : Item → Bytes
  | .point sp p => render sp p
  | .other l => l

def Item.ok (pf : Bytes → Option UInt64) : Item → Prop
  | .point sp p => WF pf p = true ∧ WFSpacing sp = true
  | .other l => NoNL l ∧ (trimSpace l = [] ∨ (trimSpace l).head? = some cHash)

def Item.den (pf : Bytes → Option UInt64) (now : Int) (pr : Prec) : Item → Option Record
  | .point _ p => some (denote pf now pr p)
  | .other _ => none

theorem parseLine_other (pf : Bytes → Option UInt64) (now : Int) (pr : Prec) (valid : Bool) {l : Bytes}
    (h : trimSpace l = [] ∨ (trimSpace l).head? = some cHash) : parseLine pf now pr valid l = none := by
  rcases h with h | h <;> simp [parseLine, h]

theorem filterMap_map_congr {α β γ : Type} {f : β → Option γ} {g : α → β} {h : α → Option γ} {xs : List α}
    (H : ∀ x ∈ xs, f (g x) = h x) : (xs.map g).filterMap f = xs.filterMap h := by
  induction xs with
  | nil => rfl
  | cons a r ih =>
    rw [List.map_cons, List.filterMap_cons, List.filterMap_cons, H a List.mem_cons_self,
      ih fun x hx => H x (List.mem_cons_of_mem _ hx)]

/-- **C01_batch_partial.**  A request body made of well-formed points interleaved with comment and
blank lines, joined by `\n`, yields exactly the denotations of its points, in order: nothing is
dropped, merged or split (`ParseBatchWithPrecision`, whatever the UTF-8 pre-validation says). -/
theorem C01_batch_partial (pf : Bytes → Option UInt64) (now : Int) (pr : Prec) (valid : Bool)
    (items : List Item) (hok : ∀ it ∈ items, it.ok pf) :
    parseBatchInternal pf now pr valid (joinNL (items.map Item.text)) = items.filterMap (Item.den pf now pr) := by
  have key : ∀ x ∈ items, NoNL x.text ∧ parseLine pf now pr valid x.text = x.den pf now pr := fun x hx => by
    cases x with
    | point sp p => exact ⟨NoNL_render (hok _ hx).1 (hok _ hx).2, parseLine_render now pr valid (hok _ hx).1 (hok _ hx).2⟩
    | other l => exact ⟨(hok _ hx).1, parseLine_other pf now pr valid (hok _ hx).2⟩
  cases items with
  | nil => rfl
  | cons it rest =>
    rw [parseBatchInternal, splitNL_joinNL ((it :: rest).map Item.text) (List.cons_ne_nil _ _)
      (List.forall_mem_map.mpr fun x hx => (key x hx).1)]
    -- stated without `∘`, so that the unifier is not tempted to unfold `parseLine`
    exact filterMap_map_congr fun x hx => (key x hx).2

/-- the same for the exported entry point -/
theorem C01_batch_entry (pf : Bytes → Option UInt64) (now : Int) (pr : Prec)
    (items : List Item) (hok : ∀ it ∈ items, it.ok pf) :
    parseBatch pf now pr (joinNL (items.map Item.text)) = items.filterMap (Item.den pf now pr) :=
  C01_batch_partial pf now pr _ items hok

/-- the number of stored records is the number of points -/
theorem C01_batch_count (pf : Bytes → Option UInt64) (now : Int) (pr : Prec)
    (ps : List (Spacing × Point)) (hok : ∀ x ∈ ps, WF pf x.2 = true ∧ WFSpacing x.1 = true) :
    (parseBatch pf now pr (joinNL (ps.map fun x => render x.1 x.2))).length = ps.length := by
  have h := C01_batch_entry pf now pr (ps.map fun x => Item.point x.1 x.2) fun it hit => by
    obtain ⟨x, hx, rfl⟩ := List.mem_map.mp hit; exact hok x hx
  rw [List.map_map, List.filterMap_map] at h
  exact (congrArg List.length h).trans (by simp [Function.comp_def, Item.den])

/-! ## 3. witnesses of the confirmed deviations (concrete inputs, evaluated by the kernel) -/

def pf0 : Bytes → Option UInt64 := fun _ => none

/-- `m,a\=b=c f=1i` : tag key `a=b`, value `c` -/
def pKeyEq : Point :=
  { meas := [109], tags := [([97, 61, 98], [99])], fields := [([102], .int false [49])], ts := none }

/-- **C01_keyeq_witness** (finding key-escaped-equals).  While the source cuts at the first `=`
escape-unaware (`kvCutEscapeAware = false`, regenerated), the tag is stored as key `a\` value `b=c`. -/
theorem C01_keyeq_witness :
    render {} pKeyEq = [109, 44, 97, 92, 61, 98, 61, 99, 32, 102, 61, 49, 105] ∧
    (Arc.Generated.C01.kvCutEscapeAware = false →
      parseLine pf0 7 .ns true (render {} pKeyEq) =
        some { meas := [109], tags := [([97, 92], [98, 61, 99])], fields := [([102], .i64 1)], ts := 7 } ∧
      parseLine pf0 7 .ns true (render {} pKeyEq) ≠ some (denote pf0 7 .ns pKeyEq)) := by
  decide +kernel

/-- … and once the cut is escape-aware the same inputs are parsed to their denotation (then `WF`
no longer excludes `=` in keys and `C01_line_partial` covers them in general) -/
theorem C01_keyeq_fixed :
    Arc.Generated.C01.kvCutEscapeAware = true →
      parseLine pf0 7 .ns true (render {} pKeyEq) = some (denote pf0 7 .ns pKeyEq) ∧
      WF pf0 pKeyEq = true := by
  decide +kernel

/-- `m f\=g=1i` : field key `f=g` -/
def pKeyEqField : Point :=
  { meas := [109], tags := [], fields := [([102, 61, 103], .int false [49])], ts := none }

theorem C01_keyeq_field_witness :
    Arc.Generated.C01.kvCutEscapeAware = false →
      parseLine pf0 7 .ns true (render {} pKeyEqField) ≠ some (denote pf0 7 .ns pKeyEqField) := by
  decide +kernel

/-- `m,k=a"b f=1i 5` : tag value `a"b` -/
def pQuote : Point :=
  { meas := [109], tags := [([107], [97, 34, 98])], fields := [([102], .int false [49])],
    ts := some ⟨false, [53]⟩ }

/-- **C01_quote_witness** (finding quote-in-name).  The point is dropped. -/
theorem C01_quote_witness :
    render {} pQuote = [109, 44, 107, 61, 97, 34, 98, 32, 102, 61, 49, 105, 32, 53] ∧
    parseLine pf0 7 .ns true (render {} pQuote) = none := by
  decide +kernel

/-- the two refuting inputs are in the generator's class: only the carve-outs exclude them -/
theorem C01_witnesses_in_class :
    WFgen pf0 pKeyEq = true ∧ (Arc.Generated.C01.kvCutEscapeAware = false → CarveKeyEq pKeyEq = false) ∧
    WFgen pf0 pQuote = true ∧ CarveQuote pQuote = false := by decide +kernel

/-- **C01_strbs_witness** (finding string-value-backslash-unescaped).  `m f="a\,b"` — in line
protocol a backslash inside a string value escapes only `"` and `\`, so the value is the four bytes
`a\,b`; arc stores `a,b`.  (`render` always writes `\\`, so this input is outside its image.) -/
theorem C01_strbs_witness :
    Arc.Generated.C01.stringUnescapeSet = Arc.Generated.C01.unescapeSet →
    parseLine pf0 7 .ns true [109, 32, 102, 61, 34, 97, 92, 44, 98, 34] =
      some { meas := [109], tags := [], fields := [([102], .str [97, 44, 98])], ts := 7 } := by
  decide +kernel

/-- … and with the string-only escape set (`\"`, `\\`) the backslash stays: `a\,b` -/
theorem C01_strbs_fixed :
    Arc.Generated.C01.stringUnescapeSet = [34, 92] →
    parseLine pf0 7 .ns true [109, 32, 102, 61, 34, 97, 92, 44, 98, 34] =
      some { meas := [109], tags := [], fields := [([102], .str [97, 92, 44, 98])], ts := 7 } := by
  decide +kernel

/-- **C01_mixed_witness** (finding mixed-type-coerced-lossy).  A field that is `1i` in the first
point and `1.5` in the second of the same batch becomes an int64 column holding 1 and 1. -/
theorem C01_mixed_witness :
    convertCol Float.toInt64 Float.ofInt [102]
        [some (.i64 1), some (.f64 0x3FF8000000000000)] =
      some (some { data := .i64 [1, 1], validity := none }) := by
  decide +kernel

/-- (observation, not flagged) doubled backslashes and `\"` in a tag value are collapsed -/
theorem C01_bs_collapse_witness :
    parseLine pf0 7 .ns true [109, 44, 107, 61, 97, 92, 92, 98, 32, 102, 61, 49, 105] =
      some { meas := [109], tags := [([107], [97, 92, 98])], fields := [([102], .i64 1)], ts := 7 } := by
  decide +kernel

/-! ## 4. timestamps: exactly what the code computes, over all of int64 -/

/-- Go's overflow guard `raw <= MaxInt64/k && raw >= MinInt64/k` (constant division, truncating) is
exact for every positive multiplier: it holds iff the product is an int64 -/
theorem guard_iff (k raw : Int) (hk : 0 < k) :
    (raw ≤ Int.tdiv maxI64 k ∧ raw ≥ Int.tdiv minI64 k) ↔ (minI64 ≤ raw * k ∧ raw * k ≤ maxI64) := by
  have h1 : Int.tdiv maxI64 k = maxI64 / k := Int.tdiv_eq_ediv_of_nonneg (by decide)
  have h2 : Int.tdiv minI64 k = -((-minI64) / k) := by
    rw [← Int.tdiv_eq_ediv_of_nonneg (by decide), ← Int.neg_tdiv, Int.neg_neg]
  have e1 : raw ≤ maxI64 / k ↔ raw * k ≤ maxI64 := Int.le_ediv_iff_mul_le hk
  have e2 : -raw ≤ (-minI64) / k ↔ -raw * k ≤ -minI64 := Int.le_ediv_iff_mul_le hk
  rw [Int.neg_mul, Int.neg_le_neg_iff] at e2
  rw [h1, h2, e1, ← e2]
  omega

/-- us: stored as written -/
theorem C01_ts_us (now raw : Int) : convTs now .us raw = raw := rfl

/-- ms: exact product whenever the product is an int64; otherwise (and only then) *now* -/
theorem C01_ts_ms (now raw : Int) :
    (minI64 ≤ raw * 1000 ∧ raw * 1000 ≤ maxI64 → convTs now .ms raw = raw * 1000) ∧
    (¬(minI64 ≤ raw * 1000 ∧ raw * 1000 ≤ maxI64) → convTs now .ms raw = now) :=
  ⟨fun h => if_pos ((guard_iff 1000 raw (by decide)).mpr h),
   fun h => if_neg (mt (guard_iff 1000 raw (by decide)).mp h)⟩

/-- s: likewise with 10^6 -/
theorem C01_ts_s (now raw : Int) :
    (minI64 ≤ raw * 1000000 ∧ raw * 1000000 ≤ maxI64 → convTs now .s raw = raw * 1000000) ∧
    (¬(minI64 ≤ raw * 1000000 ∧ raw * 1000000 ≤ maxI64) → convTs now .s raw = now) :=
  ⟨fun h => if_pos ((guard_iff 1000000 raw (by decide)).mpr h),
   fun h => if_neg (mt (guard_iff 1000000 raw (by decide)).mp h)⟩

/-- ns: Go's `/` truncates toward zero.  The result is within one microsecond of the instant, it is the
floor for every non-negative and every whole-microsecond value, and floor + 1 otherwise (negative
values are moved toward the epoch); it never overflows. -/
theorem C01_ts_ns (now raw : Int) :
    convTs now .ns raw = Int.tdiv raw 1000 ∧
    (0 ≤ raw ∨ raw % 1000 = 0 → convTs now .ns raw = raw / 1000) ∧
    (raw < 0 ∧ raw % 1000 ≠ 0 → convTs now .ns raw = raw / 1000 + 1) ∧
    (raw - 1000 < 1000 * convTs now .ns raw ∧ 1000 * convTs now .ns raw < raw + 1000) ∧
    (minI64 ≤ raw → raw ≤ maxI64 → minI64 ≤ convTs now .ns raw ∧ convTs now .ns raw ≤ maxI64) := by
  have key : convTs now .ns raw = raw / 1000 + if 0 ≤ raw ∨ (1000 : Int) ∣ raw then 0 else 1 :=
    Int.tdiv_eq_ediv
  refine ⟨rfl, ?_⟩
  generalize convTs now .ns raw = t at key ⊢
  unfold minI64 maxI64
  split at key <;> omega

/-- −1 ns is stored as 0 µs (floor would be −1 µs) -/
theorem C01_ts_ns_negative_witness : convTs 0 .ns (-1) = 0 ∧ (-1 : Int) / 1000 = -1 := by decide +kernel

/-! ## 5. columnar grouping -/

/-- records whose flat row has no colliding column names (what `denote` of a `WF` point is) -/
def Flat (r : Record) : Prop :=
  ((timeCol :: (r.tags.map (·.1) ++ r.fields.map (·.1)))).Nodup

def flat (r : Record) : List (Bytes × GoVal) :=
  (timeCol, GoVal.i64 r.ts) :: (r.tags.map (fun p => (p.1, GoVal.str p.2)) ++ r.fields)

/-- no `_value` renaming happens for a collision-free record -/
theorem rowAssigns_flat {r : Record} (h : Flat r) : rowAssigns r = flat r := by
  have hmap : ∀ p ∈ r.fields, (colName r p.1, p.2) = p := fun p hp => by
    have hk : r.tags.has p.1 = false := List.any_eq_false.mpr fun t ht htk =>
      (List.nodup_append.mp (List.nodup_cons.mp h).2).2.2 _ (List.mem_map_of_mem ht) _
        (List.mem_map_of_mem hp) (eq_of_beq htk)
    rw [colName, hk]; rfl
  rw [rowAssigns, flat, List.map_congr_left hmap, List.map_id']

theorem foldl_assign_skip {r : List (Bytes × GoVal)} {c : Bytes} (acc : Option GoVal)
    (hne : ∀ p ∈ r, p.1 ≠ c) :
    r.foldl (fun acc p => if p.1 == c then some p.2 else acc) acc = acc := by
  induction r generalizing acc with
  | nil => rfl
  | cons b t ih =>
    rw [List.foldl_cons, if_neg fun h => hne b List.mem_cons_self (eq_of_beq h)]
    exact ih acc fun p hp => hne p (List.mem_cons_of_mem _ hp)

theorem lastAssign_nodup {as : List (Bytes × GoVal)} (h : (as.map (·.1)).Nodup) {c : Bytes} {v : GoVal}
    (hm : (c, v) ∈ as) : lastAssign as c = some v := by
  obtain ⟨l, r, rfl⟩ := List.append_of_mem hm
  rw [lastAssign, List.foldl_append, List.foldl_cons, if_pos (beq_self_eq_true c)]
  rw [List.map_append, List.map_cons, List.nodup_append, List.nodup_cons] at h
  exact foldl_assign_skip _ fun p hp hpc => h.2.1.1 (List.mem_map.mpr ⟨p, hp, hpc⟩)

/-- **C01_columnar_cell.**  In the column `c` the row of a collision-free record holds exactly the
record's own value for `c` (tag value as string, typed field value, timestamp under `time`). -/
theorem C01_columnar_cell (r : Record) (h : Flat r) (c : Bytes) (v : GoVal) (hm : (c, v) ∈ flat r) :
    cellOf r c = some v := by
  rw [cellOf, rowAssigns_flat h]
  refine lastAssign_nodup ?_ hm
  rw [flat, List.map_cons, List.map_append, List.map_map]
  exact h

/-- … and null in every column the record has no value for -/
theorem C01_columnar_null (r : Record) (h : Flat r) (c : Bytes) (hc : c ∉ (flat r).map (·.1)) :
    cellOf r c = none := by
  rw [cellOf, rowAssigns_flat h]
  exact foldl_assign_skip none fun p hp hpc => hc (List.mem_map.mpr ⟨p, hp, hpc⟩)

/-- **C01_columnar_rows.**  The ColumnarRecord of a measurement has one row per record of that
measurement, in request order, and every column is the list of those records' cells: rows are neither
dropped, duplicated nor moved to another measurement. -/
theorem C01_columnar_rows (rs : List Record) (cr : ColRec) (h : cr ∈ batchToColumnar rs) :
    cr.n = (rs.filter (fun r => r.meas == cr.meas)).length ∧
    ∀ col ∈ cr.cols, col.2 = (rs.filter (fun r => r.meas == cr.meas)).map (fun r => cellOf r col.1) := by
  obtain ⟨m, _, rfl⟩ := List.mem_map.mp h
  refine ⟨rfl, fun col hcol => ?_⟩
  obtain ⟨c, _, rfl⟩ := List.mem_map.mp hcol
  rfl

theorem dedup_spec (xs : List Bytes) : (dedup xs).Nodup ∧ ∀ x, x ∈ dedup xs ↔ x ∈ xs := by
  suffices H : ∀ acc : List Bytes, acc.Nodup →
      (xs.foldl (fun acc x => if acc.contains x then acc else acc ++ [x]) acc).Nodup ∧
      ∀ x, x ∈ xs.foldl (fun acc x => if acc.contains x then acc else acc ++ [x]) acc ↔ x ∈ acc ∨ x ∈ xs from
    ⟨(H [] .nil).1, fun x => ((H [] .nil).2 x).trans (by simp)⟩
  induction xs with
  | nil => exact fun acc h => ⟨h, fun x => by simp⟩
  | cons a r ih =>
    intro acc hacc
    rw [List.foldl_cons]
    split
    · next ha =>
      have ha : a ∈ acc := List.contains_iff_mem.mp ha
      refine ⟨(ih acc hacc).1, fun x => ((ih acc hacc).2 x).trans ?_⟩
      rw [List.mem_cons]
      exact ⟨Or.imp_right Or.inr, fun h => h.elim Or.inl (·.elim (· ▸ Or.inl ha) Or.inr)⟩
    · next ha =>
      have hnd : (acc ++ [a]).Nodup := List.nodup_append.mpr ⟨hacc, by simp,
        fun x hx y hy hxy => ha (List.contains_iff_mem.mpr (List.mem_singleton.mp hy ▸ hxy ▸ hx))⟩
      refine ⟨(ih _ hnd).1, fun x => ((ih _ hnd).2 x).trans ?_⟩
      rw [List.mem_append, List.mem_singleton, List.mem_cons, or_assoc]

/-- **C01_columnar_groups.**  Exactly one ColumnarRecord per measurement that occurs, none else. -/
theorem C01_columnar_groups (rs : List Record) :
    ((batchToColumnar rs).map (·.meas)).Nodup ∧
    ∀ m, m ∈ (batchToColumnar rs).map (·.meas) ↔ m ∈ rs.map (·.meas) := by
  have hm : (batchToColumnar rs).map (·.meas) = dedup (rs.map (·.meas)) := by
    rw [batchToColumnar, List.map_map]; exact List.map_id _
  rw [hm]; exact dedup_spec _

theorem countP_split (rs : List Record) {k : Bytes} {ks : List Bytes} (hk : k ∉ ks) :
    rs.countP (fun r => r.meas == k) + rs.countP (fun r => ks.contains r.meas) =
      rs.countP (fun r => (k :: ks).contains r.meas) := by
  induction rs with
  | nil => rfl
  | cons r t ih =>
    rw [List.countP_cons, List.countP_cons, List.countP_cons, ← ih, List.contains_cons]
    -- a record counts on one side at most, since `k ∉ ks`; the rest is arithmetic on `0` and `1`
    cases h1 : r.meas == k <;> cases h2 : ks.contains r.meas
    · rfl
    · rfl
    · exact Nat.add_right_comm ..
    · exact absurd (by simpa [← eq_of_beq h1] using h2) hk

theorem sum_counts (rs : List Record) {ks : List Bytes} (hnd : ks.Nodup) :
    (ks.map (fun k => (rs.filter (fun r => r.meas == k)).length)).sum =
      rs.countP (fun r => ks.contains r.meas) := by
  induction ks with
  | nil => simp
  | cons k t ih =>
    rw [List.nodup_cons] at hnd
    rw [List.map_cons, List.sum_cons, ih hnd.2, ← List.countP_eq_length_filter]
    exact countP_split rs hnd.1

/-- **C01_columnar_total.**  The row counts of all ColumnarRecords add up to the number of records:
as multisets, the rows of the request are partitioned by measurement. -/
theorem C01_columnar_total (rs : List Record) :
    ((batchToColumnar rs).map (·.n)).sum = rs.length := by
  have h := dedup_spec (rs.map (·.meas))
  have hm : (batchToColumnar rs).map (·.n) =
      (dedup (rs.map (·.meas))).map (fun k => (rs.filter (fun r => r.meas == k)).length) := by
    rw [batchToColumnar, List.map_map]; rfl
  rw [hm, sum_counts rs h.1, List.countP_eq_length_filter, List.filter_eq_self.mpr]
  exact fun r hr => List.contains_iff_mem.mpr ((h.2 _).mpr (List.mem_map.mpr ⟨r, hr, rfl⟩))

/-- the denotation of a well-formed point is collision-free, so the theorems above apply to it -/
theorem C01_denote_flat (pf : Bytes → Option UInt64) (now : Int) (pr : Prec) (p : Point) (hw : WF pf p = true) :
    Flat (denote pf now pr p) := by
  simp only [WF, Bool.and_eq_true, List.all_eq_true, Bool.not_eq_true', decide_eq_true_eq] at hw
  obtain ⟨⟨⟨⟨⟨⟨⟨⟨_, _⟩, h3⟩, h4⟩, _⟩, h6⟩, h7⟩, h8⟩, _⟩ := hw
  have hres : ∀ k : Bytes, reserved k = false → k ≠ timeCol := fun k hk h => by simp [reserved, h] at hk
  unfold Flat denote
  simp only [List.map_map, Function.comp_def]
  refine List.nodup_cons.mpr ⟨fun hmem => ?_, List.nodup_append.mpr ⟨h6, h7, fun a ha b hb hab => ?_⟩⟩
  · rcases List.mem_append.mp hmem with hmem | hmem <;> obtain ⟨t, ht, htk⟩ := List.mem_map.mp hmem
    · exact hres _ (h3 t ht).2 htk
    · exact hres _ (h4 t ht).2 htk
  · obtain ⟨f, hf, rfl⟩ := List.mem_map.mp hb
    exact Bool.false_ne_true ((h8 f hf).symm.trans (List.contains_iff_mem.mpr (hab ▸ ha)))

/-! ## 6. typing chokepoint: values and null positions are preserved for type-consistent columns -/

/-- all present cells are float64 -/
def allF64 (col : List (Option GoVal)) : Prop := ∀ c ∈ col, c = none ∨ ∃ b, c = some (.f64 b)
def allStr (col : List (Option GoVal)) : Prop := ∀ c ∈ col, c = none ∨ ∃ b, c = some (.str b)
def allBool (col : List (Option GoVal)) : Prop := ∀ c ∈ col, c = none ∨ ∃ b, c = some (.bool b)
def allI64 (col : List (Option GoVal)) : Prop := ∀ c ∈ col, c = none ∨ ∃ b, c = some (.i64 b)

def cellF64 : Option GoVal → UInt64 | some (.f64 b) => b | _ => 0
def cellStr : Option GoVal → Bytes | some (.str b) => b | _ => []
def cellBool : Option GoVal → Bool | some (.bool b) => b | _ => false
def cellI64 : Option GoVal → Int | some (.i64 b) => b | _ => 0

def validityOf (col : List (Option GoVal)) : Option (List Bool) :=
  if (col.map Option.isSome).all id then none else some (col.map Option.isSome)

theorem optAll_total {α β : Type} {f : α → Option β} (g : α → β) {xs : List α}
    (h : ∀ x ∈ xs, f x = some (g x)) : optAll f xs = some (xs.map g) := by
  induction xs with
  | nil => rfl
  | cons a r ih =>
    simp [optAll, h a (by simp), ih (fun x hx => h x (by simp [hx]))]

/-- the slow path on a column whose present cells all carry the constructor `mk` -/
theorem convSlow_total {β γ : Type} (zero : β) (conv : GoVal → Option β) (get : Option GoVal → β)
    (mk : γ → GoVal) (col : List (Option GoVal)) (h : ∀ c ∈ col, c = none ∨ ∃ b, c = some (mk b))
    (h0 : get none = zero) (h1 : ∀ b, conv (mk b) = some (get (some (mk b)))) :
    convSlow zero conv col = some (col.map get, validityOf col) := by
  rw [convSlow, optAll_total get fun c hc => by
    rcases h c hc with rfl | ⟨b, rfl⟩ <;> simp [cellConv, h0, h1]]
  rfl

theorem isEmpty_of_findSome {col : List (Option GoVal)} {v : GoVal} (hf : col.findSome? id = some v) :
    col.isEmpty = false := by
  cases col with
  | nil => cases hf
  | cons _ _ => rfl

/-- **C01_typed_f64 / str / bool / i64.**  A column (other than `time`) whose present cells all have
one type is stored with exactly those values, null exactly where the record had no value. -/
theorem C01_typed_f64 (f2i : UInt64 → Option Int) (i2f : Int → UInt64) (name : Bytes) (col : List (Option GoVal))
    (hn : (name == timeCol) = false) (b0 : UInt64) (hf : col.findSome? id = some (.f64 b0)) (h : allF64 col) :
    convertCol f2i i2f name col = some (some { data := .f64 (col.map cellF64), validity := validityOf col }) := by
  simp only [convertCol, isEmpty_of_findSome hf, Bool.false_eq_true, if_false, hf, hn]
  rw [convSlow_total 0 (toFloat64 i2f) cellF64 .f64 col h rfl fun _ => rfl]

theorem C01_typed_str (f2i : UInt64 → Option Int) (i2f : Int → UInt64) (name : Bytes) (col : List (Option GoVal))
    (hn : (name == timeCol) = false) (b0 : Bytes) (hf : col.findSome? id = some (.str b0)) (h : allStr col) :
    convertCol f2i i2f name col = some (some { data := .str (col.map cellStr), validity := validityOf col }) := by
  simp only [convertCol, isEmpty_of_findSome hf, Bool.false_eq_true, if_false, hf, hn]
  rw [convSlow_total [] _ cellStr .str col h rfl fun _ => rfl]

theorem C01_typed_bool (f2i : UInt64 → Option Int) (i2f : Int → UInt64) (name : Bytes) (col : List (Option GoVal))
    (hn : (name == timeCol) = false) (b0 : Bool) (hf : col.findSome? id = some (.bool b0)) (h : allBool col) :
    convertCol f2i i2f name col = some (some { data := .bool (col.map cellBool), validity := validityOf col }) := by
  simp only [convertCol, isEmpty_of_findSome hf, Bool.false_eq_true, if_false, hf, hn]
  rw [convSlow_total false _ cellBool .bool col h rfl fun _ => rfl]

theorem C01_typed_i64 (f2i : UInt64 → Option Int) (i2f : Int → UInt64) (name : Bytes) (col : List (Option GoVal))
    (hn : (name == timeCol) = false) (b0 : Int) (hf : col.findSome? id = some (.i64 b0)) (h : allI64 col) :
    convertCol f2i i2f name col = some (some { data := .i64 (col.map cellI64), validity := validityOf col }) := by
  simp only [convertCol, isEmpty_of_findSome hf, Bool.false_eq_true, if_false, hf, hn]
  rw [convSlow_total 0 (toInt64 f2i) cellI64 .i64 col h rfl fun _ => rfl]

/-! ## 7. facts regenerated from the current source -/

/-- what the proofs need from the regenerated escape sets of the current source: every character
`render` escapes is un-escaped again (`,` ` ` `=` in names; `"` `\` in string values), and nothing that
`render` leaves bare inside a name is treated as an escape target other than the five known ones -/
theorem C01_facts_escape :
    (isEsc cCM ∧ isEsc cSP ∧ isEsc cEQ ∧ isEsc cDQ ∧ isEsc cBS) ∧ (isEscStr cDQ ∧ isEscStr cBS) ∧
    Arc.Generated.C01.unescapeSet.all (fun n => [44, 32, 61, 34, 92].contains n) = true ∧
    Arc.Generated.C01.stringUnescapeSet.all (fun n => Arc.Generated.C01.unescapeSet.contains n) = true := by
  decide +kernel

theorem C01_facts_bytes :
    Arc.Generated.C01.escapeByte = cBS.toNat ∧ Arc.Generated.C01.quoteByte = cDQ.toNat ∧
    Arc.Generated.C01.lineDelim = cSP.toNat ∧ Arc.Generated.C01.commaDelim = cCM.toNat ∧
    Arc.Generated.C01.kvSeparator = cEQ.toNat ∧ Arc.Generated.C01.stringQuote = cDQ.toNat ∧
    Arc.Generated.C01.intSuffix = 105 ∧ Arc.Generated.C01.uintSuffix = 117 ∧
    Arc.Generated.C01.valueSuffix = Arc.C01.valueSuffix.map (·.toNat) ∧
    Arc.Generated.C01.timeColumn = Arc.C01.timeCol.map (·.toNat) := by decide +kernel

open Arc.Generated.C01 in
/-- the model's boolean spellings are those of `parseFieldValue` -/
theorem C01_facts_bool :
    (List.range 256).all (fun n => boolOf [UInt8.ofNat n] == boolBytes.lookup n) = true ∧
    boolWords = [(4, wTrue.map (·.toNat), true), (5, wFalse.map (·.toNat), false)] := by
  decide +kernel

/-- **C01_parser_stateless.**  The model describes `ParseBatchWithPrecision` as a function of its
arguments only.  That is a faithful description of a parser instance shared by concurrently served
requests (as `LineProtocolHandler.parser` is) only if the instance has nothing to carry from one call
to another: in the CURRENT source `LineProtocolParser` has no fields and no method assigns through
its receiver.  (A reusable scratch buffer on the parser would make concurrently parsed requests
overwrite each other's unescaped names — this obligation then fails, and the harness monitor
`concurrent-parse-differs:shared-parser` produces the failing interleaving.) -/
theorem C01_parser_stateless :
    Arc.Generated.C01.parserFields = [] ∧ Arc.Generated.C01.parserReceiverWrites = [] := ⟨rfl, rfl⟩

/-- consequently every request of a set of concurrently served requests is parsed as if alone:
the result for request `i` is `parseBatch` of its own bytes, whatever the other requests are -/
theorem C01_concurrent_independent (pf : Bytes → Option UInt64) (now : Int) (pr : Prec)
    (reqs : List Bytes) (i : Nat) (h : i < reqs.length) :
    (reqs.map (parseBatch pf now pr))[i]'(by simpa using h) = parseBatch pf now pr reqs[i] := by
  simp

/-- interpretation of the generated precision table -/
def convTsGen (arms : List (String × String × Int)) (dflt : Int) (now : Int) (label : String) (raw : Int) : Int :=
  match arms.find? (fun a => a.1 == label) with
  | some (_, kind, k) =>
    if kind == "id" then raw
    else if raw ≤ Int.tdiv maxI64 k ∧ raw ≥ Int.tdiv minI64 k then raw * k else now
  | none => Int.tdiv raw dflt

def Prec.label : Prec → String | .ns => "ns" | .us => "us" | .ms => "ms" | .s => "s"

open Arc.Generated.C01 in
/-- the model's `convTs` is the `switch precision` of the current source; the handler admits exactly
the four labels -/
theorem C01_facts_precision (now raw : Int) (p : Prec) :
    convTs now p raw = convTsGen precisionArms defaultDiv now p.label raw ∧
    handlerPrecisions = [Prec.ns, .us, .ms, .s].map Prec.label :=
  ⟨by cases p <;> rfl, rfl⟩

/-! ## 8. non-vacuity -/

def pfOne : Bytes → Option UInt64 := fun _ => some 0x3FF8000000000000

/-- a point using every escapable character: measurement `m ,x`, tag `k ,`=`v= ,é`, fields
`f ,`="a\"\\ ,=b", `g`=1.5, `h`=-42i, `u`=7u, `b`=TRUE, timestamp -1500 -/
def pAll : Point :=
  { meas := [109, 32, 44, 120],
    tags := [([107, 32, 44], [118, 61, 32, 44, 0xC3, 0xA9])],
    fields := [([102, 32, 44], .str [97, 34, 92, 32, 44, 61, 98]), ([103], .float [49, 46, 53]),
               ([104], .int true [52, 50]), ([117], .uint [55]), ([98], .bool true 4)],
    ts := some ⟨true, [49, 53, 48, 48]⟩ }

example : WF pfOne pAll = true ∧ WFSpacing { lead := [32, 9], sp1 := 2, sp2 := 1, trail := [13] } = true := by
  decide +kernel

example : parseLine pfOne 0 .ns true (render { lead := [32, 9], sp1 := 2, sp2 := 1, trail := [13] } pAll) =
    some { meas := [109, 32, 44, 120], tags := [([107, 32, 44], [118, 61, 32, 44, 0xC3, 0xA9])],
           fields := [([102, 32, 44], .str [97, 34, 92, 32, 44, 61, 98]), ([103], .f64 0x3FF8000000000000),
                      ([104], .i64 (-42)), ([117], .u64 7), ([98], .bool true)],
           ts := -1 } :=
  (C01_line_partial pfOne 0 .ns true _ pAll (by decide +kernel) (by decide +kernel)).trans (by decide +kernel)

example : Item.ok pfOne (.other [32, 35, 32, 99]) ∧ Item.ok pfOne (.other []) ∧ Item.ok pfOne (.point {} pAll) := by
  refine ⟨⟨?_, Or.inr (by decide +kernel)⟩, ⟨NoNL_nil, Or.inl (by decide +kernel)⟩, by decide +kernel, by decide +kernel⟩
  unfold NoNL; decide

example : Flat (denote pfOne 0 .ns pAll) := C01_denote_flat pfOne 0 .ns pAll (by decide +kernel)

example : allF64 [some (.f64 1), none, some (.f64 2)] := by
  intro c hc; simp at hc; rcases hc with h | h | h <;> simp [h]

end Arc.C01
