import Arc.Model.C03
import Arc.Generated.C03
import Arc.Proofs.C03.LTS
/-!
# C03 — accepted rows are flushed exactly once into their hour partition

Layer 1 (pure functions, unbounded sizes): `HourBucketID` is floor division (Int, wrap-aware int64,
BitVec 64); `groupByHour` partitions the row indices by hour; every path of `permuteByTime` yields a
sorted permutation and the 8-pass LSD radix path is stable; slice/applyPermutation move whole rows
(validity included); `mergeBatches` concatenates rows (sparse column = NULL); one flush writes files
that partition the task's rows by hour, each time-sorted.

Layer 2 (ArrowBuffer LTS): conservation invariant for every reachable state and `C03_full` for
quiescent states, for any number of writers/workers and any interleaving of critical sections,
under the explicit hypothesis `freshRun` (FreshNames: no two `storage.Write`s use the same path).
-/
namespace Arc.C03

/-- the model's constants are the ones factgen read from `arrow_writer.go` (and the body of
`HourBucketID`, the bias mask and the 8×8-bit pass structure have the shape the model encodes —
factgen fails otherwise) -/
theorem C03_constants_tied :
    Arc.Generated.C03.microPerHour = microPerHour ∧
    Arc.Generated.C03.radixSkipThreshold = radixSkipThreshold ∧
    Arc.Generated.C03.radixBiasMask = 2 ^ 63 ∧
    Arc.Generated.C03.radixKeyBits = 8 * Arc.Generated.C03.radixDigitBits ∧
    2 ^ Arc.Generated.C03.radixDigitBits = Arc.Generated.C03.radixBuckets ∧
    Arc.Generated.C03.radixBuckets = 256 := by decide +kernel

/-- **floor division, all integers** (negative = pre-1970 included). -/
theorem C03_hour_floor (t : Int) : hourBucketID t = t / 3600000000 := hourBucketID_floor t

/-- the row's timestamp lies inside the hour its bucket denotes -/
theorem C03_hour_contains (t : Int) :
    hourBucketID t * 3600000000 ≤ t ∧ t < (hourBucketID t + 1) * 3600000000 := by
  rw [hourBucketID_floor]; omega

/-- **wrap-aware**: on every int64 input the machine computation (each intermediate result wrapped
to 64 bits) equals floor division — nothing overflows inside `HourBucketID`. -/
theorem C03_hour_floor_int64 (t : Int) (h : inI64 t) : hourBucketID64 t = t / 3600000000 := by
  rw [hourBucketID64_eq h, hourBucketID_floor]

/-- **BitVec 64** statement: `sdiv`/`srem`/`slt`/`-` on machine words. -/
theorem C03_hour_floor_bitvec (t : BitVec 64) : (hourBucketBV t).toInt = t.toInt / 3600000000 :=
  hourBucketBV_floor t

/-- `hourIDToTime` (`hourID * microPerHour` in int64) is exact unless the timestamp is in the lowest,
partial hour of the int64 range … -/
theorem C03_hour_start_no_wrap (t : Int) (h : inI64 t) (hlo : -(2 ^ 63) + 3600000000 ≤ t) :
    hourStartMicro64 (hourBucketID t) = hourBucketID t * 3600000000 :=
  hourStart_no_wrap t h hlo

/-- … where it wraps (year −290308; outside any calendar the path format can print). -/
theorem C03_hour_start_wrap_witness :
    hourStartMicro64 (hourBucketID (-(2 ^ 63))) ≠ hourBucketID (-(2 ^ 63)) * 3600000000 := by decide +kernel

example : hourBucketID (-1) = -1 ∧ hourBucketID (-3600000000) = -1 ∧ hourBucketID (-3600000001) = -2 ∧
    hourBucketID 3599999999 = 0 := by decide +kernel

/-- **partition**: the buckets' index lists are a permutation of `0..n-1` (every row in exactly one
bucket), every index sits in the bucket of its own timestamp's hour, bucket keys are distinct and
each bucket lists its rows in arrival order. -/
theorem C03_group_partition (times : List Int) :
    ((groupByHour times).flatMap (·.2)).Perm (List.range times.length) ∧
    (∀ p ∈ groupByHour times, ∀ j ∈ p.2, ∃ t, times[j]? = some t ∧ t / 3600000000 = p.1) ∧
    ((groupByHour times).map (·.1)).Nodup ∧
    (∀ p ∈ groupByHour times, p.2.Pairwise (· < ·)) := by
  have inv := groupByHour_inv times
  refine ⟨inv.perm, ?_, inv.keys, inv.asc⟩
  intro p hp j hj
  obtain ⟨t, h1, h2⟩ := inv.hour p hp j hj
  exact ⟨t, h1, by rw [← hourBucketID_floor]; exact h2⟩

example : groupByHour [5, -1, 3600000000, -3600000001, 7] = [(0, [0, 4]), (-1, [1]), (1, [2]), (-2, [3])] := by
  decide +kernel

/-- **radix path: sorted, a permutation, and stable** — 8 stable counting passes over the sign-biased
key, by induction on passes; any length, any int64 timestamps. `StableSorted` = strictly increasing
in (timestamp, arrival position). -/
theorem C03_radix_sorted_perm_stable (times : List Int) (hr : ∀ t ∈ times, inI64 t) :
    StableSorted times (radixPermuteByTime times) ∧
    TimeSorted times (radixPermuteByTime times) ∧
    (radixPermuteByTime times).Perm (List.range times.length) :=
  ⟨(radix_stable times hr).1, (radix_stable times hr).1.timeSorted, (radix_stable times hr).2⟩

/-- the bias is what makes negatives sort first: it is strictly monotone from int64 to uint64 -/
theorem C03_bias_monotone (a b : Int) (ha : inI64 a) (hb : inI64 b) : bias a < bias b ↔ a < b :=
  bias_lt_iff ha hb

/-- without the bias the order is wrong (what the mutant "drop the sign flip" does) -/
theorem C03_bias_needed_witness :
    ¬ (((-1 : Int) % 2 ^ 64).toNat < ((0 : Int) % 2 ^ 64).toNat) ∧ bias (-1) < bias 0 := by decide +kernel

/-- **every path of `permuteByTime`** (already sorted → identity, comparison sort below
`radixSkipThreshold`, radix above): the permutation applied to the batch is a permutation of the
rows and puts the timestamps in non-decreasing order. -/
theorem C03_sort_sorted_perm (times : List Int) (hr : ∀ t ∈ times, inI64 t) :
    TimeSorted times (effPerm times) ∧ (effPerm times).Perm (List.range times.length) :=
  effPerm_sorted times hr

example : permuteByTime [1, 2, 2] = none ∧ radixPermuteByTime [5, -1, 5, -7] = [3, 1, 0, 2] := by
  decide +kernel

/-- **slice / applyPermutation preserve rows, validity included**: row `j` of the gathered batch is
row `ix[j]` of the source, cell by cell (value or NULL). -/
theorem C03_gather_rows (b : Batch) (ix : List Nat) (ht : HasTime b) :
    (b.gather ix).rows = ix.map b.rowAt := gather_rows b ix ht

/-- `sortTypedColumnBatchByKeys` under the default keys: same multiset of rows, time-sorted. -/
theorem C03_sort_preserves_rows (b : Batch) (ht : HasTime b) (hr : ∀ t ∈ b.times, inI64 t) :
    (sortBatch b).rows.Perm b.rows ∧ ((sortBatch b).rows.map (·.time)).Pairwise (· ≤ ·) :=
  sortBatch_spec b ht hr

/-- **merge preserves every value and every NULL**: the merged batch's rows are the concatenation,
in arrival order, of the buffered batches' rows; a column missing from a batch reads as NULL there.
(`WFB`: unique names, int64 `time` without NULLs, equal column lengths; `typeConflict = false` is
implied by equal column signatures, `goodGroup_noConflict`.) -/
theorem C03_merge_rows (bs : List Batch) (hwf : ∀ b ∈ bs, WFB b) (hnc : typeConflict bs = false)
    (m : Batch) (hm : mergeBatches bs = .ok m) : m.rows = bs.flatMap Batch.rows :=
  (merge_rows bs hwf hnc m hm).1

/-- a type change under one name inside a single merge makes `mergeBatches` fail (an error since
d29da22, a type-assertion panic before): the task's rows are not written — the
reason the column signature must be type-aware; reachable only through `_`-prefixed internal columns,
which the signature ignores -/
theorem C03_merge_type_conflict_witness :
    (match mergeBatches [⟨[("time", ⟨.i64, [.i 1], none⟩), ("_x", ⟨.i64, [.i 1], none⟩)]⟩,
                  ⟨[("time", ⟨.i64, [.i 2], none⟩), ("_x", ⟨.f64, [.f 0], none⟩)]⟩] with
      | .error .typeConflict => true | _ => false) = true ∧
    signature ⟨[("time", ⟨.i64, [.i 1], none⟩), ("_x", ⟨.i64, [.i 1], none⟩)]⟩ =
      signature ⟨[("time", ⟨.i64, [.i 2], none⟩), ("_x", ⟨.f64, [.f 0], none⟩)]⟩ := by decide +kernel

/-- **flush_files**: for a task (batches of one buffer: well-formed, one column signature) the files
written partition the task's rows by hour — multiset equality, so every value and NULL is kept and
nothing is duplicated — every row of a file lies in the file's hour, every file is in non-decreasing
time order, and no two files of the flush share an hour directory. If nothing is written the task
had no rows. -/
theorem C03_flush_files (l : List TBatch) (h : GoodGroup l) :
    (∀ fs, flushTask (l.map TBatch.b) = .ok fs →
        (fs.flatMap (fun f => f.batch.rows)).Perm ((l.map TBatch.b).flatMap Batch.rows) ∧
        (∀ f ∈ fs, (∀ r ∈ f.batch.rows, r.time / 3600000000 = f.hour) ∧
                   (f.batch.rows.map (·.time)).Pairwise (· ≤ ·)) ∧
        (fs.map (·.hour)).Nodup) ∧
    (∀ e, flushTask (l.map TBatch.b) = .error e → (l.map TBatch.b).flatMap Batch.rows = []) := by
  obtain ⟨h1, h2⟩ := flushTask_spec h
  refine ⟨?_, h2⟩
  intro fs hfs
  obtain ⟨a, b, c⟩ := h1 fs hfs
  refine ⟨a, ?_, c⟩
  intro f hf
  exact ⟨fun r hr => by rw [← hourBucketID_floor]; exact (b f hf).inHour r hr, (b f hf).sorted⟩

/-- The LTS treats `WriteParquetColumnar` + reader as faithful (trusted base). Before 7029960 that
assumption was **false** for some column-name pools: `ArrowWriter.getSchema` keyed its schema cache
with `%v` of the name list (`schemaCacheKey` below is that old format), which is not injective — two
different column sets of one measurement got the same key, the second flush was encoded against the
first schema and failed (`column a b not found in data`), and its accepted rows were not stored
(harness monitor `rows-lost:schema-cache-key-collision:getSchema`, kept as a regression probe). The
fix renders the lists with `%q`. This witness records why `%v` cannot be used. -/
theorem C03_schema_cache_collision_witness :
    schemaCacheKey "m" ["a b", "c", "time"] ["int64", "int64", "timestamp"] [] false =
      schemaCacheKey "m" ["a", "b c", "time"] ["int64", "int64", "timestamp"] [] false ∧
    (["a b", "c", "time"] : List String) ≠ ["a", "b c", "time"] := by decide +kernel

/-- **conservation, every reachable state**: for every sequence of events (= every interleaving of
the critical sections of any number of writers, workers, the age timer, FlushAll and Close) with
fresh file names, the accepted rows are exactly (as a multiset) the rows still buffered ⊎ extracted
⊎ queued ⊎ in flight ⊎ stored ⊎ given up (`dropped`: enqueue failed / queued at close — C07);
nothing is in `failed`. -/
theorem C03_invariant (maxBuf : Nat) (es : List Ev) (s : St)
    (hrun : run maxBuf {} es = some s) (hfresh : freshRun maxBuf {} es = true) :
    (acceptedRows s).Perm
      (bufRows s ++ heldRows s ++ queueRows s ++ inflightRows s ++ storedRows s ++ droppedRows s) ∧
    failedRows s = [] := by
  have hI := run_inv inv_init hrun hfresh
  refine ⟨?_, hI.failedE⟩
  simpa only [allRows, parts, List.flatten_cons, List.flatten_nil, hI.failedE, List.nil_append,
    List.append_nil, ← List.append_assoc] using hI.cons

/-- **C03_full**: in a quiescent state (nothing buffered, extracted, queued or being written — i.e.
after FlushAll/Close once the workers are idle) in which no task was given up (`dropped = []`: no
queue overflow, no task still queued at Close — C07's cases), every accepted row is stored exactly
once (multiset equality of (key, row) with every value and NULL), every stored file sits in the
directory of its own key and of the hour that contains **all** its rows' timestamps (floor division,
pre-1970 included), and every file is in non-decreasing time order. Any number of writers, any
interleaving. Hypothesis `freshRun` = FreshNames. -/
theorem C03_full (maxBuf : Nat) (es : List Ev) (s : St)
    (hrun : run maxBuf {} es = some s) (hfresh : freshRun maxBuf {} es = true)
    (hq : quiescent s = true) (hd : s.dropped = []) :
    (storedRows s).Perm (acceptedRows s) ∧
    ∀ q ∈ s.files, q.1.key = q.2.key ∧ q.1.hour = q.2.hour ∧
      (∀ r ∈ q.2.batch.rows, r.time / 3600000000 = q.1.hour) ∧
      (q.2.batch.rows.map (·.time)).Pairwise (· ≤ ·) := by
  have hI := run_inv inv_init hrun hfresh
  unfold quiescent at hq
  simp only [Bool.and_eq_true, List.isEmpty_iff] at hq
  obtain ⟨⟨⟨q1, q2⟩, q3⟩, q4⟩ := hq
  constructor
  · simpa [allRows, parts, bufRows, heldRows, queueRows, inflightRows, droppedRows, q1, q2, q3, q4, hd,
      hI.failedE] using hI.cons.symm
  · intro q hq
    obtain ⟨h1, h2, h3⟩ := hI.filesOK q hq
    refine ⟨h2, h3, ?_, h1.sorted⟩
    intro r hr
    rw [← hourBucketID_floor, h3]
    exact h1.inHour r hr

/-! ## non-vacuity and what happens outside the hypotheses -/

/-- to exhibit the result of a partial computation together with decidable facts about it, evaluate
the computation once -/
theorem exists_of_get {α : Type} {p : α → Prop} (o : Option α) (h : ∃ h : o.isSome, p (o.get h)) :
    ∃ s, o = some s ∧ p s :=
  let ⟨h, hp⟩ := h
  ⟨_, (Option.some_get h).symm, hp⟩

def ex_b1 : Batch := ⟨[("time", ⟨.i64, [.i 7200000001, .i (-1), .i 5], none⟩),
                        ("v", ⟨.f64, [.f 1, .f 0, .f 3], some [true, false, true]⟩)]⟩
def ex_b2 : Batch := ⟨[("time", ⟨.i64, [.i 3], none⟩), ("v", ⟨.f64, [.f 9], none⟩)]⟩
def ex_b3 : Batch := ⟨[("time", ⟨.i64, [.i 4], none⟩), ("v", ⟨.i64, [.i 9], none⟩)]⟩

/-- two writers on one key, a size-triggered async flush spanning three hours (one pre-1970), a
type change forcing a schema flush, FlushAll — ends quiescent with nothing dropped. -/
def ex_trace_ok : List Ev :=
  [.write "db/m" ⟨0, ex_b1⟩, .write "db/m" ⟨1, ex_b2⟩, .extract "db/m", .enqueue 0, .take 0,
   .write "db/m" ⟨2, ex_b2⟩, .syncFlush .schema "db/m", .write "db/m" ⟨3, ex_b3⟩,
   .store 0 "a", .store 0 "b", .store 0 "c", .store 0 "d", .syncFlush .flushAll "db/m", .store 0 "e", .close]

example : ∃ s, run 4 {} ex_trace_ok = some s ∧ freshRun 4 {} ex_trace_ok = true ∧
    quiescent s = true ∧ s.dropped = [] ∧ s.files.length = 5 ∧ s.accepted.length = 4 := by
  apply exists_of_get
  decide +kernel

/-- **FreshNames is needed**: if two flushes of one partition get the same file name (same
`time.Now()` nanosecond), the second `storage.Write` overwrites the first file and its rows are gone:
the run below is quiescent with nothing dropped, yet fewer rows are stored than were accepted. -/
theorem C03_name_clash_witness :
    let es : List Ev := [.write "db/m" ⟨0, ex_b2⟩, .syncFlush .flushAll "db/m", .store 0 "same",
                         .write "db/m" ⟨1, ex_b2⟩, .syncFlush .flushAll "db/m", .store 0 "same"]
    ∃ s, run 100 {} es = some s ∧ freshRun 100 {} es = false ∧ quiescent s = true ∧ s.dropped = [] ∧
      (storedRows s).length = 1 ∧ (acceptedRows s).length = 2 := by
  apply exists_of_get
  decide +kernel

/-- Close with a task still queued: the LTS (like the code: workers exit on ctx cancellation, queued
tasks are never flushed) ends quiescent with the rows in `dropped` — excluded from `C03_full` by
`dropped = []`; this is C07's case. -/
theorem C03_close_drops_witness :
    let es : List Ev := [.write "db/m" ⟨0, ex_b2⟩, .extract "db/m", .enqueue 0, .close, .dropQueued 0]
    ∃ s, run 1 {} es = some s ∧ freshRun 1 {} es = true ∧ quiescent s = true ∧
      (storedRows s).length = 0 ∧ (acceptedRows s).length = 1 ∧ (droppedRows s).length = 1 := by
  apply exists_of_get
  decide +kernel

end Arc.C03
