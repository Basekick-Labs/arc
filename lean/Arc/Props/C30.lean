import Arc.Model.C30
import Arc.Generated.C30
/-!
# C30 — requests are served by a capable node after at most one forward

Property theorems `C30_*` over the model of `Arc/Model/C30.lean`.  The capability table, the roles the
registry getters compare against, the marker/strip lists and the headers `doForward` sets are the
REGENERATED facts of `Arc.Generated.C30`; the finite facts about them are discharged by evaluation
(so they are re-checked against the current source) and lifted by the lemmas below to registries,
header lists and clusters of any size.
-/
namespace Arc.C30
open Arc.Generated.C30

/-- Every role a registry getter selects as a forward target can serve what is forwarded to it:
writers (and the primary writer) ingest and query, readers query. -/
theorem C30_target_roles_capable :
    (caps writersRole).canIngest = true ∧ (caps writersRole).canQuery = true ∧
    (caps primaryRole).canIngest = true ∧ (caps readersRole).canQuery = true := by decide +kernel

/-- the value source of the last `Set` of key `k` in a list of `(key, source)` pairs, `acc` if the
list has none. -/
def lastSet : List (String × String) → String → Option String → Option String
  | [], _, acc => acc
  | ks :: rest, k, acc => lastSet rest k (if ks.1 == k then some ks.2 else acc)

/-- The last `Header.Set` of the marker in `doForward` takes its value from the local node id. -/
theorem C30_marker_set_from_local_id : lastSet forwardSets forwardedByHeader none = some "localID" := by
  decide +kernel

/-- Every header `doForward` sets, and the marker itself, is on the strip list of `BuildHTTPRequest`
(so a client copy can never sit next to, or instead of, the trusted value). -/
theorem C30_set_headers_are_stripped :
    stripped forwardedByHeader = true ∧ ∀ ks ∈ forwardSets, stripped ks.1 = true := by decide +kernel

/-- Every handler that forwards pairs the write decision with `RouteWrite` and the query decision with
`RouteQuery` (factgen also checks that neither case can fall through to `localProcessing`). -/
theorem C30_handler_sites_paired : ∀ s ∈ handlerSites,
    (s.2.1 = "WriteForwardDecision" ∧ s.2.2 = "RouteWrite") ∨
    (s.2.1 = "QueryForwardDecision" ∧ s.2.2 = "RouteQuery") := by decide +kernel

/-- **C30_route_reads_registry_each_call.** `RouteWrite` / `RouteQuery` resolve the target from the
registry getters on every call and the Router has no field in which a resolved target could be
remembered across calls: its only mutable routing state is the two round-robin counters and the
active-connection map.  This is what licenses the model's *stateless* `route` (a function of the
registry content at request time); a memoised target (new field, new helper, a getter moved out of
the route functions) changes these regenerated tables and breaks this proof. -/
theorem C30_route_reads_registry_each_call :
    routerFields = [("cfg", "*RouterConfig"), ("httpClient", "*http.Client"), ("logger", "zerolog.Logger"),
      ("readerIndex", "atomic.Uint64"), ("writerIndex", "atomic.Uint64"),
      ("activeConns", "map[string]*atomic.Int64"), ("activeConnsMu", "sync.RWMutex")] ∧
    routeWriteGetters = ["GetPrimaryWriter", "GetWriters"] ∧
    routeQueryGetters = ["GetReaders", "GetWriters"] ∧
    routeWriteUses = ["cfg", "logger", "selectWriter", "forwardRequest"] ∧
    routeQueryUses = ["cfg", "logger", "selectNode", "forwardRequest"] := ⟨rfl, rfl, rfl, rfl, rfl⟩

theorem role_mem_all (r : Role) : r ∈ Role.all := by cases r <;> decide

/-- The full decision table over the regenerated roles: with a router, a role that can serve the
request type decides `local` whatever the marker; one that cannot decides `alreadyForwarded` for a
marked request and `toPeer` for an unmarked one. -/
theorem C30_decision_table : ∀ r ∈ Role.all, ∀ isWrite ∈ [true, false],
    decideForward none isWrite "" = .local ∧ decideForward none isWrite "x" = .local ∧
    (canServe r isWrite = true →
      decideForward (some (some r)) isWrite "" = .local ∧ decideForward (some (some r)) isWrite "x" = .local) ∧
    (canServe r isWrite = false →
      decideForward (some (some r)) isWrite "" = .toPeer ∧
      decideForward (some (some r)) isWrite "x" = .alreadyForwarded) := by decide +kernel

/-- The registry members `RouteWrite` / `RouteQuery` choose among: the healthy primary writers
(resp. the healthy readers) if there are any, otherwise the healthy writers. -/
def targets (isWrite : Bool) (reg : List Node) : List Node :=
  match reg.filter (if isWrite then isPrimary else isReader) with
  | [] => reg.filter isWriter
  | c => c

theorem route_eq (isWrite : Bool) (loc : Option Role) (reg : List Node) :
    route isWrite loc reg =
      if canRouteLocally loc isWrite then .localCanHandle
      else if targets isWrite reg = [] then (if isWrite then .noWriter else .noReader)
      else .forward (targets isWrite reg) := by
  cases isWrite
  · simp only [route, routeQuery, targets, Bool.false_eq_true, if_false]
    split
    · rfl
    · cases reg.filter isReader <;> cases reg.filter isWriter <;> rfl
  · simp only [route, routeWrite, targets, if_true]
    split
    · rfl
    · cases reg.filter isPrimary <;> cases reg.filter isWriter <;> rfl

/-- The whole prologue as one cascade. `ErrLocalNodeCanHandle` does not occur in it: `RouteWrite` /
`RouteQuery` are only reached by a node that cannot serve the request. -/
theorem handle_eq (n : Node) (reg : List Node) (rq : Req) :
    handle n reg rq =
      if n.hasRouter = false ∨ canServe n.role rq.isWrite = true then .serveLocal
      else if getHeader rq.headers forwardedByHeader ≠ "" then .reject508
      else if targets rq.isWrite reg = [] then .unavailable rq.isWrite
      else .forwardTo (targets rq.isWrite reg) (outbound rq.headers rq.remoteAddr n.id rq.host) := by
  simp only [handle, routerOf, decideForward, route_eq, canRouteLocally]
  by_cases hr : n.hasRouter = true <;> by_cases hc : canServe n.role rq.isWrite = true <;> simp [hr, hc]
  by_cases hm : getHeader rq.headers forwardedByHeader = "" <;> simp [hm]
  by_cases ht : targets rq.isWrite reg = [] <;> simp [ht]
  cases rq.isWrite <;> rfl

/-- Every target is registered, healthy and of a role that serves the request type: the roles the
getters compare against are capable (`C30_target_roles_capable`). -/
theorem mem_targets {isWrite : Bool} {reg : List Node} {t : Node} (h : t ∈ targets isWrite reg) :
    t ∈ reg ∧ t.healthy = true ∧ canServe t.role isWrite = true := by
  have hcap := C30_target_roles_capable
  unfold targets at h
  split at h
  · obtain ⟨hreg, hw⟩ := List.mem_filter.mp h
    simp only [isWriter, Bool.and_eq_true, beq_iff_eq] at hw
    exact ⟨hreg, hw.2, by cases isWrite <;> simp [canServe, hw.1, hcap.1, hcap.2.1]⟩
  · obtain ⟨hreg, hw⟩ := List.mem_filter.mp h
    cases isWrite <;> simp only [isPrimary, isReader, Bool.false_eq_true, if_true, if_false,
      Bool.and_eq_true, beq_iff_eq] at hw
    · exact ⟨hreg, hw.2, by simp [canServe, hw.1, hcap.2.2.2]⟩
    · exact ⟨hreg, hw.2, by simp [canServe, hw.1.1, hcap.2.2.1]⟩

theorem targets_eq_nil {isWrite : Bool} {reg : List Node} (h : targets isWrite reg = []) :
    ∀ t ∈ reg, isWriter t = false ∧ (isWrite = false → isReader t = false) := by
  unfold targets at h
  split at h
  · rename_i h1
    intro t ht
    refine ⟨by simpa using List.filter_eq_nil_iff.mp h t ht, fun hw => ?_⟩
    subst hw
    simpa using List.filter_eq_nil_iff.mp h1 t ht
  · rename_i h1; exact absurd h (h1 ·)

theorem forward_inv {n : Node} {reg : List Node} {rq : Req} {cands : List Node} {out : Headers}
    (h : handle n reg rq = .forwardTo cands out) :
    canServe n.role rq.isWrite = false ∧ cands = targets rq.isWrite reg ∧ cands ≠ [] ∧
      out = outbound rq.headers rq.remoteAddr n.id rq.host := by
  rw [handle_eq] at h
  by_cases h1 : n.hasRouter = false ∨ canServe n.role rq.isWrite = true
  · rw [if_pos h1] at h; cases h
  by_cases h2 : getHeader rq.headers forwardedByHeader ≠ ""
  · rw [if_neg h1, if_pos h2] at h; cases h
  by_cases h3 : targets rq.isWrite reg = []
  · rw [if_neg h1, if_neg h2, if_pos h3] at h; cases h
  rw [if_neg h1, if_neg h2, if_neg h3] at h
  injection h with hc ho
  exact ⟨Bool.eq_false_iff.mpr (not_or.mp h1).2, hc.symm, hc ▸ h3, ho.symm⟩

theorem handle_marked (n : Node) (reg : List Node) (rq : Req)
    (hm : getHeader rq.headers forwardedByHeader ≠ "") :
    handle n reg rq = .serveLocal ∨ handle n reg rq = .reject508 := by
  rw [handle_eq]
  split
  · exact Or.inl rfl
  · exact Or.inr rfl

theorem mem_iff_valuesOf (hs : Headers) (p : String × String) : p ∈ hs ↔ p.2 ∈ valuesOf hs p.1 := by
  obtain ⟨a, b⟩ := p
  simp [valuesOf]

theorem getHeader_eq (hs : Headers) (k : String) : getHeader hs k = (valuesOf hs k).headD "" := by
  unfold getHeader valuesOf
  cases hs.filter (fun p => p.1 == k) <;> rfl

theorem valuesOf_set (hs : Headers) (k k' v : String) :
    valuesOf (setHeader hs k v) k' = if k == k' then [v] else valuesOf hs k' := by
  by_cases h : k = k'
  · simp [valuesOf, setHeader, List.filter_append, List.filter_filter, h]
  · have h' : ∀ p ∈ hs, (p.1 == k' && !(p.1 == k)) = (p.1 == k') := by
      intro p _
      by_cases hp : p.1 = k'
      · simp [hp, Ne.symm h]
      · simp [hp]
    simp [valuesOf, setHeader, List.filter_append, List.filter_filter, h, List.filter_congr h']

/-- per key, the `Set`s of `doForward` replace all values by the one of the last `Set` of that key. -/
theorem fold_values (ra id host k : String) :
    ∀ (sets : List (String × String)) (hs : Headers) (acc : Option String) (base : List String),
      valuesOf hs k = (match acc with | some s => [srcValue ra id host s] | none => base) →
      valuesOf (sets.foldl (setStep ra id host) hs) k =
        (match lastSet sets k acc with | some s => [srcValue ra id host s] | none => base)
  | [], _, _, _, h => h
  | ks :: rest, hs, acc, base, h => by
    apply fold_values ra id host k rest
    rw [setStep, valuesOf_set]
    split
    · rfl
    · exact h

theorem lastSet_cases (k : String) : ∀ (sets : List (String × String)) (acc : Option String),
    lastSet sets k acc = acc ∨ ∃ s, (k, s) ∈ sets ∧ lastSet sets k acc = some s
  | [], _ => Or.inl rfl
  | ks :: rest, acc => by
    rcases lastSet_cases k rest (if ks.1 == k then some ks.2 else acc) with h | ⟨s, hs, h⟩
    · by_cases hk : ks.1 = k
      · exact Or.inr ⟨ks.2, hk ▸ List.mem_cons_self .., by rw [lastSet, h, if_pos (beq_iff_eq.mpr hk)]⟩
      · exact Or.inl (by rw [lastSet, h, if_neg (by simpa using hk)])
    · exact Or.inr ⟨s, List.mem_cons_of_mem _ hs, h⟩

/-- the outbound values of a key: those of the last `Set` of that key in `doForward`, else what
`BuildHTTPRequest` let through. -/
theorem valuesOf_outbound (hs : Headers) (ra id host k : String) :
    valuesOf (outbound hs ra id host) k =
      match lastSet forwardSets k none with
      | some s => [srcValue ra id host s]
      | none => valuesOf (buildHeaders hs) k :=
  fold_values ra id host k forwardSets (buildHeaders hs) none _ rfl

/-- **C30_no_second_hop.** A request that carries the forwarded-by marker is never forwarded,
whatever the router, the local role and the request type. -/
theorem C30_no_second_hop (router : Option (Option Role)) (isWrite : Bool) (marker : String)
    (hm : marker ≠ "") : decideForward router isWrite marker ≠ .toPeer := by
  unfold decideForward
  split
  · simp
  · split
    · simp
    · simp [hm]

/-- … and so the whole handler prologue of a marked request never forwards it. -/
theorem C30_marked_never_forwarded (n : Node) (reg : List Node) (rq : Req)
    (hm : getHeader rq.headers forwardedByHeader ≠ "") :
    ∀ c o, handle n reg rq ≠ .forwardTo c o := by
  intro c o h
  rcases handle_marked n reg rq hm with h' | h' <;> simp [h'] at h

/-- **C30_marker_set.** Every forwarded request carries exactly one marker value, the forwarding
node's id, whatever the client sent (including its own copies of the marker). -/
theorem C30_marker_set (hs : Headers) (ra id host : String) :
    valuesOf (outbound hs ra id host) forwardedByHeader = [id] := by
  rw [valuesOf_outbound, C30_marker_set_from_local_id]
  rfl

/-- **C30_client_headers_stripped.** Any header of a stripped class (hop-by-hop, Content-Length, Host,
client forwarding/identity headers, the marker) on the outbound request was put there by `doForward`
itself from the socket peer address, the local node id or the request host — never copied from the
client's request. -/
theorem C30_client_headers_stripped (hs : Headers) (ra id host : String) (p : String × String)
    (hp : p ∈ outbound hs ra id host) (hs' : stripped p.1 = true) :
    ∃ s, (p.1, s) ∈ forwardSets ∧ p.2 = srcValue ra id host s := by
  rw [mem_iff_valuesOf, valuesOf_outbound] at hp
  rcases lastSet_cases p.1 forwardSets none with h | ⟨s, hmem, h⟩
  · rw [h, ← mem_iff_valuesOf, buildHeaders, List.mem_filter, hs'] at hp
    cases hp.2
  · rw [h] at hp
    exact ⟨s, hmem, List.mem_singleton.mp hp⟩

/-- End-to-end headers survive the forward (with their canonical key, in order of appearance). -/
theorem C30_other_headers_preserved (hs : Headers) (ra id host : String) (k v : String)
    (hp : (k, v) ∈ hs) (hk : stripped (canon k) = false) :
    (canon k, v) ∈ outbound hs ra id host := by
  rw [mem_iff_valuesOf, valuesOf_outbound]
  rcases lastSet_cases (canon k) forwardSets none with h | ⟨s, hmem, _⟩
  · rw [h, ← mem_iff_valuesOf, buildHeaders, List.mem_filter, hk]
    exact ⟨List.mem_map.mpr ⟨(k, v), hp, rfl⟩, rfl⟩
  · rw [C30_set_headers_are_stripped.2 _ hmem] at hk
    cases hk

/-- **C30_incapable_never_local.** With a router present, a node whose role cannot serve the request
type never processes it locally — whatever registry it sees and whatever headers the client sends
(this covers the handlers' `goto localProcessing` on `ErrLocalNodeCanHandle`, which is unreachable). -/
theorem C30_incapable_never_local (n : Node) (reg : List Node) (rq : Req)
    (hr : n.hasRouter = true) (hc : canServe n.role rq.isWrite = false) :
    handle n reg rq ≠ .serveLocal := by
  rw [handle_eq, if_neg (by simp [hr, hc])]
  split
  · nofun
  · split <;> nofun

/-! ### the same clause per registered route

Full statement (FALSE for the current source, kept visible):

    theorem C30_route_incapable_never_local (routed : Bool) (n : Node) (reg : List Node) (rq : Req)
        (hr : n.hasRouter = true) (hc : canServe n.role rq.isWrite = false) :
        handleRoute routed n reg rq ≠ .serveLocal

It fails for the routes whose handler has no routing prologue: `QueryHandler` serves
`POST /api/v1/query/arrow`, `POST /api/v1/query/estimate` and `GET /api/v1/query/:measurement`, and
`ImportHandler` serves `POST /api/v1/import/{csv,parquet,lp,tle}`, without ever consulting the router, so a
compactor executes those queries and a reader ingests those imports locally (confirmed on the real
handlers by the harness, finding keys `incapable-local:unrouted-endpoint:*`). -/

/-- **C30_route_incapable_never_local_partial.** The clause holds for every route whose handler carries
the routing prologue (carve-out: `routed = true`, decidable; the routed set is regenerated). -/
theorem C30_route_incapable_never_local_partial (routed : Bool) (n : Node) (reg : List Node) (rq : Req)
    (hrouted : routed = true) (hr : n.hasRouter = true) (hc : canServe n.role rq.isWrite = false) :
    handleRoute routed n reg rq ≠ .serveLocal := by
  subst hrouted
  simpa [handleRoute] using C30_incapable_never_local n reg rq hr hc

/-- The routes the regenerated table marks as reaching the prologue / not reaching it. -/
def routedRoutes : List (String × String) :=
  (routes.filter (fun r => r.2.2.2)).map (fun r => (r.1, r.2.1))
def unroutedRoutes : List (String × String) :=
  (routes.filter (fun r => !r.2.2.2)).map (fun r => (r.1, r.2.1))

/-- **C30_unrouted_routes_pinned.** The set of routes WITHOUT the prologue in the current source is
exactly this list: the seven data endpoints of the known finding plus statistics / health / spec /
flush / measurement-listing endpoints that neither ingest nor execute queries.  A newly added
unrouted route, or a prologue removed from a routed handler, changes the regenerated table and
breaks this proof. -/
theorem C30_unrouted_routes_pinned : unroutedRoutes = [
    ("ImportHandler", "GET /api/v1/import/stats"),
    ("ImportHandler", "POST /api/v1/import/csv"),
    ("ImportHandler", "POST /api/v1/import/lp"),
    ("ImportHandler", "POST /api/v1/import/parquet"),
    ("ImportHandler", "POST /api/v1/import/tle"),
    ("LineProtocolHandler", "GET /api/v1/write/line-protocol/health"),
    ("LineProtocolHandler", "GET /api/v1/write/line-protocol/stats"),
    ("LineProtocolHandler", "POST /api/v1/write/line-protocol/flush"),
    ("MsgPackHandler", "GET /api/v1/write/msgpack/spec"),
    ("MsgPackHandler", "GET /api/v1/write/msgpack/stats"),
    ("QueryHandler", "GET /api/v1/measurements"),
    ("QueryHandler", "GET /api/v1/query/:measurement"),
    ("QueryHandler", "POST /api/v1/query/arrow"),
    ("QueryHandler", "POST /api/v1/query/estimate"),
    ("TLEHandler", "GET /api/v1/write/tle/stats")] := rfl

/-- **C30_routed_routes_pinned.** … and these are the routes that do start with the prologue. -/
theorem C30_routed_routes_pinned : routedRoutes = [
    ("LineProtocolHandler", "POST /api/v1/write/line-protocol"),
    ("LineProtocolHandler", "POST /api/v2/write"),
    ("LineProtocolHandler", "POST /write"),
    ("MsgPackHandler", "POST /api/v1/write/msgpack"),
    ("QueryHandler", "POST /api/v1/query"),
    ("QueryHandler", "POST /api/v1/query/msgpack"),
    ("TLEHandler", "POST /api/v1/write/tle")] := rfl

/-- **C30_capable_serves_locally.** A node that can serve the request type (or has no router at all)
handles it itself; client-supplied forwarding headers have no effect on that. -/
theorem C30_capable_serves_locally (n : Node) (reg : List Node) (rq : Req)
    (h : n.hasRouter = false ∨ canServe n.role rq.isWrite = true) :
    handle n reg rq = .serveLocal := by
  rw [handle_eq, if_pos h]

/-- **C30_target_capable.** Every admissible forward target is a member of the forwarding node's
registry, healthy there, and of a role that can serve the request type; the set is never empty. -/
theorem C30_target_capable (n : Node) (reg : List Node) (rq : Req) (cands : List Node) (out : Headers)
    (h : handle n reg rq = .forwardTo cands out) :
    cands ≠ [] ∧ out = outbound rq.headers rq.remoteAddr n.id rq.host ∧
    ∀ t ∈ cands, t ∈ reg ∧ t.healthy = true ∧ canServe t.role rq.isWrite = true := by
  obtain ⟨_, rfl, hne, ho⟩ := forward_inv h
  exact ⟨hne, ho, fun _ => mem_targets⟩

/-- A forward never targets a node of the forwarder's own role (in particular not itself). -/
theorem C30_target_not_self (n : Node) (reg : List Node) (rq : Req) (cands : List Node) (out : Headers)
    (h : handle n reg rq = .forwardTo cands out) : ∀ t ∈ cands, t.role ≠ n.role := by
  obtain ⟨hinc, rfl, _, _⟩ := forward_inv h
  intro t ht heq
  rw [← heq, (mem_targets ht).2.2] at hinc
  exact Bool.noConfusion hinc

/-- **C30_forwarded_when_unmarked.** The "otherwise forwarded" clause, for requests whose inbound marker
is absent or empty (the documented behaviour: a client that *sends* the marker to an incapable node
gets 508): an incapable node with a router forwards whenever its registry holds a healthy node of a
role the router targets (writer for writes; reader or writer for queries). -/
theorem C30_forwarded_when_unmarked (n : Node) (reg : List Node) (rq : Req)
    (hr : n.hasRouter = true) (hc : canServe n.role rq.isWrite = false)
    (hm : getHeader rq.headers forwardedByHeader = "")
    (hpeer : ∃ t ∈ reg, isWriter t = true ∨ (rq.isWrite = false ∧ isReader t = true)) :
    ∃ cands, cands ≠ [] ∧
      handle n reg rq = .forwardTo cands (outbound rq.headers rq.remoteAddr n.id rq.host) := by
  have hne : targets rq.isWrite reg ≠ [] := by
    intro h0
    obtain ⟨t, htreg, ht⟩ := hpeer
    have := targets_eq_nil h0 t htreg
    rcases ht with ht | ht
    · exact absurd ht (by simp [this.1])
    · exact absurd ht.2 (by simp [this.2 ht.1])
  exact ⟨_, hne, by rw [handle_eq, if_neg (by simp [hr, hc]), if_neg (by simp [hm]), if_neg hne]⟩

/-! ## property theorems: composed over a cluster of any size

`World` places no bound on the number of nodes: `view`, `actual` and `pick` are arbitrary functions.
-/

theorem run_hops_ge (w : World) : ∀ (fuel : Nat) (n : Node) (rq : Req) (h0 : Nat),
    h0 ≤ (run w fuel n rq h0).hops := by
  intro fuel
  induction fuel with
  | zero => intro n rq h0; simp [run, Outcome.hops]
  | succ f ih =>
    intro n rq h0
    unfold run
    cases handle n (w.view n) rq with
    | forwardTo c o => exact Nat.le_trans (Nat.le_succ h0) (ih _ _ _)
    | _ => exact Nat.le_refl _

/-- **C30_hops_le_one.** In a cluster of any size, with arbitrary (even mutually inconsistent or
stale) registries, arbitrary target choice and arbitrary client headers, a request entering at a
node with a non-empty id is forwarded at most once — and the run terminates within two handler
invocations (never `outOfFuel` when given at least 2). -/
theorem C30_hops_le_one (w : World) (fuel : Nat) (n : Node) (rq : Req) (hid : n.id ≠ "") :
    (run w fuel n rq 0).hops ≤ 1 ∧ (2 ≤ fuel → ∀ h, run w fuel n rq 0 ≠ .outOfFuel h) := by
  cases fuel with
  | zero => exact ⟨Nat.zero_le _, fun h => by omega⟩
  | succ f =>
    unfold run
    cases hh : handle n (w.view n) rq with
    | forwardTo cands out =>
      have hout := (forward_inv hh).2.2.2
      have hmark : getHeader out forwardedByHeader = n.id := by
        rw [hout, getHeader_eq, C30_marker_set]; rfl
      simp only
      cases f with
      | zero => exact ⟨Nat.le_refl _, fun h => by omega⟩
      | succ f' =>
        unfold run
        have hm := handle_marked (w.actual (w.pick n rq cands)) (w.view (w.actual (w.pick n rq cands)))
          { rq with headers := out, remoteAddr := w.peerAddr n } (by simp only; rw [hmark]; exact hid)
        rcases hm with hm | hm <;> rw [hm] <;> exact ⟨Nat.le_refl _, fun _ _ => nofun⟩
    | _ => exact ⟨Nat.zero_le _, fun _ _ => nofun⟩

/-- **C30_served_by_capable.** Whoever ends up serving the request — after any number of handler
invocations — is a node whose role can serve that request type (or a node with no router at all,
i.e. not clustered). -/
theorem C30_served_by_capable (w : World) : ∀ (fuel : Nat) (n : Node) (rq : Req) (h0 : Nat) (m : Node) (k : Nat),
    run w fuel n rq h0 = .served m k → m.hasRouter = false ∨ canServe m.role rq.isWrite = true := by
  intro fuel
  induction fuel with
  | zero => intro n rq h0 m k h; cases h
  | succ f ih =>
    intro n rq h0 m k h
    unfold run at h
    cases hh : handle n (w.view n) rq with
    | serveLocal =>
      rw [hh] at h; simp only at h
      injection h with h1 _; subst h1
      refine Decidable.by_contra fun hn => ?_
      obtain ⟨hr, hc⟩ := not_or.mp hn
      exact C30_incapable_never_local n _ rq (by simpa using hr) (by simpa using hc) hh
    | forwardTo cands out =>
      rw [hh] at h
      exact ih _ { rq with headers := out, remoteAddr := w.peerAddr n } _ m k h
    | _ => rw [hh] at h; cases h

/-- **C30_one_forward_served.** With truthful role information (the process behind a registry record
has the role the record says) the whole path is: an incapable node that receives an unmarked request
and sees a targetable peer forwards it once, and the chosen peer — a healthy, capable member of the
forwarder's registry — serves it: exactly one hop, for every admissible choice. -/
theorem C30_one_forward_served (w : World) (fuel : Nat) (n : Node) (rq : Req)
    (hpick : ∀ a r l, l ≠ [] → w.pick a r l ∈ l)
    (htrue : ∀ m, (w.actual m).role = m.role)
    (hr : n.hasRouter = true) (hc : canServe n.role rq.isWrite = false)
    (hm : getHeader rq.headers forwardedByHeader = "")
    (hpeer : ∃ t ∈ w.view n, isWriter t = true ∨ (rq.isWrite = false ∧ isReader t = true)) :
    ∃ t ∈ w.view n, t.healthy = true ∧ canServe t.role rq.isWrite = true ∧
      run w (fuel + 2) n rq 0 = .served (w.actual t) 1 := by
  obtain ⟨cands, hne, hh⟩ := C30_forwarded_when_unmarked n (w.view n) rq hr hc hm hpeer
  obtain ⟨hreg, hhealthy, hcap⟩ := (C30_target_capable n _ rq cands _ hh).2.2 _ (hpick n rq cands hne)
  refine ⟨_, hreg, hhealthy, hcap, ?_⟩
  have hserve := C30_capable_serves_locally (w.actual (w.pick n rq cands)) (w.view (w.actual (w.pick n rq cands)))
    { rq with headers := outbound rq.headers rq.remoteAddr n.id rq.host, remoteAddr := w.peerAddr n }
    (Or.inr ((htrue _).symm ▸ hcap))
  simp only [run, hh, hserve]

/-! ## non-vacuity: the hypotheses are satisfiable on non-trivial concrete states

The receiving node's role is found by `decide` among the regenerated roles (`∃ r ∈ Role.all, …`), so a
benign edit of the capability table (say, compactors may query) does not invalidate the examples as
long as SOME role still cannot serve the request type. -/

def nd (id : String) (r : Role) : Node := { id := id, role := r, wstate := .none, healthy := true, hasRouter := true }
def exReader : Node := nd "r1" readersRole
def exWriterP : Node := { id := "w1", role := writersRole, wstate := .primary, healthy := true, hasRouter := true }
def exWriterS : Node := { id := "w2", role := writersRole, wstate := .standby, healthy := true, hasRouter := true }
def exWriterDown : Node := { id := "w3", role := writersRole, wstate := .primary, healthy := false, hasRouter := true }
def exOther : Node := nd "c1" .other
def exReg : List Node := [exOther, exWriterDown, exWriterS, exReader, exWriterP]
def exSpoof : Headers :=
  [("X-Arc-Forwarded-By", ""), ("X-Forwarded-For", "6.6.6.6"), ("X-Real-Ip", "6.6.6.6"),
   ("Connection", "close"), ("X-Arc-Database", "db1"), ("Via", "1.1 a"), ("Via", "1.1 b")]
def exWorld : World :=
  { view := fun _ => exReg, actual := id, pick := fun _ _ l => l.getLastD exOther, peerAddr := fun n => n.id }

/-- C30_no_second_hop / C30_marked_never_forwarded: a marked write at a node that cannot ingest is answered 508. -/
example : ∃ r ∈ Role.all, canServe r true = false ∧
    handle (nd "x1" r) exReg ⟨true, [("X-Arc-Forwarded-By", "evil")], "1.2.3.4", "h"⟩ = .reject508 := by decide +kernel
/-- C30_target_capable / C30_forwarded_when_unmarked / C30_marker_set / C30_client_headers_stripped:
an unmarked write (empty client marker, spoofed identity headers) at such a node is forwarded to the
healthy primary only, with the trusted marker and without the client's copies. -/
example : ∃ r ∈ Role.all, canServe r true = false ∧
    handle (nd "x1" r) exReg ⟨true, exSpoof, "1.2.3.4", "h"⟩ =
    .forwardTo [exWriterP] [("X-Arc-Database", "db1"), ("Via", "1.1 a"), ("Via", "1.1 b"),
      ("X-Forwarded-For", "1.2.3.4"), ("X-Arc-Forwarded-By", "x1"), ("X-Arc-Original-Host", "h")] := by
  decide +kernel
/-- C30_incapable_never_local with hypotheses met: a role that cannot query + router + query. -/
example : ∃ r ∈ Role.all, (nd "x1" r).hasRouter = true ∧ canServe r false = false ∧
    handle (nd "x1" r) exReg ⟨false, [], "1.2.3.4", "h"⟩ = .forwardTo [exReader] (outbound [] "1.2.3.4" "x1" "h") := by
  decide +kernel
/-- C30_capable_serves_locally: the marker is ignored on a capable node. -/
example : handle exWriterS exReg ⟨true, [("X-Arc-Forwarded-By", "evil")], "1.2.3.4", "h"⟩ = .serveLocal := by
  decide +kernel
/-- C30_hops_le_one / C30_one_forward_served / C30_served_by_capable on a five-node world. -/
example : ∃ r ∈ Role.all, canServe r true = false ∧
    run exWorld 5 (nd "x1" r) ⟨true, exSpoof, "1.2.3.4", "h"⟩ 0 = .served exWriterP 1 := by decide +kernel
example : ∃ r ∈ Role.all, canServe r false = false ∧
    run exWorld 5 (nd "x1" r) ⟨false, [], "1.2.3.4", "h"⟩ 0 = .served exReader 1 := by decide +kernel
/-- no targetable peer: 503, not a local attempt. -/
example : ∃ r ∈ Role.all, canServe r true = false ∧
    handle (nd "x1" r) [nd "x1" r, exWriterDown, exOther] ⟨true, [], "1.2.3.4", "h"⟩ = .unavailable true := by
  decide +kernel

/-- **C30_route_incapable_never_local_witness.** Counterexample to the full per-route statement: the
regenerated table contains an unrouted query route and an unrouted ingest route, and on an unrouted
route a node with a router whose role cannot serve the request type processes it locally. -/
theorem C30_route_incapable_never_local_witness :
    ("QueryHandler", "GET /api/v1/query/:measurement", "queryMeasurement", false) ∈ routes ∧
    ("ImportHandler", "POST /api/v1/import/lp", "handleLineProtocolImport", false) ∈ routes ∧
    (∃ r ∈ Role.all, (nd "x1" r).hasRouter = true ∧ canServe r false = false ∧
      handleRoute false (nd "x1" r) exReg ⟨false, [], "1.2.3.4", "h"⟩ = .serveLocal) ∧
    (∃ r ∈ Role.all, (nd "x1" r).hasRouter = true ∧ canServe r true = false ∧
      handleRoute false (nd "x1" r) exReg ⟨true, [], "1.2.3.4", "h"⟩ = .serveLocal) := by decide +kernel

/-- Only peers of the roles the registry getters select are ever targeted, whatever their capability:
a write arriving at an incapable node whose only peer has another role is answered 503. -/
theorem C30_untargeted_role_not_forwarded : ∀ r ∈ Role.all, ∀ p ∈ Role.all,
    canServe r true = false → p ≠ writersRole → p ≠ primaryRole →
    handle (nd "x1" r) [nd "x1" r, nd "p1" p] ⟨true, [], "1.2.3.4", "h"⟩ = .unavailable true := by decide +kernel

/-- Observation (not a violation of the safety clauses): in the current table there is a role — standalone —
that can ingest but is not targeted, so a reader that sees only a healthy standalone peer answers 503
instead of forwarding. `C30_forwarded_when_unmarked` is therefore stated for the roles the router
targets, not for every capable role. -/
theorem C30_standalone_peer_not_targeted_witness :
    ∃ r ∈ Role.all, ∃ p ∈ Role.all, canServe r true = false ∧ canServe p true = true ∧
      handle (nd "x1" r) [nd "x1" r, nd "p1" p] ⟨true, [], "1.2.3.4", "h"⟩ = .unavailable true := by decide +kernel

end Arc.C30
