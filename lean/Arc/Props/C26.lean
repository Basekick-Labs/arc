import Arc.Model.C26
import Arc.Generated.C26
import Arc.Base.Lists
/-!
# C26 — nonce-protected cluster requests cannot be replayed

The invariant is `Remembers k E`: the cache holds `k` with an expiry of at least `E`.  `Track` establishes
it with `E = now + ttl` when it accepts `k`, every `handle` before `E` keeps it and rejects `k`; two receipts
that are both fresh for one signed timestamp lie less than `2·tol + 1` seconds apart, so the replay comes
before `E` as soon as the retention covers that span.
-/
namespace Arc.C26

theorem lookup_setKey_self (es : List (String × Int)) (k : String) (v : Int) :
    (setKey es k v).lookup k = some v :=
  List.lookup_cons_self

theorem lookup_setKey_other {es : List (String × Int)} {k k' : String} {v : Int} (h : k' ≠ k) :
    (setKey es k v).lookup k' = es.lookup k' := by
  rw [setKey, List.lookup_cons, beq_false_of_ne h]
  exact lookup_filter _ k' es fun _ _ => by simpa using h

theorem lookup_evict {es : List (String × Int)} {k : String} {e now : Int}
    (h : es.lookup k = some e) (hlt : now < e) : (evict es now).lookup k = some e := by
  rw [evict, lookup_filter _ k es, h]
  intro v hv
  cases h.symm.trans hv
  simpa using hlt

def Remembers (k : String) (E : Int) (c : Cache) : Prop :=
  ∃ e, c.get k = some e ∧ E ≤ e

/-- an entry of the freshly written list that has not expired survives the lazy sweep -/
theorem inserted_get {ttl : Int} {c : Cache} {now : Int} {k k' : String} {e : Int}
    (h : (setKey c.entries k (now + ttl)).lookup k' = some e) (hlt : now < e) :
    (inserted ttl c now k).get k' = some e := by
  unfold inserted Cache.get
  split
  · exact lookup_evict h hlt
  · exact h

theorem track_accept_remembers {ttl : Int} (httl : 0 < ttl) {c : Cache} {now : Int} {k : String}
    (h : (track ttl c now k).2 = true) : Remembers k (now + ttl) (track ttl c now k).1 := by
  unfold track at h ⊢
  split
  · rw [if_pos ‹_›] at h; cases h
  · exact ⟨_, inserted_get (lookup_setKey_self ..) (by omega), Int.le_refl _⟩

theorem isDup_of_remembers {k : String} {E : Int} {c : Cache} {now : Int}
    (hR : Remembers k E c) (hnow : now < E) : isDup c now k = true := by
  obtain ⟨e, he, hE⟩ := hR
  simp only [isDup, he, decide_eq_true_eq]
  omega

theorem track_preserves (ttl : Int) {c : Cache} {now : Int} {k : String} (k' : String) {E : Int}
    (hR : Remembers k E c) (hnow : now < E) :
    Remembers k E (track ttl c now k').1 ∧ (k' = k → (track ttl c now k').2 = false) := by
  unfold track
  split
  · exact ⟨hR, fun _ => rfl⟩
  · have hk : k ≠ k' := fun h => ‹¬ _› (h ▸ isDup_of_remembers hR hnow)
    obtain ⟨e, he, hE⟩ := hR
    exact ⟨⟨e, inserted_get ((lookup_setKey_other hk).trans he) (by omega), hE⟩,
      fun h => absurd h.symm hk⟩

theorem handle_preserves (cfg : Cfg) {c : Cache} {ev : Ev} {k : String} {E : Int}
    (hR : Remembers k E c) (hnow : ev.now < E) :
    Remembers k E (handle cfg c ev).1 ∧ (ev.msg.key = k → (handle cfg c ev).2 ≠ .accepted) := by
  cases hf : fresh cfg.tolSec ev.now ev.msg.ts with
  | false => simp only [handle, hf]; exact ⟨hR, fun _ => nofun⟩
  | true =>
    cases hm : ev.msg.macOk with
    | false => simp only [handle, hf, hm]; exact ⟨hR, fun _ => nofun⟩
    | true =>
      have := track_preserves cfg.ttlNs ev.msg.key hR hnow
      simp only [handle, hf, hm]
      exact ⟨this.1, fun hk => by rw [this.2 hk]; nofun⟩

theorem handle_accepted {cfg : Cfg} {c : Cache} {e : Ev} (h : (handle cfg c e).2 = .accepted) :
    fresh cfg.tolSec e.now e.msg.ts = true ∧ (track cfg.ttlNs c e.now e.msg.key).2 = true ∧
    (handle cfg c e).1 = (track cfg.ttlNs c e.now e.msg.key).1 := by
  cases hf : fresh cfg.tolSec e.now e.msg.ts with
  | false => simp [handle, hf] at h
  | true =>
    cases hm : e.msg.macOk with
    | false => simp [handle, hf, hm] at h
    | true =>
      cases ht : (track cfg.ttlNs c e.now e.msg.key).2 with
      | false => simp [handle, hf, hm, ht] at h
      | true => simp [handle, hf, hm]

theorem fresh_iff (tol now ts : Int) :
    fresh tol now ts = true ↔ (now / 1000000000 - ts ≤ tol ∧ ts - now / 1000000000 ≤ tol) := by
  unfold fresh unixSec nsPerSec
  generalize now / 1000000000 = q
  simp only [Bool.not_eq_eq_eq_not, Bool.not_true, decide_eq_false_iff_not]
  split <;> omega

theorem fresh_window {tol now₁ now₂ ts : Int} (h₁ : fresh tol now₁ ts = true) (h₂ : fresh tol now₂ ts = true) :
    now₂ < now₁ + (2 * tol + 1) * nsPerSec := by
  rw [fresh_iff] at h₁ h₂
  unfold nsPerSec
  omega

theorem runState_remembers (cfg : Cfg) {k : String} {E : Int} (mid : List Ev) {c : Cache}
    (hR : Remembers k E c) (hmid : ∀ m ∈ mid, m.now < E) : Remembers k E (runState cfg c mid) := by
  induction mid generalizing c with
  | nil => exact hR
  | cons m ms ih =>
    simp only [runState]
    exact ih (handle_preserves cfg hR (hmid m List.mem_cons_self)).1
      fun m' hm' => hmid m' (List.mem_cons_of_mem _ hm')

/-- **C26_no_replay.** If the retention covers twice the tolerance plus the one second lost to the
second-granularity of signed timestamps, then a message accepted once is never accepted again —
for *every* starting cache (i.e. after any earlier traffic), every signed timestamp, every pair of
receipt times and any traffic in between that is handled no later than the replay. -/
theorem C26_no_replay (cfg : Cfg) (htol : 0 ≤ cfg.tolSec)
    (hsite : (2 * cfg.tolSec + 1) * nsPerSec ≤ cfg.ttlNs)
    (c : Cache) (e1 e2 : Ev) (mid : List Ev)
    (hsame : e2.msg.key = e1.msg.key ∧ e2.msg.ts = e1.msg.ts)
    (hmid : ∀ m ∈ mid, m.now ≤ e2.now)
    (hacc : (handle cfg c e1).2 = .accepted) :
    (handle cfg (runState cfg (handle cfg c e1).1 mid) e2).2 ≠ .accepted := by
  intro hacc2
  obtain ⟨hf1, htr, hst⟩ := handle_accepted hacc
  have hf2 := (handle_accepted hacc2).1
  rw [hsame.2] at hf2
  -- both fresh for the same signed timestamp ⇒ the replay arrives before the nonce expires
  have hlt : e2.now < e1.now + cfg.ttlNs :=
    Int.lt_of_lt_of_le (fresh_window hf1 hf2) (Int.add_le_add_left hsite _)
  have hR := track_accept_remembers (by unfold nsPerSec at hsite; omega) htr
  rw [← hst] at hR
  have hR' := runState_remembers cfg mid hR fun m hm => Int.lt_of_le_of_lt (hmid m hm) hlt
  exact (handle_preserves cfg hR' hlt).2 hsame.1 hacc2

/-- **C26_window.** A message whose signed timestamp is outside the tolerance is rejected and
leaves the cache untouched (it cannot burn a nonce slot). -/
theorem C26_window (cfg : Cfg) (c : Cache) (e : Ev)
    (h : cfg.tolSec < e.now / 1000000000 - e.msg.ts ∨ cfg.tolSec < e.msg.ts - e.now / 1000000000) :
    handle cfg c e = (c, .expired) := by
  have : fresh cfg.tolSec e.now e.msg.ts = false :=
    Bool.eq_false_iff.mpr fun hf => by rw [fresh_iff] at hf; omega
  simp [handle, this]

/-- **C26_badmac_inert.** A forged message never consumes a nonce slot. -/
theorem C26_badmac_inert (cfg : Cfg) (c : Cache) (e : Ev) (h : e.msg.macOk = false) :
    (handle cfg c e).1 = c := by
  simp only [handle, h, Bool.not_false, if_true]
  split <;> rfl

/-- **C26_sites.** Every (tolerance, retention) pair found in the *current source* satisfies the
side condition of `C26_no_replay`. `Arc.Generated.C26.sites` is regenerated from `/repo` on every
run, so this `decide` is re-checked against what the code says now. -/
theorem C26_sites : ∀ s ∈ Arc.Generated.C26.sites, SiteOk s.2.1 s.2.2 = true := by decide +kernel

/-- The model's lazy-sweep interval is the source's `nonceCacheEvictInterval` (regenerated fact). -/
theorem C26_evict_interval_tied : Arc.Generated.C26.evictIntervalNs = evictIntervalNs := by decide +kernel

/-- `SiteOk` is exactly the hypothesis of `C26_no_replay` for the configuration a site induces. -/
theorem C26_site_cfg (tolNs ttlNs : Int) (h : SiteOk tolNs ttlNs = true) (h0 : 0 ≤ tolNs) :
    let cfg : Cfg := { tolSec := tolNs / nsPerSec, ttlNs := ttlNs }
    0 ≤ cfg.tolSec ∧ (2 * cfg.tolSec + 1) * nsPerSec ≤ cfg.ttlNs := by
  exact ⟨Int.ediv_nonneg h0 (by decide), of_decide_eq_true h⟩

/-- **C26_tight_witness.** The side condition cannot be weakened: with retention equal to the tolerance
(what the code used before the fix) a future-dated message is accepted twice. -/
theorem C26_tight_witness :
    let cfg : Cfg := { tolSec := 300, ttlNs := 300 * nsPerSec }
    let m : Msg := { key := "n\x00abc", ts := 1300, macOk := true }
    let c0 : Cache := { entries := [], lastEvict := 0 }
    runOut cfg c0 [⟨1000 * nsPerSec, m⟩, ⟨1300 * nsPerSec, m⟩] = [.accepted, .accepted] := by
  decide +kernel

/-- … and even `2·tolerance` is one second short, because signed timestamps are whole seconds. -/
theorem C26_tight_witness_2tol :
    let cfg : Cfg := { tolSec := 300, ttlNs := 600 * nsPerSec }
    let m : Msg := { key := "n\x00abc", ts := 1300, macOk := true }
    let c0 : Cache := { entries := [], lastEvict := 0 }
    runOut cfg c0 [⟨1000 * nsPerSec, m⟩, ⟨1600 * nsPerSec + 999999999, m⟩] = [.accepted, .accepted] := by
  decide +kernel

/-- The hypotheses of `C26_no_replay` are satisfiable with a non-trivial history. -/
example :
    let cfg : Cfg := { tolSec := 300, ttlNs := 601 * nsPerSec }
    let m : Msg := { key := "n\x00abc", ts := 1300, macOk := true }
    let c0 : Cache := { entries := [("x", 5)], lastEvict := 0 }
    (handle cfg c0 ⟨1000 * nsPerSec, m⟩).2 = .accepted ∧
    (handle cfg (runState cfg (handle cfg c0 ⟨1000 * nsPerSec, m⟩).1
        [⟨1100 * nsPerSec, { key := "other", ts := 1100, macOk := true }⟩])
      ⟨1600 * nsPerSec + 999999999, m⟩).2 = .replay := by decide +kernel

end Arc.C26
