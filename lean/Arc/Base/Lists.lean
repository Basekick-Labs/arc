/-! Facts about core `List`, `Option` and `if` that several properties use: reading an `if` in a
hypothesis, association lists under `lookup`, lists extended at the end, and splitting at a separator.
Nothing here mentions a model. -/
namespace Arc

/-- Case analysis on an `if` in a hypothesis. `split at h` rewrites the whole hypothesis, which on the models'
terms costs ten to fifty times as much. -/
theorem ite_cases {α : Type} {c : Prop} [Decidable c] {a b r : α} (h : (if c then a else b) = r) :
    c ∧ a = r ∨ ¬ c ∧ b = r := by
  by_cases hc : c
  · exact .inl ⟨hc, (if_pos hc).symm.trans h⟩
  · exact .inr ⟨hc, (if_neg hc).symm.trans h⟩

theorem lookup_mem {α β : Type} [BEq α] [LawfulBEq α] {l : List (α × β)} {k : α} {v : β}
    (h : l.lookup k = some v) : (k, v) ∈ l := by
  obtain ⟨l₁, l₂, rfl, _⟩ := List.lookup_eq_some_iff.1 h
  exact List.mem_append_right _ List.mem_cons_self

/-- with unique keys, membership determines what `lookup` finds -/
theorem lookup_of_mem {α β : Type} [BEq α] [LawfulBEq α] {l : List (α × β)} (hn : (l.map Prod.fst).Nodup)
    {k : α} {v : β} (h : (k, v) ∈ l) : l.lookup k = some v := by
  induction l with
  | nil => cases h
  | cons p l ih =>
    obtain ⟨hp, hn⟩ := List.nodup_cons.mp hn
    rcases List.mem_cons.mp h with rfl | e
    · exact List.lookup_cons_self
    · have : (k == p.1) = false := beq_false_of_ne fun e' => hp (e' ▸ List.mem_map_of_mem (f := Prod.fst) e)
      rw [List.lookup_cons, this]; exact ih hn e

theorem lookup_none_iff {α β : Type} [BEq α] [LawfulBEq α] {l : List (α × β)} {k : α} :
    l.lookup k = none ↔ k ∉ l.map Prod.fst := by
  simp only [List.lookup_eq_none_iff, List.mem_map, bne_iff_ne, ne_eq]
  exact ⟨fun h ⟨p, hp, e⟩ => h p hp e.symm, fun h p hp e => h ⟨p, hp, e.symm⟩⟩

theorem lookup_map_snd {α β γ : Type} [BEq α] (f : β → γ) (k : α) :
    ∀ l : List (α × β), (l.map fun p => (p.1, f p.2)).lookup k = (l.lookup k).map f
  | [] => rfl
  | (a, b) :: l => by
    simp only [List.map_cons, List.lookup_cons]
    cases k == a
    · exact lookup_map_snd f k l
    · rfl

theorem lookup_filter {α β : Type} [BEq α] [LawfulBEq α] (p : α × β → Bool) (k : α) (es : List (α × β))
    (h : ∀ v, es.lookup k = some v → p (k, v) = true) : (es.filter p).lookup k = es.lookup k := by
  induction es with
  | nil => rfl
  | cons x es ih =>
    obtain ⟨a, b⟩ := x
    rw [List.lookup_cons] at h
    rw [List.filter_cons, List.lookup_cons]
    cases hk : k == a with
    | true =>
      cases eq_of_beq hk
      rw [if_pos (h b (by rw [hk])), List.lookup_cons_self]
    | false =>
      rw [hk] at h
      split
      · rw [List.lookup_cons, hk]; exact ih h
      · exact ih h

/-- Two splits of one list at `c`, the first at the first `c`: they are the same split, or the second is later.
(Of the two splits one head extends the other; the overhang is empty or starts with `c`.) -/
theorem split_at_sep {α : Type} (c : α) {a b x y : List α} (ha : c ∉ a) (h : a ++ c :: b = x ++ c :: y) :
    (a = x ∧ b = y) ∨ (c ∈ x ∧ c ∈ b) := by
  rcases List.append_eq_append_iff.mp h with ⟨a', rfl, h'⟩ | ⟨c', rfl, h'⟩
  · cases a' <;> simp_all
  · cases c' <;> simp_all

theorem split_sep {α : Type} {c : α} {a b x y : List α} (ha : c ∉ a) (hx : c ∉ x) (h : a ++ c :: b = x ++ c :: y) :
    a = x ∧ b = y :=
  (split_at_sep c ha h).resolve_right fun h' => hx h'.1

theorem forall_mem_snoc {α : Type} {p : α → Prop} {l : List α} {a : α} (hl : ∀ b ∈ l, p b) (ha : p a) :
    ∀ b ∈ l ++ [a], p b :=
  List.forall_mem_append.mpr ⟨hl, List.forall_mem_singleton.mpr ha⟩

end Arc
