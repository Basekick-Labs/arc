/-
C01 — byte-level helpers that transcribe the Go standard-library functions the line-protocol
parser relies on: `bytes.TrimSpace` (Unicode-aware, Go's rune decoding at both ends),
`utf8.Valid`, `sanitizeUTF8SlowPath`, `bytes.IndexByte`-style cut, `strconv.ParseInt/ParseUint`
(base 10, 64 bit).  Core Lean only, executable.
-/
namespace Arc.C01

abbrev Bytes := List UInt8

abbrev cBS : UInt8 := 92   -- '\\'
abbrev cDQ : UInt8 := 34   -- '"'
abbrev cSP : UInt8 := 32   -- ' '
abbrev cCM : UInt8 := 44   -- ','
abbrev cEQ : UInt8 := 61   -- '='
abbrev cNL : UInt8 := 10   -- '\n'
abbrev cHash : UInt8 := 35 -- '#'

def str (s : String) : Bytes := s.toUTF8.toList

/-- Go `asciiSpace` table = `unicode.IsSpace` restricted to ASCII. -/
def isAsciiSpace (b : UInt8) : Bool :=
  b == 9 || b == 10 || b == 11 || b == 12 || b == 13 || b == 32

/-- `unicode.IsSpace` beyond ASCII as 2-byte UTF-8: U+0085, U+00A0. -/
def uniSpace2 (a b : UInt8) : Bool := a == 0xC2 && (b == 0x85 || b == 0xA0)

/-- … as 3-byte UTF-8: U+1680, U+2000–U+200A, U+2028, U+2029, U+202F, U+205F, U+3000. -/
def uniSpace3 (a b c : UInt8) : Bool :=
  (a == 0xE1 && b == 0x9A && c == 0x80) ||
  (a == 0xE2 && b == 0x80 && ((0x80 ≤ c && c ≤ 0x8A) || c == 0xA8 || c == 0xA9 || c == 0xAF)) ||
  (a == 0xE2 && b == 0x81 && c == 0x9F) ||
  (a == 0xE3 && b == 0x80 && c == 0x80)

/-- Number of leading bytes forming one rune that `bytes.TrimSpace` strips (0 = none).
`utf8.DecodeRune` yields one of the space runes only for exactly these byte sequences. -/
def spacePrefixLen : Bytes → Nat
  | [] => 0
  | [a] => if isAsciiSpace a then 1 else 0
  | [a, b] => if isAsciiSpace a then 1 else if uniSpace2 a b then 2 else 0
  | a :: b :: c :: _ =>
    if isAsciiSpace a then 1 else if uniSpace2 a b then 2 else if uniSpace3 a b c then 3 else 0

/-- Same for the *reversed* string (argument = `s.reverse`): `utf8.DecodeLastRune` walks back to the
nearest rune-start byte; for the sequences above that is their lead byte. -/
def spaceSuffixLenR : Bytes → Nat
  | [] => 0
  | [a] => if isAsciiSpace a then 1 else 0
  | [b, a] => if isAsciiSpace b then 1 else if uniSpace2 a b then 2 else 0
  | c :: b :: a :: _ =>
    if isAsciiSpace c then 1 else if uniSpace2 b c then 2 else if uniSpace3 a b c then 3 else 0

theorem spacePrefixLen_le (s : Bytes) : spacePrefixLen s ≤ s.length := by
  fun_cases spacePrefixLen s <;> simp

theorem spaceSuffixLenR_le (s : Bytes) : spaceSuffixLenR s ≤ s.length := by
  fun_cases spaceSuffixLenR s <;> simp

/-- strip leading space runes; `fuel` bounds the number of stripped runes (each is ≥ 1 byte, so
`s.length` always suffices) — structural recursion keeps the definition kernel-reducible. -/
def trimLeftN : Nat → Bytes → Bytes
  | 0, s => s
  | n + 1, s => if spacePrefixLen s = 0 then s else trimLeftN n (s.drop (spacePrefixLen s))

def trimRightRN : Nat → Bytes → Bytes
  | 0, s => s
  | n + 1, s => if spaceSuffixLenR s = 0 then s else trimRightRN n (s.drop (spaceSuffixLenR s))

def trimLeft (s : Bytes) : Bytes := trimLeftN s.length s

def trimRightR (s : Bytes) : Bytes := trimRightRN s.length s

/-- `bytes.TrimSpace`. -/
def trimSpace (s : Bytes) : Bytes := (trimRightR (trimLeft s).reverse).reverse

/-! ### UTF-8 (Go `utf8.DecodeRune` acceptance) -/

def isCont (b : UInt8) : Bool := 0x80 ≤ b && b ≤ 0xBF

def ok3 (a b c : UInt8) : Bool :=
  (if a == 0xE0 then (0xA0 : UInt8) else 0x80) ≤ b && b ≤ (if a == 0xED then (0x9F : UInt8) else 0xBF) && isCont c

def ok4 (a b c d : UInt8) : Bool :=
  (if a == 0xF0 then (0x90 : UInt8) else 0x80) ≤ b && b ≤ (if a == 0xF4 then (0x8F : UInt8) else 0xBF) &&
    isCont c && isCont d

/-- Size (1..4) of the valid encoding at the head, or 0 when `DecodeRune` returns (RuneError, 1)
(also 0 on empty input). -/
def runeLen : Bytes → Nat
  | [] => 0
  | a :: rest =>
    if a < 0x80 then 1
    else if 0xC2 ≤ a && a ≤ 0xDF then
      match rest with
      | b :: _ => if isCont b then 2 else 0
      | _ => 0
    else if 0xE0 ≤ a && a ≤ 0xEF then
      match rest with
      | b :: c :: _ => if ok3 a b c then 3 else 0
      | _ => 0
    else if 0xF0 ≤ a && a ≤ 0xF4 then
      match rest with
      | b :: c :: d :: _ => if ok4 a b c d then 4 else 0
      | _ => 0
    else 0

theorem runeLen_le (s : Bytes) : runeLen s ≤ s.length := by
  fun_cases runeLen s <;> simp

/-- `utf8.Valid` (fuel = length: every step consumes ≥ 1 byte; structural, kernel-reducible). -/
def validUTF8N : Nat → Bytes → Bool
  | 0, s => s.isEmpty
  | n + 1, s =>
    match s with
    | [] => true
    | a :: rest =>
      if runeLen (a :: rest) = 0 then false else validUTF8N n ((a :: rest).drop (runeLen (a :: rest)))

def validUTF8 (s : Bytes) : Bool := validUTF8N s.length s

/-- `sanitizeUTF8SlowPath`: every byte at which `DecodeRune` reports (RuneError,1) becomes U+FFFD. -/
def sanitize (s : Bytes) : Bytes :=
  match s with
  | [] => []
  | a :: rest =>
    if _h : runeLen (a :: rest) = 0 then 0xEF :: 0xBF :: 0xBD :: sanitize rest
    else (a :: rest).take (runeLen (a :: rest)) ++ sanitize ((a :: rest).drop (runeLen (a :: rest)))
termination_by s.length
decreasing_by
  · simp
  · have := runeLen_le (a :: rest)
    simp [List.length_drop] at *; omega

/-- `SanitizeUTF8` (fast path: valid ⇒ unchanged). -/
def sanitizeUTF8 (s : Bytes) : Bytes := if validUTF8 s then s else sanitize s

/-! ### cutting at the first occurrence of a byte (`bytes.IndexByte` + slicing) -/

def cutAt (d : UInt8) : Bytes → Option (Bytes × Bytes)
  | [] => none
  | b :: r =>
    if b = d then some ([], r)
    else match cutAt d r with
      | some (k, v) => some (b :: k, v)
      | none => none

/-! ### integers -/

def isDigit (b : UInt8) : Bool := 48 ≤ b && b ≤ 57

/-- Horner value of a string of ASCII digits; `none` if a non-digit occurs. -/
def digitsVal : Nat → Bytes → Option Nat
  | acc, [] => some acc
  | acc, b :: r => if isDigit b then digitsVal (acc * 10 + (b.toNat - 48)) r else none

/-- `strconv.ParseUint(s, 10, 64)` → `none` on syntax or range error. -/
def parseUint64 (s : Bytes) : Option Nat :=
  if s.isEmpty then none else
  match digitsVal 0 s with
  | some n => if n < 18446744073709551616 then some n else none
  | none => none

/-- `strconv.ParseInt(s, 10, 64)` → `none` on syntax or range error. -/
def parseInt64 (s : Bytes) : Option Int :=
  match s with
  | [] => none
  | c :: r =>
    let neg := c == 45
    let body := if c == 43 || c == 45 then r else s
    match parseUint64 body with
    | none => none
    | some n =>
      if neg then (if n ≤ 9223372036854775808 then some (-(n : Int)) else none)
      else (if n < 9223372036854775808 then some (n : Int) else none)

/-- `if ca >= 'A' && ca <= 'Z' { ca += 32 }` -/
def lowerAZ (a : UInt8) : UInt8 := if 65 ≤ a && a ≤ 90 then a + 32 else a

/-- ASCII case-insensitive equality with a lower-case constant (`bytesEqualFold`). -/
def eqFold : Bytes → Bytes → Bool
  | [], [] => true
  | a :: as, b :: bs => lowerAZ a == b && eqFold as bs
  | _, _ => false

end Arc.C01
