/-
C18 — model of `internal/pruning/partition_pruner.go` as used by `internal/api/query.go`.

Time is an unbounded `Int` of unix nanoseconds (Go `time.Time`); DuckDB's µs instants are multiples of 1000.

(A) `generatePaths (start, end)`: `GeneratePartitionPaths` — `current := Start.Truncate(time.Hour)`, clamp up to
    `minPartitionDate`, the path-count cap computed on a *saturating* `end.Sub(current)` with int64 wrap-around
    (quirk kept: a span above ~292 years saturates, `span + time.Hour - 1` wraps negative and the cap does NOT
    fire), the loop `for current.Before(end) { emit hour; current = current.Add(time.Hour) }`, one day-level path
    per distinct day (daily compacted files). Partitions are abstract indices: hour `h = ⌊t/1h⌋`, day `d = ⌊h/24⌋`;
    `renderHour/renderDay` give the `YYYY/MM/DD[/HH]` directory (used by the driver only).
(B) literals and relative expressions: for each quoted literal *format* what `parseDateTime` (Go) reads and what
    DuckDB's cast to TIMESTAMPTZ (session TimeZone UTC — the type Arc writes `time` with) reads; `NOW() ± INTERVAL`
    with Go `AddDate` month overflow vs DuckDB month clamping.
(C) `extract`: `ExtractTimeRange` over the WHERE text seen as the list of its atoms *in textual order* — the regexes
    ignore the boolean structure. What each regex recognises (tied to the regenerated literals by `C18_regex_tied`):
      startTimePatterns  : `<name ending in "time">  >= | >  '<lit>'`, then `<name ending in "timestamp"> >= | > '<lit>'`
      endTimePatterns    : same with `<`, `<=`
      for each pattern only its FIRST textual match is looked at; the first pattern (in list order) whose first
      match parses wins; BETWEEN `'<lit>' AND '<lit>'` on a name ending in "time" overrides both bounds;
      relative patterns (`>=?`/`<=?` NOW()|CURRENT_TIMESTAMP ± INTERVAL 'n unit') only fill a bound still missing,
      subtraction before addition (a unit spelled with a final capital `S` matches but is then dropped by
      `evaluateRelativeTime`); start-only ⇒ end = now + 24 h; end-only ⇒ start = 2020-01-01.
    There is no word boundary before `time`: `event_time`, `uptime`, `t.time` all match; `"time"` (quoted) does not.
(D) data sets (files at hour or day partitions), the read plan (`OptimizeTablePath`: generated paths filtered to
    those with at least one file; empty ⇒ unpruned glob), query results with and without pruning, the transform
    cache (plan reused for the same SQL until the TTL expires).

Re-synced to /repo b2903b5 (fix commits b6673db, 18e1f86, 5c0e6c5, a6e9521, 642ecb4, b2903b5):
  * every pattern now starts with `\\b`: only a column written `time` / `x.time` (resp. literally `timestamp`) matches;
    names merely ENDING in time/timestamp (`event_time`, `src_timestamp`) are invisible. The model has no column
    literally named `timestamp` (assumption recorded in props/C18.py);
  * `ExtractTimeRange` returns nil for statements with JOIN / UNION / INTERSECT / EXCEPT or more than one SELECT, and
    when the WHERE text contains the word OR or NOT (`Pred.plainConj`);
  * `TimeRange.EndInclusive`: false only when the end came from a `<` literal pattern; true for `<=`, BETWEEN, the
    relative patterns and the start-only default; the loop then also emits the hour that STARTS at `End`;
  * end-only ⇒ start = minPartitionDate (wide ranges hit the cap ⇒ unpruned);
  * `NOW() ± INTERVAL 'n months'` clamps the day of month like DuckDB.

Core-only, executable.
-/
import Arc.Generated.C18
namespace Arc.C18
open Arc.Generated.C18

/-! ## (A) hours, days, generated paths -/

/-- `time.Hour` in ns (equal to `Generated.hourNs`, see `C18_constants_tied`). -/
def HOUR : Int := 3600000000000
def DAY : Int := 86400000000000

def hourOf (t : Int) : Int := t / HOUR
def dayOf (t : Int) : Int := t / HOUR / 24
/-- `t.Truncate(time.Hour)` (Go truncates relative to the zero time, which is hour-aligned with the unix epoch). -/
def truncHour (t : Int) : Int := t / HOUR * HOUR

def maxI64 : Int := 9223372036854775807
def minI64 : Int := -9223372036854775808
/-- `Time.Sub` saturates at the int64 Duration range. -/
def sat64 (x : Int) : Int := if x > maxI64 then maxI64 else if x < minI64 then minI64 else x
/-- int64 wrap-around arithmetic. -/
def wrap64 (x : Int) : Int := (x + 9223372036854775808) % 18446744073709551616 - 9223372036854775808

/-- the guard in front of the loop: true = "range too wide", the caller falls back to the unpruned glob. -/
def overCap (cur e : Int) : Bool :=
  let span := sat64 (e - cur)
  if span > 0 then
    let hourly := Int.tdiv (wrap64 (span + HOUR - 1)) HOUR
    let daily := wrap64 (Int.tdiv hourly 24 + 1)
    decide (wrap64 (hourly + daily) > maxPartitionPaths)
  else false

/-- `for current.Before(end) { paths = append(paths, hour(current)); current = current.Add(time.Hour) }`
    (fuel-bounded; `fuelFor` is always enough, lemma `mem_hours`). -/
def loop : Nat → Int → Int → List Int
  | 0, _, _ => []
  | n+1, cur, e => if cur < e then hourOf cur :: loop n (cur + HOUR) e else []

def fuelFor (cur e : Int) : Nat := ((e - cur + HOUR - 1) / HOUR).toNat

/-- tail-recursive form of `loop` used by compiled code (ranges of millions of hours, see the cap quirk). -/
def loopTR : Nat → Int → Int → List Int → List Int
  | 0, _, _, acc => acc.reverse
  | n+1, cur, e, acc => if cur < e then loopTR n (cur + HOUR) e (hourOf cur :: acc) else acc.reverse

theorem loopTR_eq (n : Nat) (cur e : Int) (acc : List Int) :
    loopTR n cur e acc = acc.reverse ++ loop n cur e := by
  induction n generalizing cur acc with
  | zero => simp [loopTR, loop]
  | succ n ih =>
    unfold loopTR loop
    by_cases h : cur < e <;> simp [h, ih]

def loopFast (n : Nat) (cur e : Int) : List Int := loopTR n cur e []

@[csimp] theorem loop_eq_loopFast : @loop = @loopFast := by
  funext n cur e; simp [loopFast, loopTR_eq]

/-- the Go map `daysMap` is a set of day keys; the hours are generated in increasing order, so removing
    adjacent duplicates yields that set (kept as an increasing list). -/
def dedupAdj : List Int → List Int
  | [] => []
  | [x] => [x]
  | x :: y :: xs => if x = y then dedupAdj (y :: xs) else x :: dedupAdj (y :: xs)

def dedupAdjTR : List Int → List Int → List Int
  | [], acc => acc.reverse
  | [x], acc => (x :: acc).reverse
  | x :: y :: xs, acc => if x = y then dedupAdjTR (y :: xs) acc else dedupAdjTR (y :: xs) (x :: acc)

theorem dedupAdjTR_eq (l acc : List Int) : dedupAdjTR l acc = acc.reverse ++ dedupAdj l := by
  induction l generalizing acc with
  | nil => simp [dedupAdjTR, dedupAdj]
  | cons x xs ih =>
    cases xs with
    | nil => simp [dedupAdjTR, dedupAdj]
    | cons y ys =>
      unfold dedupAdjTR dedupAdj
      by_cases h : x = y <;> simp [h, ih]

def dedupAdjFast (l : List Int) : List Int := dedupAdjTR l []

@[csimp] theorem dedupAdj_eq_fast : @dedupAdj = @dedupAdjFast := by
  funext l; simp [dedupAdjFast, dedupAdjTR_eq]

structure Paths where
  hours : List Int
  days  : List Int
deriving Repr, DecidableEq

def startOf (s : Int) : Int :=
  let cur0 := truncHour s
  if cur0 < minPartitionDateNs then minPartitionDateNs else cur0

/-- loop bound: `current.Before(end) || (EndInclusive && current.Equal(end))` over integer ns is `current < end + 1`
    when inclusive. -/
def loopEnd (e : Int) (incl : Bool) : Int := if incl then e + 1 else e

/-- `GeneratePartitionPaths`; `none` = nil (cap exceeded; the cap is computed on `End` itself). -/
def generatePaths (s e : Int) (incl : Bool := false) : Option Paths :=
  let cur := startOf s
  if overCap cur e then none else
  let hs := loop (fuelFor cur (loopEnd e incl)) cur (loopEnd e incl)
  some { hours := hs, days := dedupAdj (hs.map (· / 24)) }

/-! ### civil calendar (proleptic Gregorian, as Go `time` and DuckDB) -/

def daysFromCivil (y m d : Int) : Int :=
  let y' := if m ≤ 2 then y - 1 else y
  let era := y' / 400
  let yoe := y' - era * 400
  let mp := (m + 9) % 12
  let doy := (153 * mp + 2) / 5 + d - 1
  let doe := yoe * 365 + yoe / 4 - yoe / 100 + doy
  era * 146097 + doe - 719468

def civilFromDays (z0 : Int) : Int × Int × Int :=
  let z := z0 + 719468
  let era := z / 146097
  let doe := z - era * 146097
  let yoe := (doe - doe / 1460 + doe / 36524 - doe / 146096) / 365
  let y := yoe + era * 400
  let doy := doe - (365 * yoe + yoe / 4 - yoe / 100)
  let mp := (5 * doy + 2) / 153
  let d := doy - (153 * mp + 2) / 5 + 1
  let m := if mp < 10 then mp + 3 else mp - 9
  (if m ≤ 2 then y + 1 else y, m, d)

def pad (w : Nat) (n : Int) : String :=
  let s := toString n.toNat
  String.ofList (List.replicate (w - s.length) '0') ++ s

def renderDay (d : Int) : String :=
  let (y, m, dd) := civilFromDays d
  pad 4 y ++ "/" ++ pad 2 m ++ "/" ++ pad 2 dd

def renderHour (h : Int) : String := renderDay (h / 24) ++ "/" ++ pad 2 (h % 24)

/-! ## (B) right-hand sides: quoted literals and NOW() ± INTERVAL -/

/-- A quoted datetime literal, by *format* (the harness renders it, the real parsers read it).
    fmt: 0 `Y-M-D` · 1 `Y-M-D h:m:s` · 2 `Y-M-D h:m` · 3 `Y-M-DTh:m:sZ` · 4 `Y-M-DTh:m:s±hh:mm` ·
    5 `Y-M-DTh:m:s.ffffffZ` · 6 `Y/M/D h:m:s` · 7 `Y/M/D` · 8 `Y-M-D h:m:s.ffffff` ·
    9 `Y-M-DTh:m:s` (no zone) · 10 `Y-M-D h:m:s±hh` · 11 not a datetime at all. -/
structure Lit where
  fmt : Nat
  y : Int
  mo : Int
  d : Int
  hh : Int
  mi : Int
  ss : Int
  frac : Int   -- ns
  off : Int    -- zone offset, seconds east of UTC (formats 4, 10)
deriving Repr, DecidableEq

def NS : Int := 1000000000

def Lit.wall (l : Lit) (withTime withSec withFrac : Bool) : Int :=
  daysFromCivil l.y l.mo l.d * DAY +
  (if withTime then (l.hh * 3600 + l.mi * 60 + (if withSec then l.ss else 0)) * NS else 0) +
  (if withFrac then l.frac else 0)

/-- what `parseDateTime` returns (`none` = error: no layout of the list matches). -/
def Lit.go (l : Lit) : Option Int :=
  match l.fmt with
  | 0 => some (l.wall false false false)
  | 1 => some (l.wall true true false)
  | 2 => some (l.wall true false false)
  | 3 => some (l.wall true true false)
  | 4 => some (l.wall true true false - l.off * NS)
  | 5 => some (l.wall true true true)
  | 6 => some (l.wall true true false)
  | 7 => some (l.wall false false false)
  | 8 => some (l.wall true true true)
  | _ => none

/-- what DuckDB's `CAST('<lit>' AS TIMESTAMPTZ)` yields with session TimeZone UTC (`none` = conversion error).
    ASSUMED DuckDB behaviour, validated per literal by the harness (op `lit`). -/
def Lit.db (l : Lit) : Option Int :=
  match l.fmt with
  | 0 => some (l.wall false false false)
  | 1 => some (l.wall true true false)
  | 2 => some (l.wall true false false)
  | 3 => some (l.wall true true false)
  | 4 => some (l.wall true true false - l.off * NS)
  | 5 => some (l.wall true true true)
  | 6 => some (l.wall true true false)
  | 7 => some (l.wall false false false)
  | 8 => some (l.wall true true true)
  | 9 => some (l.wall true true false)
  | 10 => some (l.wall true true false - l.off * NS)
  | _ => none

inductive TUnit | second | minute | hour | day | week | month
deriving Repr, DecidableEq

/-- Go `now.AddDate(0, n, 0)` alone (the behaviour BEFORE fix b6673db, kept for the history example): month overflow
    normalises into the following month (Mar 31 − 1 month = Mar 2/3). -/
def goAddMonths (now n : Int) : Int :=
  let day := now / DAY
  let tod := now - day * DAY
  let (y, m, d) := civilFromDays day
  let m' := m - 1 + n
  (daysFromCivil (y + m' / 12) (m' % 12 + 1) 1 + (d - 1)) * DAY + tod

/-- DuckDB `ts ± INTERVAL 'n months'`: day-of-month clamped to the target month's length. ASSUMED, validated (op `rel`). -/
def dbAddMonths (now n : Int) : Int :=
  let day := now / DAY
  let tod := now - day * DAY
  let (y, m, d) := civilFromDays day
  let m' := m - 1 + n
  let y2 := y + m' / 12
  let m2 := m' % 12 + 1
  let first := daysFromCivil y2 m2 1
  let m3 := m' + 1
  let len := daysFromCivil (y + m3 / 12) (m3 % 12 + 1) 1 - first
  (first + (if d > len then len else d) - 1) * DAY + tod

def relGo (now : Int) (plus : Bool) (n : Nat) (u : TUnit) : Int :=
  let k : Int := if plus then n else -(n : Int)
  match u with
  | .second => now + k * NS
  | .minute => now + k * 60 * NS
  | .hour => now + k * HOUR
  | .day => now + k * DAY
  | .week => now + k * 7 * DAY
  | .month => dbAddMonths now k   -- since fix b6673db: AddDate(0,n,0), then back to the target month's last day on overflow

def relDb (now : Int) (plus : Bool) (n : Nat) (u : TUnit) : Int :=
  let k : Int := if plus then n else -(n : Int)
  match u with
  | .month => dbAddMonths now k
  | u => relGo now plus n u

inductive Rhs
  | lit (l : Lit)                                  -- '<literal>'
  /-- `NOW() ± INTERVAL 'n unit'`; `capS` = the unit is spelled with a final CAPITAL `S` (`DAYS`): the regex
      (case-insensitive) still matches, but `evaluateRelativeTime` trims a lower-case `s` BEFORE lower-casing, so
      `DAYS` becomes `days`, hits the `default` arm and the bound is dropped (quirk; sound). -/
  | rel (plus : Bool) (n : Nat) (u : TUnit) (capS : Bool)
  | num (k : Int)                                  -- unquoted number (plain columns)
deriving Repr, DecidableEq

/-- the pruner's reading of a right-hand side (ns). -/
def Rhs.go (now : Int) : Rhs → Option Int
  | .lit l => l.go
  | .rel p n u capS => if capS then none else some (relGo now p n u)
  | .num _ => none

/-- the value the query engine compares the column with (ns); literals DuckDB rejects make the whole
    query fail in both modes and are excluded by `Rhs.dbOk`. -/
def Rhs.db (now : Int) : Rhs → Int
  | .lit l => l.db.getD 0
  | .rel p n u _ => relDb now p n u
  | .num k => k

def Rhs.dbOk : Rhs → Bool
  | .lit l => l.db.isSome
  | _ => true

/-! ## (C) atoms, predicates, textual order, range extraction -/

/-- columns as the regexes see them. `time` = the partition column written `time` or `t.time`;
    `timeQuoted` = the same column written `"time"` (invisible to the regexes); `likeTime` = another column whose
    name ends in `time` (e.g. `event_time`, `uptime`); `likeTs` = a column whose name ends in `timestamp`;
    `plain` = any other column. -/
inductive Col | time | timeQuoted | likeTime | likeTs | plain
deriving Repr, DecidableEq

structure Row where
  time : Int    -- partition column
  c1 : Int      -- the `likeTime` column
  c2 : Int      -- the `likeTs` column
  v : Int       -- the plain column
deriving Repr, DecidableEq

def Col.val : Col → Row → Int
  | .time, r => r.time
  | .timeQuoted, r => r.time
  | .likeTime, r => r.c1
  | .likeTs, r => r.c2
  | .plain, r => r.v

/-- `\\btime\\s*<op>` matches the written name: only `time` / `alias.time` (word boundary since fix 18e1f86). -/
def Col.endsInTime : Col → Bool
  | .time => true
  | _ => false

/-- `\\btimestamp\\s*<op>`: a column literally named `timestamp` — none in the model (see header). -/
def Col.endsInTimestamp : Col → Bool
  | _ => false

inductive Cmp | ge | gt | lt | le
deriving Repr, DecidableEq

def Cmp.holds : Cmp → Int → Int → Bool
  | .ge, a, b => decide (a ≥ b)
  | .gt, a, b => decide (a > b)
  | .lt, a, b => decide (a < b)
  | .le, a, b => decide (a ≤ b)

/-- atoms of a WHERE text. `opaque k` = any condition in which no regex matches (truth given by a valuation). -/
inductive BAtom
  | cmp (c : Col) (op : Cmp) (r : Rhs)
  | between (c : Col) (lo hi : Rhs)
  | opaque (k : Nat)
deriving Repr, DecidableEq

/-- `sub k inner` = `<expr> IN (SELECT … WHERE <inner>)` (or EXISTS …): its truth for an outer row is opaque
    (valuation `k`), but its text — the inner atoms — is part of the outer statement's WHERE text. -/
inductive Atom
  | base (b : BAtom)
  | sub (k : Nat) (inner : List BAtom)
deriving Repr

inductive Pred
  | atom (a : Atom)
  | and (p q : Pred)
  | or (p q : Pred)
  | not (p : Pred)
deriving Repr

def Atom.text : Atom → List BAtom
  | .base b => [b]
  | .sub _ inner => inner

/-- the atoms in the order they appear in the SQL text. -/
def Pred.text : Pred → List BAtom
  | .atom a => a.text
  | .and p q => p.text ++ q.text
  | .or p q => p.text ++ q.text
  | .not p => p.text

/-- no OR, no NOT, no subquery: otherwise `ExtractTimeRange` returns nil (fixes 642ecb4, b2903b5). -/
def Pred.plainConj : Pred → Bool
  | .atom (.base _) => true
  | .atom (.sub _ _) => false
  | .and p q => p.plainConj && q.plainConj
  | .or _ _ => false
  | .not _ => false

abbrev Valuation := Nat → Row → Bool

def BAtom.eval (now : Int) (σ : Valuation) (r : Row) : BAtom → Bool
  | .cmp c op rhs => op.holds (c.val r) (rhs.db now)
  | .between c lo hi => decide (lo.db now ≤ c.val r) && decide (c.val r ≤ hi.db now)
  | .opaque k => σ k r

def Atom.eval (now : Int) (σ : Valuation) (r : Row) : Atom → Bool
  | .base b => b.eval now σ r
  | .sub k _ => σ k r

/-- two-valued: every column is NOT NULL in the model (Arc's `time` always is). -/
def Pred.eval (now : Int) (σ : Valuation) (r : Row) : Pred → Bool
  | .atom a => a.eval now σ r
  | .and p q => p.eval now σ r && q.eval now σ r
  | .or p q => p.eval now σ r || q.eval now σ r
  | .not p => !(p.eval now σ r)

/-- syntactic match of an absolute pattern `<suffix>\s*<op>\s*'([^']+)'`. -/
def isAbs (suffix : Col → Bool) (op : Cmp) : BAtom → Bool
  | .cmp c o (.lit _) => suffix c && decide (o = op)
  | _ => false

/-- one absolute pattern: only its first textual match is examined; a literal that does not parse makes
    the pattern yield nothing (the next PATTERN is tried, not the next match). -/
def absPat (now : Int) (suffix : Col → Bool) (op : Cmp) (txt : List BAtom) : Option Int :=
  match txt.find? (isAbs suffix op) with
  | some (.cmp _ _ r) => r.go now
  | _ => none

def firstSome : List (Option Int) → Option Int
  | [] => none
  | some x :: _ => some x
  | none :: xs => firstSome xs

def absStart (now : Int) (txt : List BAtom) : Option Int :=
  firstSome [absPat now Col.endsInTime .ge txt, absPat now Col.endsInTime .gt txt,
             absPat now Col.endsInTimestamp .ge txt, absPat now Col.endsInTimestamp .gt txt]

def absEnd (now : Int) (txt : List BAtom) : Option Int :=
  firstSome [absPat now Col.endsInTime .lt txt, absPat now Col.endsInTime .le txt,
             absPat now Col.endsInTimestamp .lt txt, absPat now Col.endsInTimestamp .le txt]

def isBetween : BAtom → Bool
  | .between c (.lit _) (.lit _) => c.endsInTime
  | _ => false

def betweenPat (now : Int) (txt : List BAtom) : Option (Int × Int) :=
  match txt.find? isBetween with
  | some (.between _ lo hi) =>
    match lo.go now, hi.go now with
    | some a, some b => some (a, b)
    | _, _ => none
  | _ => none

def isRel (start plus : Bool) : BAtom → Bool
  | .cmp c o (.rel p _ _ _) =>
    c.endsInTime && decide (p = plus) &&
      (if start then decide (o = .ge) || decide (o = .gt) else decide (o = .lt) || decide (o = .le))
  | _ => false

def relPat (now : Int) (start plus : Bool) (txt : List BAtom) : Option Int :=
  match txt.find? (isRel start plus) with
  | some (.cmp _ _ r) => r.go now
  | _ => none

def startBound (now : Int) (txt : List BAtom) : Option Int :=
  match betweenPat now txt with
  | some (a, _) => some a
  | none => firstSome [absStart now txt, relPat now true false txt, relPat now true true txt]

def firstSomeP : List (Option Int × Bool) → Option (Int × Bool)
  | [] => none
  | (some x, b) :: _ => some (x, b)
  | (none, _) :: xs => firstSomeP xs

/-- end bound and its inclusivity: `<` patterns ⇒ exclusive, `<=` patterns ⇒ inclusive. -/
def absEndP (now : Int) (txt : List BAtom) : Option (Int × Bool) :=
  firstSomeP [(absPat now Col.endsInTime .lt txt, false), (absPat now Col.endsInTime .le txt, true),
              (absPat now Col.endsInTimestamp .lt txt, false), (absPat now Col.endsInTimestamp .le txt, true)]

/-- BETWEEN ⇒ inclusive; relative patterns (they match `<` and `<=` alike) ⇒ inclusive. -/
def endBoundP (now : Int) (txt : List BAtom) : Option (Int × Bool) :=
  match betweenPat now txt with
  | some (_, b) => some (b, true)
  | none =>
    match absEndP now txt with
    | some x => some x
    | none =>
      match firstSome [relPat now false false txt, relPat now false true txt] with
      | some e => some (e, true)
      | none => none

def endBound (now : Int) (txt : List BAtom) : Option Int := (endBoundP now txt).map (·.1)

/-- `ExtractTimeRange` on the WHERE text `txt` of a single-table plain-conjunction statement:
    (start, end, EndInclusive). Start-only ⇒ end = now + 24 h (EndInclusive stays true); end-only ⇒ start = floor. -/
def extract (now : Int) (txt : List BAtom) : Option (Int × Int × Bool) :=
  match startBound now txt, endBoundP now txt with
  | some s, some (e, i) => some (s, e, i)
  | some s, none => some (s, now + startOnlyAddNs, true)
  | none, some (e, i) => some (defaultStartNs, e, i)
  | none, none => none

/-- `ExtractTimeRange` of `SELECT … FROM m WHERE p`. -/
def extractStmt (now : Int) (p : Pred) : Option (Int × Int × Bool) :=
  if p.plainConj then extract now p.text else none

/-! ## (D) data sets, read plans, results -/

inductive Part | hour (h : Int) | day (d : Int)
deriving Repr, DecidableEq

structure File where
  part : Part
  rows : List Row
deriving Repr

abbrev Dataset := List File

/-- every row lives in the partition of its own `time` (property C03; day files hold compacted hours). -/
def Part.contains : Part → Int → Bool
  | .hour h, t => decide (hourOf t = h)
  | .day d, t => decide (dayOf t = d)

def WellPlaced (ds : Dataset) : Prop :=
  ∀ f ∈ ds, ∀ r ∈ f.rows, f.part.contains r.time = true

instance (ds : Dataset) : Decidable (WellPlaced ds) := by
  unfold WellPlaced; infer_instance

def Part.inPaths (ps : Paths) : Part → Bool
  | .hour h => decide (h ∈ ps.hours)
  | .day d => decide (d ∈ ps.days)

def rowsOf (ds : Dataset) : List Row := ds.flatMap (·.rows)

/-- a read plan: `none` = the unpruned glob `/**/*.parquet`; `some ps` = the explicit list of partition globs. -/
abbrev Plan := Option (List Part)

def partsOfPaths (ps : Paths) : List Part := ps.hours.map Part.hour ++ ps.days.map Part.day

/-- `OptimizeTablePath` on a cache miss: extract, generate, keep the globs that match at least one file;
    nothing left ⇒ fall back to the unpruned glob. -/
def planFor (range : Option (Int × Int × Bool)) (ds : Dataset) : Plan :=
  match range with
  | none => none
  | some (s, e, incl) =>
    match generatePaths s e incl with
    | none => none
    | some ps =>
      let live := (partsOfPaths ps).filter (fun p => ds.any (fun f => decide (f.part = p)))
      if live.isEmpty then none else some live

/-- the files DuckDB reads under a plan (globs are expanded at execution time). -/
def readWith (plan : Plan) (ds : Dataset) : Dataset :=
  match plan with
  | none => ds
  | some parts => ds.filter (fun f => decide (f.part ∈ parts))

def readSet (range : Option (Int × Int × Bool)) (ds : Dataset) : Dataset := readWith (planFor range ds) ds

/-- single-table query `SELECT … FROM m WHERE p`: rows returned with pruning. -/
def runPruned (now : Int) (σ : Valuation) (p : Pred) (ds : Dataset) : List Row :=
  (rowsOf (readSet (extractStmt now p) ds)).filter (p.eval now σ)

/-- the same query when every file of the measurement is read. -/
def runFull (now : Int) (σ : Valuation) (p : Pred) (ds : Dataset) : List Row :=
  (rowsOf ds).filter (p.eval now σ)

/-- `SELECT … FROM a JOIN b ON a.v = b.v WHERE p(a)`: query.go prunes EVERY table reference of the statement
    with the range extracted from the whole statement text — which since fix b2903b5 is nil for a statement
    with JOIN / set operations / more than one SELECT (`multiTableRange`). -/
def multiTableRange : Option (Int × Int × Bool) := none

def runJoinWith (now : Int) (σ : Valuation) (p : Pred) (ra rb : List Row) : List (Row × Row) :=
  ra.flatMap (fun a => (rb.filter (fun b => decide (a.v = b.v) && p.eval now σ a)).map (fun b => (a, b)))

def runJoinPruned (now : Int) (σ : Valuation) (p : Pred) (a b : Dataset) : List (Row × Row) :=
  let rng := multiTableRange
  runJoinWith now σ p (rowsOf (readSet rng a)) (rowsOf (readSet rng b))

def runJoinFull (now : Int) (σ : Valuation) (p : Pred) (a b : Dataset) : List (Row × Row) :=
  runJoinWith now σ p (rowsOf a) (rowsOf b)

/-- `SELECT … WHERE p UNION ALL SELECT … WHERE q` over the same measurement: the WHERE text of the statement
    runs from the first WHERE to the end, so both branches are pruned with the atoms of both. -/
def runUnionPruned (now : Int) (σ : Valuation) (p q : Pred) (ds : Dataset) : List Row :=
  let rs := rowsOf (readSet multiTableRange ds)
  rs.filter (p.eval now σ) ++ rs.filter (q.eval now σ)

def runUnionFull (now : Int) (σ : Valuation) (p q : Pred) (ds : Dataset) : List Row :=
  (rowsOf ds).filter (p.eval now σ) ++ (rowsOf ds).filter (q.eval now σ)

/-- query answered from the transform cache: the plan computed for the data set `ds0` at caching time is
    applied to the current data set. -/
def runCached (now : Int) (σ : Valuation) (p : Pred) (ds0 ds : Dataset) : List Row :=
  (rowsOf (readWith (planFor (extractStmt now p) ds0) ds)).filter (p.eval now σ)

/-- does a cached plan survive the post-compaction hook `QueryHandler.InvalidateCaches`? It is gone only if the
    hook clears the transform cache (whose entries embed the pruned path list) AND the pruner's partition / glob
    caches (regenerated facts). -/
def survivesInvalidate : Bool := !(invalidateClearsTransform && invalidateClearsPruner)

/-- the same statement issued again: `invalidated` = `InvalidateCaches` ran since the plan was cached
    (compaction completed); a plan that did not survive is recomputed on the current data set. -/
def runCachedI (now : Int) (σ : Valuation) (p : Pred) (ds0 ds : Dataset) (invalidated : Bool) : List Row :=
  if invalidated && !survivesInvalidate then runPruned now σ p ds else runCached now σ p ds0 ds

/-- DuckDB fails with "No files found" when a listed glob matches no file. -/
def planBroken (plan : Plan) (ds : Dataset) : Bool :=
  match plan with
  | none => false
  | some parts => parts.any (fun p => !(ds.any (fun f => decide (f.part = p))))

/-- cache entry valid at `now`: Go `!now.After(expiresAt)`. -/
def cacheValid (setAt now : Int) : Bool := decide (now ≤ setAt + transformCacheTTLNs)

end Arc.C18
