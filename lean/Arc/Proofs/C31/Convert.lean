import Arc.Proofs.C31.Digits
import Arc.Base.Lists
/-! C31 — what a given outcome of column inference, of header validation and of the CSV conversion says about the
input: the definitions are read one `if` at a time with `ite_cases` (`split` on terms of this size is slow). -/
namespace Arc.C31

theorem drop_succ_of_drop_cons {α : Type} {l t : List α} {n : Nat} {a : α} (h : l.drop n = a :: t) :
    l.drop (n + 1) = t := by
  rw [← List.drop_drop, h]; rfl

theorem dropWhile_nil_all {α : Type} {p : α → Bool} {l : List α} (h : l.dropWhile p = []) : ∀ x ∈ l, p x = true := by
  have e := List.takeWhile_append_dropWhile (p := p) (l := l)
  rw [h, List.append_nil] at e
  exact List.all_eq_true.mp (e ▸ List.all_takeWhile)

/-- up to 2^53 every natural number is a float64 -/
theorem roundNat53_le {m : Nat} (h : m ≤ 9007199254740992) : roundNat53 m = m := by
  rcases Nat.lt_or_eq_of_le h with h | rfl
  · exact if_pos h
  · decide +kernel

/-- the four outcomes of `inferAndConvertColumn`, each with the test that selected it -/
theorem inferCol_cases {pf : Cell → Option Nat} {raw : List Cell} {r : Col × Option (List Bool)}
    (hr : inferCol pf raw = r) :
    r = (.str raw, none) ∨
    (r.1 = .int (raw.map intCell) ∧ raw.dropWhile intOK = []) ∨
    (r.1 = .float ((raw.takeWhile intOK).map (fun c => f64BitsOfInt (intCell c)) ++
          (raw.dropWhile intOK).map (fun c => if c.isEmpty then 0 else (pf c).getD 0)) ∧
        exactGuards pf (raw.takeWhile intOK) (raw.dropWhile intOK) = true) ∨
    (r.1 = .bool (raw.map (fun c => !c.isEmpty && boolVal c)) ∧
        raw.all (fun c => c.isEmpty || isBoolLiteral c) = true) := by
  unfold inferCol at hr
  simp only [] at hr
  rcases ite_cases hr with ⟨_, hr⟩ | ⟨_, hr⟩
  · exact .inl hr.symm
  rcases ite_cases hr with ⟨h, hr⟩ | ⟨_, hr⟩
  · exact .inr (.inl ⟨hr ▸ rfl, List.isEmpty_iff.mp h⟩)
  rcases ite_cases hr with ⟨h, hr⟩ | ⟨_, hr⟩
  · exact .inr (.inr (.inl ⟨hr ▸ rfl, (Bool.and_eq_true _ _ ▸ h).2⟩))
  rcases ite_cases hr with ⟨h, hr⟩ | ⟨_, hr⟩
  · exact .inr (.inr (.inr ⟨hr ▸ rfl, h⟩))
  · exact .inl hr.symm

theorem timeCells_length {fb : Cell → Option Int} {fmt : String} {cs : List Cell} {ts : List Int}
    (h : timeCells fb fmt cs = some ts) : ts.length = cs.length := by
  induction cs generalizing ts with
  | nil => cases h; rfl
  | cons c cs ih =>
    unfold timeCells at h
    simp only [] at h
    split at h
    · next t ts' _ h2 => cases h; exact congrArg (· + 1) (ih h2)
    · cases h

theorem validateHeader_some {header : List Cell} {tc : Cell} {ti : Nat} (h : validateHeader header tc = some ti) :
    ∀ n ∈ header, n.isEmpty = false ∧ n.head? ≠ some '_' := by
  unfold validateHeader at h
  rcases ite_cases h with ⟨_, h⟩ | ⟨h1, h⟩
  · cases h
  rcases ite_cases h with ⟨_, h⟩ | ⟨h2, _⟩
  · cases h
  intro n hn
  rw [Bool.not_eq_true, List.any_eq_false] at h1
  rw [show Arc.Generated.C31.headerRejectsUnderscore = true from rfl, Bool.true_and, Bool.not_eq_true,
    List.any_eq_false] at h2
  exact ⟨Bool.not_eq_true _ ▸ h1 n hn, fun e => h2 n hn (by simp [e])⟩

theorem convertCSV_shape {pf : Cell → Option Nat} {fb : Cell → Option Int} {x : CsvIn} {b : Batch}
    (h : convertCSV pf fb x = some b) :
    ∃ h00 hr body ti, x.recs.drop x.skip.toNat = (h00 :: hr) :: body ∧
      validateHeader (stripBOM h00 :: hr) x.timeCol = some ti ∧ body ≠ [] ∧
      (∀ r ∈ body, r.length ≤ hr.length + 1) ∧
      timeCells fb x.fmt (column (body.map (padTo (hr.length + 1))) ti) = some b.time ∧
      (∀ c ∈ b.cols, c.name ∈ stripBOM h00 :: hr) := by
  unfold convertCSV at h
  rcases ite_cases h with ⟨_, h⟩ | ⟨_, h⟩
  · cases h
  rcases ite_cases h with ⟨_, h⟩ | ⟨_, h⟩
  · cases h
  cases hrest : x.recs.drop x.skip.toNat with
  | nil => rw [hrest] at h; cases h
  | cons h0 body =>
    rw [hrest] at h
    cases h0 with
    | nil => cases h
    | cons h00 hr =>
      simp only [] at h
      cases hv : validateHeader (stripBOM h00 :: hr) x.timeCol with
      | none => rw [hv] at h; cases h
      | some ti =>
        rw [hv] at h
        simp only [] at h
        rcases ite_cases h with ⟨_, h⟩ | ⟨he, h⟩
        · cases h
        rcases ite_cases h with ⟨_, h⟩ | ⟨hlong, h⟩
        · cases h
        cases ht : timeCells fb x.fmt (column (body.map (padTo (stripBOM h00 :: hr).length)) ti) with
        | none => rw [ht] at h; cases h
        | some tm =>
          rw [ht] at h
          cases h
          refine ⟨h00, hr, body, ti, rfl, hv, fun e => he (by rw [e]; rfl), fun r hr' => ?_, ht, fun c hc => ?_⟩
          · rw [show Arc.Generated.C31.rejectLongRows = true from rfl, Bool.true_and, Bool.not_eq_true,
              List.any_eq_false] at hlong
            exact Nat.le_of_not_lt (by simpa using hlong r hr')
          · simp only [List.mem_filterMap, List.mem_range] at hc
            obtain ⟨i, hi, hci⟩ := hc
            rcases ite_cases hci with ⟨_, e⟩ | ⟨_, e⟩
            · cases e
            · cases e
              simp [List.getD, List.getElem?_eq_getElem hi]
end Arc.C31
