import Arc.Model.C31
/-! C31 — `wrap64` is the identity exactly on `inI64`; the table-driven integer time conversions in closed form:
one equation per explicit unit, and the auto-detection as an `if` chain on the magnitude of `n`. -/
namespace Arc.C31

def inI64 (n : Int) : Prop := -9223372036854775808 ≤ n ∧ n ≤ 9223372036854775807

instance (n : Int) : Decidable (inI64 n) := by unfold inI64; exact inferInstance

theorem wrap64_id {x : Int} (h : inI64 x) : wrap64 x = x := by
  unfold inI64 at h; unfold wrap64; omega

theorem wrap64_range (x : Int) : inI64 (wrap64 x) := by
  unfold inI64 wrap64; omega

theorem wrap64_eq_iff (x : Int) : wrap64 x = x ↔ inI64 x :=
  ⟨fun h => h ▸ wrap64_range x, wrap64_id⟩

theorem intTime_units (n : Int) :
    intTimeToMicros n "epoch_s" = wrap64 (n * 1000000) ∧ intTimeToMicros n "epoch_ms" = wrap64 (n * 1000) ∧
    intTimeToMicros n "epoch_us" = n ∧ intTimeToMicros n "epoch_ns" = Int.tdiv n 1000 := by
  simp [intTimeToMicros, lookupOp, Arc.Generated.C31.intTime, List.lookup, applyOp]

theorem arrow_units (n : Int) :
    arrowTimestampToMicros n "Second" = wrap64 (n * 1000000) ∧
    arrowTimestampToMicros n "Millisecond" = wrap64 (n * 1000) ∧
    arrowTimestampToMicros n "Microsecond" = n ∧ arrowTimestampToMicros n "Nanosecond" = Int.tdiv n 1000 := by
  simp [arrowTimestampToMicros, lookupOp, Arc.Generated.C31.arrowTs, List.lookup, applyOp]

theorem arrow_ms (n : Int) : arrowTimestampToMicros n "Millisecond" = wrap64 (n * 1000) :=
  (arrow_units n).2.1

/-- Go's truncating division by 1000: the quotient is the exact value rounded toward zero. -/
theorem tdiv1000 (n : Int) : (0 ≤ n → 1000 * Int.tdiv n 1000 ≤ n ∧ n < 1000 * Int.tdiv n 1000 + 1000) ∧
    (n < 0 → n ≤ 1000 * Int.tdiv n 1000 ∧ 1000 * Int.tdiv n 1000 - 1000 < n) := by
  rw [Int.tdiv_eq_ediv]
  split
  · omega
  · rw [show Int.sign 1000 = 1 from rfl]; omega

/-- `absN < b` compares `|n|` with `b`, at MinInt64 too thanks to the clamp -/
theorem absClamp_lt (n b : Int) (h : inI64 n) (hb : b ≤ 9223372036854775807) :
    absClamp n < b ↔ -b < n ∧ n < b := by
  unfold inI64 at h
  unfold absClamp
  split
  · split
    · next hm => simp only [Bool.and_eq_true, beq_iff_eq, minI64] at hm; simp only [maxI64]; omega
    · next hm =>
      simp only [Bool.and_eq_true, beq_iff_eq, minI64, Arc.Generated.C31.autoIntAbsClamp, true_and] at hm
      rw [wrap64_id (by unfold inI64; omega)]; omega
  · omega

theorem autoInt_eq (n : Int) (h : inI64 n) :
    autoIntEpochToMicros n =
      if -10000000000 < n ∧ n < 10000000000 then wrap64 (n * 1000000)
      else if -10000000000000 < n ∧ n < 10000000000000 then wrap64 (n * 1000)
      else if -10000000000000000 < n ∧ n < 10000000000000000 then n
      else Int.tdiv n 1000 := by
  simp only [autoIntEpochToMicros, Arc.Generated.C31.autoInt, Arc.Generated.C31.autoIntDefault, threshApply, applyOp,
    absClamp_lt n 10000000000 h (by decide), absClamp_lt n 10000000000000 h (by decide),
    absClamp_lt n 10000000000000000 h (by decide)]

end Arc.C31
