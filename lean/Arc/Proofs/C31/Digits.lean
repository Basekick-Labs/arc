import Arc.Proofs.C31.Time
/-! C31 — `strconv.ParseInt` against core's `Nat.toDigits`: rendering the value of a digit string gives the string
back without its leading zeros, so an accepted integer cell renders to its normal form `canonInt`. -/
namespace Arc.C31

/-- canonical decimal rendering of a stored int64 (what `strconv.FormatInt(n, 10)` prints) -/
def renderInt (n : Int) : Cell :=
  if n < 0 then '-' :: Nat.toDigits 10 n.natAbs else Nat.toDigits 10 n.natAbs

/-- drop leading zeros, keep at least one digit -/
def stripZeros (ds : List Char) : List Char :=
  match ds.dropWhile (· == '0') with
  | [] => ['0']
  | r => r

/-- the DOCUMENTED normal form of an integer cell: no `+`, no leading zeros, no negative zero -/
def canonInt (s : Cell) : Cell :=
  match s with
  | [] => []
  | c :: ds =>
    if c == '-' then (if stripZeros ds == ['0'] then ['0'] else '-' :: stripZeros ds)
    else if c == '+' then stripZeros ds
    else stripZeros (c :: ds)

theorem digit_bounds {c : Char} (h : c.isDigit = true) : 48 ≤ c.toNat ∧ c.toNat ≤ 57 := by
  simp only [Char.isDigit, Bool.and_eq_true, decide_eq_true_eq] at h
  obtain ⟨h1, h2⟩ := h
  rw [ge_iff_le, UInt32.le_iff_toNat_le] at h1
  rw [UInt32.le_iff_toNat_le] at h2
  exact ⟨h1, h2⟩

theorem digitChar_of_isDigit {c : Char} (h : c.isDigit = true) : Nat.digitChar (c.toNat - '0'.toNat) = c := by
  obtain ⟨h1, h2⟩ := digit_bounds h
  have key : ∀ d : Fin 10, Nat.digitChar d.val = Char.ofNat (d.val + 48) := by decide +kernel
  have := key ⟨c.toNat - 48, by omega⟩
  rwa [Nat.sub_add_cancel h1, Char.ofNat_toNat] at this

theorem digit_lt_ten {c : Char} (h : c.isDigit = true) : c.toNat - '0'.toNat < 10 := by
  obtain ⟨h1, h2⟩ := digit_bounds h
  show c.toNat - 48 < 10
  omega

/-- with a positive accumulator, re-rendering a digit string appends it -/
theorem toDigits_ofDigitChars_pos (cs : List Char) (hall : ∀ c ∈ cs, c.isDigit = true) :
    ∀ init, 0 < init → Nat.toDigits 10 (Nat.ofDigitChars 10 cs init) = Nat.toDigits 10 init ++ cs := by
  induction cs with
  | nil => intro init _; simp
  | cons c cs ih =>
    intro init hpos
    have hc := hall c List.mem_cons_self
    have hd := digit_lt_ten hc
    rw [Nat.ofDigitChars_cons, ih (fun x hx => hall x (List.mem_cons_of_mem c hx)) _ (by omega),
      ← Nat.toDigits_append_toDigits (by decide) hpos hd, Nat.toDigits_of_lt_base hd, digitChar_of_isDigit hc]
    simp

theorem toDigits_digitsVal (ds : List Char) (hne : ds ≠ []) (hall : ∀ c ∈ ds, c.isDigit = true) :
    Nat.toDigits 10 (digitsVal ds) = stripZeros ds := by
  unfold digitsVal
  induction ds with
  | nil => exact absurd rfl hne
  | cons c cs ih =>
    have hcs : ∀ x ∈ cs, x.isDigit = true := fun x hx => hall x (List.mem_cons_of_mem c hx)
    have hc := hall c List.mem_cons_self
    rw [Nat.ofDigitChars_cons, Nat.mul_zero, Nat.zero_add]
    by_cases hz : c = '0'
    · subst hz
      by_cases hcs' : cs = []
      · subst hcs'; rfl
      · rw [show '0'.toNat - '0'.toNat = 0 from rfl, ih hcs' hcs]; simp [stripZeros]
    · have hdc := digitChar_of_isDigit hc
      have hpos : 0 < c.toNat - '0'.toNat := Nat.pos_of_ne_zero fun h0 => hz (by rw [← hdc, h0]; rfl)
      rw [toDigits_ofDigitChars_pos cs hcs _ hpos, Nat.toDigits_of_lt_base (digit_lt_ten hc), hdc]
      simp [stripZeros, hz]

theorem parseUDigits_some {ds : List Char} {m : Nat} (h : parseUDigits ds = some m) :
    ds ≠ [] ∧ (∀ c ∈ ds, c.isDigit = true) ∧ m = digitsVal ds := by
  unfold parseUDigits at h
  split at h
  · exact absurd h (by simp)
  · rename_i hc
    simp only [Bool.or_eq_true, List.isEmpty_iff, Bool.not_eq_eq_eq_not, Bool.not_true, not_or,
      Bool.not_eq_false] at hc
    refine ⟨hc.1, ?_, by simpa using h.symm⟩
    intro c hcm
    have := List.all_eq_true.mp hc.2 c hcm
    simpa [isDigit] using this

theorem parseUDigits_toDigits {ds : List Char} {m : Nat} (h : parseUDigits ds = some m) :
    Nat.toDigits 10 m = stripZeros ds := by
  obtain ⟨hne, hall, rfl⟩ := parseUDigits_some h
  exact toDigits_digitsVal ds hne hall

theorem toDigits_eq_zero {m : Nat} (h : Nat.toDigits 10 m = ['0']) : m = 0 := by
  have := Nat.ofDigitChars_ten_toDigits (n := m)
  rw [h] at this
  simpa [Nat.ofDigitChars] using this.symm

theorem renderInt_natCast (m : Nat) : renderInt m = Nat.toDigits 10 m := by
  rw [renderInt, if_neg (Int.not_lt.mpr (Int.natCast_nonneg m)), Int.natAbs_natCast]

/-- no negative zero -/
theorem renderInt_neg (m : Nat) :
    renderInt (-(m : Int)) = if Nat.toDigits 10 m = ['0'] then ['0'] else '-' :: Nat.toDigits 10 m := by
  rw [renderInt, Int.natAbs_neg, Int.natAbs_natCast]
  by_cases hm : m = 0
  · subst hm; rfl
  · rw [if_pos (by omega), if_neg fun e => hm (toDigits_eq_zero e)]

end Arc.C31
