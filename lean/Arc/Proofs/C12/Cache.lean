import Arc.Proofs.C12.Ops
/-!
# C12 — the per-measurement tier cache stays coherent with the metadata

`TI x0 x`: relative to `x0`, either an invalidating mutation took effect (`inval`) or the file's
metadata tier is unchanged. Every run of the interpreter satisfies it provided `UpdateTier` /
`RecordFile` are among the generated `cacheInvalidatedBy`; hence a cache entry that survives an
operation still describes the measurement's tiers.
-/
namespace Arc.C12
open Arc.Generated.C12

def TI (x0 x : Exec) : Prop := x.inval = true ∨ (x.st.tier = x0.st.tier ∧ x.inval = x0.inval)

theorem TI.refl (x : Exec) : TI x x := Or.inr ⟨rfl, rfl⟩

theorem TI.trans {a b c : Exec} (h1 : TI a b) (h2 : TI b c) : TI a c := by
  rcases h2 with h2 | ⟨h2t, h2i⟩
  · exact Or.inl h2
  · rcases h1 with h1 | ⟨h1t, h1i⟩
    · exact Or.inl (by rw [h2i]; exact h1)
    · exact Or.inr ⟨h2t.trans h1t, h2i.trans h1i⟩

theorem atomic_TI (x : Exec) (f : Exec → Exec) (hf : ∀ r, TI x (f { x with orc := r })) :
    TI x (atomic x f).1 := by
  obtain ⟨r, _, h | ⟨_, h | h⟩⟩ := atomic_cases x f <;> rw [h]
  · exact hf r
  · exact TI.refl x
  · exact TI.refl x

theorem copyHotCold_TI (n : Nat) (x : Exec) : TI x (copyHotCold n x).1 := by
  obtain ⟨r, p, h | h | h, _⟩ := copyHotCold_cases n x <;> rw [h] <;> exact TI.refl x

theorem prim_TI (hu : invBy .updateTier = true) (n : Nat) (a : Act) (x : Exec) : TI x (prim n a x).1 := by
  cases a with
  | record => exact atomic_TI x _ fun _ => TI.refl x
  | complete =>
    simp only [prim]
    split
    · exact atomic_TI x _ fun _ => TI.refl x
    · exact TI.refl x
  | copy src dst =>
    cases src <;> cases dst
    · exact TI.refl x
    · exact copyHotCold_TI n x
    · exact TI.refl x
    · exact TI.refl x
  | setMeta t =>
    -- `UpdateTier` changes the tier and drops the cache entry
    exact atomic_TI x _ fun _ => Or.inl (by
      show (x.inval || invBy .updateTier) = true
      rw [hu, Bool.or_true])
  | del t => exact atomic_TI x _ fun _ => Or.inr ⟨by cases t <;> rfl, rfl⟩

theorem runCleanup_TI (hu : invBy .updateTier = true) (n : Nat) (cl : List Act) (x : Exec) :
    TI x (runCleanup n cl x).1 := by
  induction cl generalizing x with
  | nil => exact TI.refl x
  | cons a rest ih =>
    have hp := prim_TI hu n a x
    unfold runCleanup
    cases hpr : prim n a x with
    | mk x' r =>
      rw [hpr] at hp
      cases r with
      | ok | failed => exact TI.trans hp (ih x')
      | crashed => exact hp

theorem runSteps_TI (hu : invBy .updateTier = true) (n : Nat) (steps : List Step) (x : Exec) :
    TI x (runSteps n steps x).1 := by
  induction steps generalizing x with
  | nil => exact TI.refl x
  | cons s rest ih =>
    have hp := prim_TI hu n s.act x
    unfold runSteps
    cases hpr : prim n s.act x with
    | mk x' r =>
      rw [hpr] at hp
      cases r
      · exact TI.trans hp (ih x')
      · simp only []
        cases hof : s.onFail with
        | tolerate => exact TI.trans hp (ih x')
        | abort cl => exact TI.trans hp (runCleanup_TI hu n cl x')
      · exact hp

/-- after a migration attempt: the cache was invalidated or the metadata tier is unchanged -/
theorem migOp_TI (hu : invBy .updateTier = true) (n : Nat) (s : FileSt) (orc : List Outcome) :
    (migOp n s orc).1.inval = true ∨ (migOp n s orc).1.st.tier = s.tier := by
  unfold migOp
  split
  · exact (runSteps_TI hu n migrateSteps { st := s, orc := orc, logged := false }).imp_right And.left
  · exact Or.inr rfl

theorem scanOp_TI (hr : invBy .recordFile = true) (s : FileSt) (orc : List Outcome) :
    (scanOp s orc).1.inval = true ∨ (scanOp s orc).1.st.tier = s.tier := by
  rw [scanOp_eq]
  split
  · refine (atomic_TI { st := s, orc := orc, logged := false } scanUpsert fun _ => Or.inl ?_).imp_right And.left
    show (false || invBy .recordFile) = true
    rw [hr]; rfl
  · exact Or.inr rfl

theorem recOp_tier (s : FileSt) (orc : List Outcome) : (recOp s orc).1.st.tier = s.tier := by
  rw [recOp_eq]
  split
  · obtain ⟨r, h | ⟨_, h⟩, _⟩ := probeDelete_cases recProbe recDelete { st := s, orc := orc, logged := false }
    · rw [h]
    · rw [h]; cases recDelete <;> rfl
  · rfl

/-- a cache entry, if present, lists exactly the tiers the measurement currently has rows in -/
def Coh (w : World) : Prop := ∀ e, w.cache = some e → (e.hot, e.cold) = w.tiers

theorem coh_after {w : World} {f' : FileSt} {crashed inval : Bool} (h : Coh w)
    (ht : inval = true ∨ f'.tier = w.f.tier) : Coh (w.after f' crashed inval) := by
  intro e he
  unfold World.after at he ⊢
  cases hc : (crashed || inval) with
  | true => simp [hc] at he
  | false =>
    simp only [hc, Bool.false_eq_true, if_false] at he
    have hi : inval = false := (Bool.or_eq_false_iff.mp hc).2
    rcases ht with ht | ht
    · rw [hi] at ht; cases ht
    · have := h e he
      unfold World.tiers at this ⊢
      simp only [ht]
      exact this

theorem coh_mig (hu : invBy .updateTier = true) (n : Nat) {w : World} (orc : List Outcome) (h : Coh w) :
    Coh (wMig n w orc) := coh_after h (migOp_TI hu n w.f orc)

theorem coh_rec {w : World} (orc : List Outcome) (h : Coh w) : Coh (wRec w orc) :=
  coh_after h (Or.inr (recOp_tier w.f orc))

theorem coh_scan (hr : invBy .recordFile = true) {w : World} (orc : List Outcome) (h : Coh w) :
    Coh (wScan w orc) :=
  coh_after h ((scanOp_TI hr w.f orc).imp_left fun h1 => by rw [h1]; rfl)

theorem coh_addMig (hr : invBy .recordFile = true) {w : World} (k : Nat) (h : Coh w) : Coh (wAddMig w k) := by
  unfold wAddMig
  split
  · exact h
  · intro e he
    simp [hr] at he

/-- the entry a query uses is a live coherent one or a fresh fill -/
theorem queryEnt_tiers {w : World} (h : Coh w) : ((queryEnt w).hot, (queryEnt w).cold) = w.tiers := by
  unfold queryEnt
  cases hc : w.cache with
  | none => rfl
  | some e0 =>
    simp only []
    split
    · exact h e0 hc
    · rfl

theorem coh_query {w : World} (h : Coh w) : Coh (wQuery w).1 := by
  intro e he
  cases he
  exact queryEnt_tiers h

end Arc.C12
