import Arc.Proofs.C12.Ops
/-!
# C12 — model of the PROPOSED repair of `ReconcileOrphanedFiles`

The patch (not applied to /repo): before the existing hot-orphan pass, probe the cold backend for every
current migration candidate (metadata tier = source tier) and delete a cold copy found there.
For one file the two passes are mutually exclusive (candidate ⇔ metadata says hot, hot-orphan pass
⇔ metadata says cold), so the repaired operation is:
-/
namespace Arc.C12
open Arc.Generated.C12

def recFixOp (s : FileSt) (orc : List Outcome) : Exec × RecOut :=
  let x : Exec := { st := s, orc := orc, logged := false }
  if s.tier = srcTier then
    match atomic x id with                                     -- coldBackend.Exists probe
    | (x1, .crashed) => (x1, { crashed := true })
    | (x1, .failed) => (x1, { errors := 1 })
    | (x1, .ok) =>
      if x1.st.has dstTier then
        match atomic x1 (fun y => { y with st := y.st.setObj dstTier false }) with
        | (x2, .ok) => (x2, { found := 1, deleted := 1 })
        | (x2, .failed) => (x2, { found := 1, errors := 1 })
        | (x2, .crashed) => (x2, { found := 1, crashed := true })
      else (x1, {})
  else recOp s orc

def absRecFix (a : Abs) : List Abs :=
  if a.tier = srcTier then
    (if a.has dstTier then [a, a.setObj dstTier false] else [a])
  else absRec a

def absRecFixOk (a : Abs) : Abs :=
  if a.tier = srcTier then (if a.has dstTier then a.setObj dstTier false else a) else absRecOk a

theorem recFixOp_eq (s : FileSt) (orc : List Outcome) :
    recFixOp s orc =
      if s.tier = srcTier then probeDelete dstTier dstTier { st := s, orc := orc, logged := false }
      else recOp s orc := rfl

theorem recFixOp_sim (s : FileSt) (orc : List Outcome) : absOf (recFixOp s orc).1.st ∈ absRecFix (absOf s) := by
  rw [recFixOp_eq]
  unfold absRecFix
  by_cases hg : s.tier = srcTier
  · rw [if_pos hg, if_pos (show (absOf s).tier = srcTier from hg)]
    exact probeDelete_sim ..
  · rw [if_neg hg, if_neg (show ¬ (absOf s).tier = srcTier from hg)]
    exact recOp_sim s orc

theorem recFixOp_clean (s : FileSt) (orc : List Outcome) (h : AllOk orc) :
    (recFixOp s orc).2.errors = 0 ∧ (recFixOp s orc).2.crashed = false ∧
      absOf (recFixOp s orc).1.st = absRecFixOk (absOf s) := by
  rw [recFixOp_eq]
  unfold absRecFixOk
  by_cases hg : s.tier = srcTier
  · rw [if_pos hg, if_pos (show (absOf s).tier = srcTier from hg)]
    obtain ⟨h1, h2, _, h4⟩ := probeDelete_clean dstTier dstTier { st := s, orc := orc, logged := false } h
    exact ⟨h1, h2, h4⟩
  · rw [if_neg hg, if_neg (show ¬ (absOf s).tier = srcTier from hg)]
    obtain ⟨h1, h2, _, h4⟩ := recOp_clean s orc h
    exact ⟨h1, h2, h4⟩

end Arc.C12
