import Arc.Model.C12
/-!
# C12 — finite abstraction of the migration interpreter

`FileSt` is projected to `Abs = (hot, cold, tier, recent)` (16 values). Every primitive mutation is
over-approximated by a finite nondeterministic relation (`absPrim`), the step-list interpreter by
`absRun`. `runSteps_sim` shows that, for EVERY step list, chunk count and oracle, the concrete run is
one of the abstract runs. Properties of a concrete step list (the generated one) then reduce to
`decide`-able checks over the 16 abstract states (`SafeMig`, `OnceMig`, …).

Each piece of the interpreter (`atomic`, `copyChunks`, `copyHotCold`) first gets one lemma saying what a
run can do to the execution context; the simulation here, the fault-free runs (`Ops`) and the cache
invariant (`Cache`) all start from those.
-/
namespace Arc.C12

structure Abs where
  hot : Bool
  cold : Bool
  tier : Tier
  recent : Bool
deriving DecidableEq, Repr

def absOf (s : FileSt) : Abs := { hot := s.hot, cold := s.cold, tier := s.tier, recent := s.recent }

def allAbs : List Abs :=
  [false, true].flatMap fun r =>
  [⟨false, false, .hot, r⟩, ⟨false, true, .hot, r⟩, ⟨true, false, .hot, r⟩, ⟨true, true, .hot, r⟩,
   ⟨false, false, .cold, r⟩, ⟨false, true, .cold, r⟩, ⟨true, false, .cold, r⟩, ⟨true, true, .cold, r⟩]

theorem mem_allAbs (a : Abs) : a ∈ allAbs := by
  obtain ⟨h, c, t, r⟩ := a
  cases h <;> cases c <;> cases t <;> cases r <;> decide

def Abs.has (a : Abs) : Tier → Bool
  | .hot => a.hot
  | .cold => a.cold

def Abs.setObj (a : Abs) (t : Tier) (b : Bool) : Abs :=
  match t with
  | .hot => { a with hot := b }
  | .cold => { a with cold := b }

/-- the tier the metadata row points to holds the complete object -/
def Abs.inv (a : Abs) : Bool := a.has a.tier

theorem absOf_setObj {s : FileSt} {t : Tier} {b : Bool} : absOf (s.setObj t b) = (absOf s).setObj t b := by
  cases t <;> rfl

theorem absOf_has (s : FileSt) (t : Tier) : s.has t = (absOf s).has t := by
  cases t <;> rfl

def absAtomic (a a' : Abs) : List (Abs × R) := [(a', .ok), (a, .failed), (a, .crashed)]

def absPrim : Act → Abs → List (Abs × R)
  | .record, a => absAtomic a a
  | .complete, a => absAtomic a a
  | .copy .hot .cold, a => absAtomic a { a with cold := true }
  | .copy .hot .hot, a => [(a, .failed)]
  | .copy .cold .hot, a => [(a, .failed)]
  | .copy .cold .cold, a => [(a, .failed)]
  | .setMeta t, a => absAtomic a { a with tier := t, recent := true }
  | .del t, a => absAtomic a (a.setObj t false)

def absCleanup : List Act → Abs → List (Abs × Exit)
  | [], a => [(a, .err)]
  | x :: rest, a =>
    (absPrim x a).flatMap fun p => if p.2 = .crashed then [(p.1, .crash)] else absCleanup rest p.1

def absRun : List Step → Abs → List (Abs × Exit)
  | [], a => [(a, .ok)]
  | s :: rest, a =>
    (absPrim s.act a).flatMap fun p =>
      match p.2 with
      | .ok => absRun rest p.1
      | .crashed => [(p.1, .crash)]
      | .failed =>
        match s.onFail with
        | .tolerate => absRun rest p.1
        | .abort cl => absCleanup cl p.1

/-! ## one run of each piece of the interpreter

What it can do to the execution context under any oracle, and what it does under an all-`ok` one. -/

def AllOk (o : List Outcome) : Prop := ∀ x ∈ o, x = Outcome.ok

theorem allOk_nil : AllOk [] := by intro x hx; cases hx

theorem pop_allOk (o : List Outcome) (h : AllOk o) : (pop o).1 = .ok ∧ AllOk (pop o).2 := by
  cases o with
  | nil => exact ⟨rfl, h⟩
  | cons a r => exact ⟨h a (List.mem_cons_self ..), fun x hx => h x (List.mem_cons_of_mem _ hx)⟩

/-- an atomic mutation takes effect, or — only under an oracle that is not all-`ok` — fails or crashes
without effect; in each case one oracle letter is gone -/
theorem atomic_cases (x : Exec) (f : Exec → Exec) : ∃ r, (AllOk x.orc → AllOk r) ∧
    (atomic x f = (f { x with orc := r }, .ok) ∨
      ¬ AllOk x.orc ∧ (atomic x f = ({ x with orc := r }, .failed) ∨ atomic x f = ({ x with orc := r }, .crashed))) := by
  have hp := pop_allOk x.orc
  unfold atomic
  cases h : pop x.orc with
  | mk o r =>
    rw [h] at hp
    refine ⟨r, fun ha => (hp ha).2, ?_⟩
    cases o
    · exact .inl rfl
    · exact .inr ⟨fun ha => (nomatch (hp ha).1), .inl rfl⟩
    · exact .inr ⟨fun ha => (nomatch (hp ha).1), .inr rfl⟩
    · exact .inr ⟨fun ha => (nomatch (hp ha).1), .inl rfl⟩

theorem atomic_clean (x : Exec) (f : Exec → Exec) (h : AllOk x.orc) :
    ∃ r, AllOk r ∧ atomic x f = (f { x with orc := r }, .ok) := by
  obtain ⟨r, hr, he | ⟨hn, _⟩⟩ := atomic_cases x f
  · exact ⟨r, hr h, he⟩
  · exact absurd h hn

/-- the chunk loop touches only the oracle and the staging object -/
theorem copyChunks_frame (k w : Nat) (x : Exec) : ∃ r p,
    (copyChunks k w x).1 = { x with orc := r, st := { x.st with part := p } } ∧
    (AllOk x.orc → AllOk r ∧ (copyChunks k w x).2 = .ok) := by
  induction k generalizing w x with
  | zero => exact ⟨x.orc, x.st.part, rfl, fun h => ⟨h, rfl⟩⟩
  | succ k ih =>
    have hp := pop_allOk x.orc
    unfold copyChunks
    cases h : pop x.orc with
    | mk o r =>
      rw [h] at hp
      cases o
      · obtain ⟨r', p', h', hc⟩ := ih (w + 1) { x with orc := r, st := { x.st with part := some (w + 1) } }
        exact ⟨r', p', h', fun ha => hc (hp ha).2⟩
      all_goals exact ⟨r, x.st.part, rfl, fun ha => nomatch (hp ha).1⟩

/-- the streaming copy ends `ok` with the complete cold object, or fails / crashes having touched at
most the staging object; with a source and an all-`ok` oracle it ends `ok` -/
theorem copyHotCold_cases (n : Nat) (x : Exec) : ∃ r p,
    (copyHotCold n x = ({ x with orc := r, st := { x.st with cold := true, part := none } }, .ok) ∨
      copyHotCold n x = ({ x with orc := r, st := { x.st with part := p } }, .failed) ∨
      copyHotCold n x = ({ x with orc := r, st := { x.st with part := p } }, .crashed)) ∧
    (AllOk x.orc → x.st.hot = true → AllOk r ∧ (copyHotCold n x).2 = .ok) := by
  unfold copyHotCold
  obtain ⟨r, hr, h | ⟨hn, h | h⟩⟩ := atomic_cases x (fun y => { y with st := { y.st with part := some 0 } })
  · rw [h]
    dsimp only
    split
    · rename_i hh
      exact ⟨r, some 0, .inr (.inl rfl), fun _ hot => by simp [hot] at hh⟩
    · obtain ⟨r2, p2, h2, hc2⟩ := copyChunks_frame n 0 { x with orc := r, st := { x.st with part := some 0 } }
      cases hcc : copyChunks n 0 { x with orc := r, st := { x.st with part := some 0 } } with
      | mk x2 res =>
        rw [hcc] at h2 hc2
        dsimp only at h2 hc2
        subst h2
        cases res
        · dsimp only
          obtain ⟨r3, hr3, h3 | ⟨hn3, h3 | h3⟩⟩ := atomic_cases
            { x with orc := r2, st := { x.st with part := p2 } }
            (fun y => { y with st := { y.st with cold := true, part := none } })
          · rw [h3]
            exact ⟨r3, none, .inl rfl, fun ha _ => ⟨hr3 (hc2 (hr ha)).1, rfl⟩⟩
          · rw [h3]
            exact ⟨r3, p2, .inr (.inl rfl), fun ha _ => absurd (hc2 (hr ha)).1 hn3⟩
          · rw [h3]
            exact ⟨r3, p2, .inr (.inr rfl), fun ha _ => absurd (hc2 (hr ha)).1 hn3⟩
        · exact ⟨r2, p2, .inr (.inl rfl), fun ha _ => nomatch (hc2 (hr ha)).2⟩
        · exact ⟨r2, p2, .inr (.inr rfl), fun ha _ => nomatch (hc2 (hr ha)).2⟩
  · rw [h]
    exact ⟨r, x.st.part, .inr (.inl rfl), fun ha _ => absurd ha hn⟩
  · rw [h]
    exact ⟨r, x.st.part, .inr (.inr rfl), fun ha _ => absurd ha hn⟩

theorem atomic_sim {x : Exec} {f : Exec → Exec} {a' : Abs}
    (hf : ∀ r, absOf (f { x with orc := r }).st = a') :
    (absOf (atomic x f).1.st, (atomic x f).2) ∈ absAtomic (absOf x.st) a' := by
  obtain ⟨r, _, h | ⟨_, h | h⟩⟩ := atomic_cases x f <;> simp [h, absAtomic, hf]

theorem copyHotCold_sim (n : Nat) (x : Exec) :
    (absOf (copyHotCold n x).1.st, (copyHotCold n x).2) ∈
      absAtomic (absOf x.st) { absOf x.st with cold := true } := by
  obtain ⟨r, p, h | h | h, _⟩ := copyHotCold_cases n x <;> rw [h] <;> simp [absAtomic, absOf]

theorem prim_sim (n : Nat) (a : Act) (x : Exec) :
    (absOf (prim n a x).1.st, (prim n a x).2) ∈ absPrim a (absOf x.st) := by
  cases a with
  | record => exact atomic_sim fun _ => rfl
  | complete =>
    simp only [prim]
    split
    · exact atomic_sim fun _ => rfl
    · exact List.mem_cons_self ..
  | copy src dst =>
    cases src <;> cases dst
    · exact List.mem_singleton.mpr rfl
    · exact copyHotCold_sim n x
    · exact List.mem_singleton.mpr rfl
    · exact List.mem_singleton.mpr rfl
  | setMeta t => exact atomic_sim fun _ => rfl
  | del t => exact atomic_sim fun _ => absOf_setObj

theorem runCleanup_sim (n : Nat) (cl : List Act) (x : Exec) :
    (absOf (runCleanup n cl x).1.st, (runCleanup n cl x).2) ∈ absCleanup cl (absOf x.st) := by
  induction cl generalizing x with
  | nil => simp [runCleanup, absCleanup]
  | cons a rest ih =>
    have hp := prim_sim n a x
    unfold runCleanup absCleanup
    rw [List.mem_flatMap]
    refine ⟨_, hp, ?_⟩
    cases hpr : prim n a x with
    | mk x' r =>
      cases r <;> simp [ih x']

theorem runSteps_sim (n : Nat) (steps : List Step) (x : Exec) :
    (absOf (runSteps n steps x).1.st, (runSteps n steps x).2) ∈ absRun steps (absOf x.st) := by
  induction steps generalizing x with
  | nil => simp [runSteps, absRun]
  | cons s rest ih =>
    have hp := prim_sim n s.act x
    unfold runSteps absRun
    rw [List.mem_flatMap]
    refine ⟨_, hp, ?_⟩
    cases hpr : prim n s.act x with
    | mk x' r =>
      cases r
      · simpa using ih x'
      · simp only []
        cases hof : s.onFail with
        | tolerate => simpa using ih x'
        | abort cl => simpa using runCleanup_sim n cl x'
      · simp

end Arc.C12
