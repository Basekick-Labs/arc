import Arc.Proofs.C12.Abs
/-!
# C12 — the operations over the abstraction

Each operation (`migOp`, `recOp`, `scanOp`, a phase, a cycle) is abstracted twice: by the list of
abstract states it can end in under ANY oracle (`absMig`, `absRec`, `absScan`; lemmas `*_sim`), and by
the one abstract state it ends in under an all-`ok` oracle (`abs*Ok`; lemmas `*_clean`, which also say
that it reports no error and leaves an all-`ok` oracle). The body of the reconciliation and the upsert
of the scan get names (`probeDelete`, `scanUpsert`), so that `recOp`, its repaired form and `scanOp`
are each a guard around a piece analysed once.
-/
namespace Arc.C12
open Arc.Generated.C12

/-! ## any oracle -/

def absRec (a : Abs) : List Abs :=
  if a.tier = recGuard ∧ a.recent = true then
    (if a.has recProbe then [a, a.setObj recDelete false] else [a])
  else [a]

def absScan (a : Abs) : List Abs :=
  if a.hot && !scanSkipsRegistered then
    [a, { a with tier := scanTier, recent := if a.tier = scanTier then a.recent else true }]
  else [a]

def absAge (a : Abs) : Abs := { a with recent := false }

theorem absOf_age (s : FileSt) : absOf (ageOp s) = absAge (absOf s) := rfl

def absMig (a : Abs) : List Abs :=
  if a.tier = srcTier then (absRun migrateSteps a).map (·.1) else [a]

/-- probe one tier for the object and delete it from another: the body shared by
`ReconcileOrphanedFiles` and its repaired form -/
def probeDelete (probe del : Tier) (x : Exec) : Exec × RecOut :=
  match atomic x id with
  | (x1, .crashed) => (x1, { crashed := true })
  | (x1, .failed) => (x1, { errors := 1 })
  | (x1, .ok) =>
    if x1.st.has probe then
      match atomic x1 (fun y => { y with st := y.st.setObj del false }) with
      | (x2, .ok) => (x2, { found := 1, deleted := 1 })
      | (x2, .failed) => (x2, { found := 1, errors := 1 })
      | (x2, .crashed) => (x2, { found := 1, crashed := true })
    else (x1, {})

theorem recOp_eq (s : FileSt) (orc : List Outcome) :
    recOp s orc =
      if s.tier = recGuard ∧ s.recent = true then
        probeDelete recProbe recDelete { st := s, orc := orc, logged := false }
      else ({ st := s, orc := orc, logged := false }, {}) := rfl

/-- the object is left alone, or it was found and deleted; under an all-`ok` oracle the latter
happens exactly if it is found, without error -/
theorem probeDelete_cases (probe del : Tier) (x : Exec) : ∃ r,
    ((probeDelete probe del x).1 = { x with orc := r } ∨
      x.st.has probe = true ∧ (probeDelete probe del x).1 = { x with orc := r, st := x.st.setObj del false }) ∧
    (AllOk x.orc → AllOk r ∧ (probeDelete probe del x).2.errors = 0 ∧ (probeDelete probe del x).2.crashed = false ∧
      (probeDelete probe del x).1 =
        { x with orc := r, st := if x.st.has probe then x.st.setObj del false else x.st }) := by
  unfold probeDelete
  obtain ⟨r, hr, h | ⟨hn, h | h⟩⟩ := atomic_cases x id
  · rw [h]
    dsimp only [id]
    split
    · rename_i hp
      obtain ⟨r2, hr2, h2 | ⟨hn2, h2 | h2⟩⟩ :=
        atomic_cases { x with orc := r } (fun y => { y with st := y.st.setObj del false })
      · rw [h2]
        exact ⟨r2, .inr ⟨hp, rfl⟩, fun ha => ⟨hr2 (hr ha), rfl, rfl, rfl⟩⟩
      · rw [h2]
        exact ⟨r2, .inl rfl, fun ha => absurd (hr ha) hn2⟩
      · rw [h2]
        exact ⟨r2, .inl rfl, fun ha => absurd (hr ha) hn2⟩
    · exact ⟨r, .inl rfl, fun ha => ⟨hr ha, rfl, rfl, rfl⟩⟩
  · rw [h]
    exact ⟨r, .inl rfl, fun ha => absurd ha hn⟩
  · rw [h]
    exact ⟨r, .inl rfl, fun ha => absurd ha hn⟩

theorem probeDelete_sim (probe del : Tier) (x : Exec) :
    absOf (probeDelete probe del x).1.st ∈
      if (absOf x.st).has probe then [absOf x.st, (absOf x.st).setObj del false] else [absOf x.st] := by
  obtain ⟨r, h | ⟨hp, h⟩, _⟩ := probeDelete_cases probe del x
  · rw [h]; split <;> simp
  · rw [h, ← absOf_has, if_pos hp]; simp [absOf_setObj]

theorem probeDelete_clean (probe del : Tier) (x : Exec) (h : AllOk x.orc) :
    (probeDelete probe del x).2.errors = 0 ∧ (probeDelete probe del x).2.crashed = false ∧
    AllOk (probeDelete probe del x).1.orc ∧
    absOf (probeDelete probe del x).1.st =
      if (absOf x.st).has probe then (absOf x.st).setObj del false else absOf x.st := by
  obtain ⟨r, _, hc⟩ := probeDelete_cases probe del x
  obtain ⟨hr, he, hcr, hx⟩ := hc h
  refine ⟨he, hcr, by rw [hx]; exact hr, ?_⟩
  rw [hx, ← absOf_has]
  split
  · exact absOf_setObj
  · rfl

theorem recOp_sim (s : FileSt) (orc : List Outcome) : absOf (recOp s orc).1.st ∈ absRec (absOf s) := by
  rw [recOp_eq]
  unfold absRec
  by_cases hg : s.tier = recGuard ∧ s.recent = true
  · rw [if_pos hg, if_pos (show (absOf s).tier = recGuard ∧ (absOf s).recent = true from hg)]
    exact probeDelete_sim ..
  · rw [if_neg hg, if_neg (show ¬ ((absOf s).tier = recGuard ∧ (absOf s).recent = true) from hg)]
    simp

/-- the upsert of `ScanAndRegisterFiles` -/
def scanUpsert (y : Exec) : Exec :=
  { y with st := { y.st with tier := scanTier, recent := if y.st.tier = scanTier then y.st.recent else true },
           inval := y.inval || cacheInvalidatedBy.contains .recordFile }

theorem scanOp_eq (s : FileSt) (orc : List Outcome) :
    scanOp s orc =
      if s.hot && !scanSkipsRegistered then atomic { st := s, orc := orc, logged := false } scanUpsert
      else ({ st := s, orc := orc, logged := false }, .ok) := rfl

theorem scanOp_sim (s : FileSt) (orc : List Outcome) : absOf (scanOp s orc).1.st ∈ absScan (absOf s) := by
  rw [scanOp_eq]
  unfold absScan
  by_cases hh : (s.hot && !scanSkipsRegistered) = true
  · rw [if_pos hh, if_pos (show ((absOf s).hot && !scanSkipsRegistered) = true from hh)]
    obtain ⟨r, _, h | ⟨_, h | h⟩⟩ := atomic_cases { st := s, orc := orc, logged := false } scanUpsert <;> rw [h]
    · exact List.mem_cons_of_mem _ (List.mem_singleton.mpr rfl)
    · exact List.mem_cons_self ..
    · exact List.mem_cons_self ..
  · rw [if_neg hh, if_neg (show ¬ ((absOf s).hot && !scanSkipsRegistered) = true from hh)]
    exact List.mem_singleton.mpr rfl

theorem migOp_sim (n : Nat) (s : FileSt) (orc : List Outcome) :
    absOf (migOp n s orc).1.st ∈ absMig (absOf s) := by
  unfold migOp absMig
  by_cases hg : s.tier = srcTier
  · have hg' : (absOf s).tier = srcTier := hg
    rw [if_pos hg, if_pos hg']
    simp only []
    have := runSteps_sim n migrateSteps { st := s, orc := orc, logged := false }
    exact List.mem_map.mpr ⟨_, this, rfl⟩
  · have hg' : ¬ (absOf s).tier = srcTier := hg
    rw [if_neg hg, if_neg hg']; simp

/-! ## an all-`ok` oracle -/

/-- result of a primitive when nothing fails -/
def absPrimOk : Act → Abs → Option Abs
  | .record, a => some a
  | .complete, a => some a
  | .copy .hot .cold, a => if a.hot then some { a with cold := true } else none
  | .copy .hot .hot, _ => none
  | .copy .cold .hot, _ => none
  | .copy .cold .cold, _ => none
  | .setMeta t, a => some { a with tier := t, recent := true }
  | .del t, a => some (a.setObj t false)

def absRunOk : List Step → Abs → Option Abs
  | [], a => some a
  | s :: rest, a =>
    match absPrimOk s.act a with
    | some a' => absRunOk rest a'
    | none => none

theorem copyHotCold_clean (n : Nat) (x : Exec) (h : AllOk x.orc) (hh : x.st.hot = true) :
    (copyHotCold n x).2 = .ok ∧ AllOk (copyHotCold n x).1.orc ∧
      absOf (copyHotCold n x).1.st = { absOf x.st with cold := true } := by
  obtain ⟨r, p, hcase, hc⟩ := copyHotCold_cases n x
  obtain ⟨hr, hok⟩ := hc h hh
  rcases hcase with h' | h' | h' <;> rw [h'] at hok ⊢
  · exact ⟨rfl, hr, rfl⟩
  · cases hok
  · cases hok

theorem prim_clean (n : Nat) {a : Act} {x : Exec} {a' : Abs} (h : AllOk x.orc)
    (hp : absPrimOk a (absOf x.st) = some a') :
    (prim n a x).2 = .ok ∧ AllOk (prim n a x).1.orc ∧ absOf (prim n a x).1.st = a' := by
  -- an atomic mutation `f` under an all-`ok` oracle
  have hat : ∀ f : Exec → Exec, (∀ y, (f y).orc = y.orc) → (∀ r, absOf (f { x with orc := r }).st = a') →
      (atomic x f).2 = .ok ∧ AllOk (atomic x f).1.orc ∧ absOf (atomic x f).1.st = a' := fun f ho hf => by
    obtain ⟨r, hr, he⟩ := atomic_clean x f h
    rw [he]
    exact ⟨rfl, by rw [ho]; exact hr, hf r⟩
  cases a with
  | record => exact hat _ (fun _ => rfl) fun _ => Option.some.inj hp
  | complete =>
    simp only [prim]
    split
    · exact hat _ (fun _ => rfl) fun _ => Option.some.inj hp
    · exact ⟨rfl, h, Option.some.inj hp⟩
  | copy src dst =>
    cases src <;> cases dst
    · cases hp
    · simp only [absPrimOk] at hp
      split at hp
      · rename_i hh
        cases hp
        exact copyHotCold_clean n x h hh
      · cases hp
    · cases hp
    · cases hp
  | setMeta t => exact hat _ (fun _ => rfl) fun _ => Option.some.inj hp
  | del t => exact hat _ (fun _ => rfl) fun _ => absOf_setObj.trans (Option.some.inj hp)

theorem runSteps_clean (n : Nat) {steps : List Step} {x : Exec} {a' : Abs} (h : AllOk x.orc)
    (hp : absRunOk steps (absOf x.st) = some a') :
    (runSteps n steps x).2 = .ok ∧ AllOk (runSteps n steps x).1.orc ∧ absOf (runSteps n steps x).1.st = a' := by
  induction steps generalizing x with
  | nil => cases hp; exact ⟨rfl, h, rfl⟩
  | cons s rest ih =>
    rw [absRunOk] at hp
    split at hp
    · rename_i a1 hq
      obtain ⟨h1, h2, h3⟩ := prim_clean n h hq
      rw [runSteps, show prim n s.act x = ((prim n s.act x).1, R.ok) from Prod.ext rfl h1]
      exact ih h2 (h3 ▸ hp)
    · cases hp

/-- fault-free `MigrateTier` over the file -/
def absMigOk (a : Abs) : Option Abs :=
  if a.tier = srcTier then absRunOk migrateSteps a else some a

/-- fault-free `ReconcileOrphanedFiles` over the file -/
def absRecOk (a : Abs) : Abs :=
  if a.tier = recGuard ∧ a.recent = true then (if a.has recProbe then a.setObj recDelete false else a) else a

/-- fault-free `ScanAndRegisterFiles` over the file -/
def absScanOk (a : Abs) : Abs :=
  if a.hot && !scanSkipsRegistered then
    { a with tier := scanTier, recent := if a.tier = scanTier then a.recent else true }
  else a

theorem migOp_clean (n : Nat) {s : FileSt} {orc : List Outcome} {a' : Abs} (h : AllOk orc)
    (hp : absMigOk (absOf s) = some a') :
    ((migOp n s orc).2 = some .ok ∨ (migOp n s orc).2 = none) ∧ AllOk (migOp n s orc).1.orc ∧
      absOf (migOp n s orc).1.st = a' ∧ (s.tier = srcTier → (migOp n s orc).2 = some .ok) := by
  unfold migOp
  unfold absMigOk at hp
  by_cases hg : s.tier = srcTier
  · rw [if_pos (show (absOf s).tier = srcTier from hg)] at hp
    rw [if_pos hg]
    obtain ⟨h1, h2, h3⟩ := runSteps_clean n (x := { st := s, orc := orc, logged := false }) h hp
    exact ⟨Or.inl (congrArg some h1), h2, h3, fun _ => congrArg some h1⟩
  · rw [if_neg (show ¬ (absOf s).tier = srcTier from hg)] at hp
    rw [if_neg hg]
    cases hp
    exact ⟨Or.inr rfl, h, rfl, fun h' => absurd h' hg⟩

theorem recOp_clean (s : FileSt) (orc : List Outcome) (h : AllOk orc) :
    (recOp s orc).2.errors = 0 ∧ (recOp s orc).2.crashed = false ∧ AllOk (recOp s orc).1.orc ∧
      absOf (recOp s orc).1.st = absRecOk (absOf s) := by
  rw [recOp_eq]
  unfold absRecOk
  by_cases hg : s.tier = recGuard ∧ s.recent = true
  · rw [if_pos hg, if_pos (show (absOf s).tier = recGuard ∧ (absOf s).recent = true from hg)]
    exact probeDelete_clean _ _ _ h
  · rw [if_neg hg, if_neg (show ¬ ((absOf s).tier = recGuard ∧ (absOf s).recent = true) from hg)]
    exact ⟨rfl, rfl, h, rfl⟩

theorem scanOp_clean (s : FileSt) (orc : List Outcome) (h : AllOk orc) :
    (scanOp s orc).2 = .ok ∧ AllOk (scanOp s orc).1.orc ∧ absOf (scanOp s orc).1.st = absScanOk (absOf s) := by
  rw [scanOp_eq]
  unfold absScanOk
  by_cases hh : (s.hot && !scanSkipsRegistered) = true
  · rw [if_pos hh, if_pos (show ((absOf s).hot && !scanSkipsRegistered) = true from hh)]
    obtain ⟨r, hr, he⟩ := atomic_clean { st := s, orc := orc, logged := false } scanUpsert h
    rw [he]
    exact ⟨rfl, hr, rfl⟩
  · rw [if_neg hh, if_neg (show ¬ ((absOf s).hot && !scanSkipsRegistered) = true from hh)]
    exact ⟨rfl, h, rfl⟩

def absPhaseOk (p : Phase) (a : Abs) : Option Abs :=
  match p with
  | .scan => some (absScanOk a)
  | .migrate => absMigOk a
  | .reconcile => some (absRecOk a)

def absPhasesOk : List Phase → Abs → Option Abs
  | [], a => some a
  | p :: ps, a =>
    match absPhaseOk p a with
    | some a' => absPhasesOk ps a'
    | none => none

theorem phaseOp_clean (n : Nat) {p : Phase} {s : FileSt} {orc : List Outcome} {a' : Abs} (h : AllOk orc)
    (hp : absPhaseOk p (absOf s) = some a') :
    (phaseOp n p s orc).2.2 = false ∧ AllOk (phaseOp n p s orc).2.1 ∧ absOf (phaseOp n p s orc).1 = a' := by
  cases p with
  | scan =>
    cases hp
    obtain ⟨h1, h2, h3⟩ := scanOp_clean s orc h
    exact ⟨by simp only [phaseOp, h1]; rfl, h2, h3⟩
  | migrate =>
    obtain ⟨h1, h2, h3, _⟩ := migOp_clean n h hp
    refine ⟨?_, h2, h3⟩
    rcases h1 with h1 | h1 <;> simp only [phaseOp, h1] <;> rfl
  | reconcile =>
    cases hp
    obtain ⟨_, h1, h2, h3⟩ := recOp_clean s orc h
    exact ⟨h1, h2, h3⟩

theorem runPhases_clean (n : Nat) {ps : List Phase} {s : FileSt} {orc : List Outcome} {a' : Abs} (h : AllOk orc)
    (hp : absPhasesOk ps (absOf s) = some a') :
    (runPhases n ps s orc).2 = false ∧ absOf (runPhases n ps s orc).1 = a' := by
  induction ps generalizing s orc with
  | nil => cases hp; exact ⟨rfl, rfl⟩
  | cons p rest ih =>
    rw [absPhasesOk] at hp
    split at hp
    · rename_i a1 hq
      obtain ⟨h1, h2, h3⟩ := phaseOp_clean n h hq
      rw [runPhases, show phaseOp n p s orc = ((phaseOp n p s orc).1, (phaseOp n p s orc).2.1, false) from
        Prod.ext rfl (Prod.ext rfl h1)]
      exact ih h2 (h3 ▸ hp)
    · cases hp

end Arc.C12
