import Arc.Spec.C01
/-! `trimSpace` on text with blanks around a core whose ends are not strippable. -/
namespace Arc.C01

theorem blank_isAsciiSpace {b : UInt8} (h : blank b = true) : isAsciiSpace b = true := by
  simp only [blank, isAsciiSpace, Bool.or_eq_true] at h ⊢
  rcases h with (((h | h) | h) | h) | h <;> simp only [h, true_or, or_true]

/-! ### the space runes beyond ASCII consist of bytes ≥ 0x80 only -/

theorem uniSpace2_lt (a b : UInt8) (h : a < 0x80 ∨ b < 0x80) : uniSpace2 a b = false := by
  rw [Bool.eq_false_iff]; intro hu
  simp only [uniSpace2, Bool.and_eq_true, Bool.or_eq_true, beq_iff_eq] at hu
  obtain ⟨rfl, rfl | rfl⟩ := hu <;> revert h <;> decide

theorem uniSpace3_lt (a b c : UInt8) (h : a < 0x80 ∨ b < 0x80 ∨ c < 0x80) : uniSpace3 a b c = false := by
  rw [Bool.eq_false_iff]; intro hu
  simp only [uniSpace3, Bool.and_eq_true, Bool.or_eq_true, beq_iff_eq, decide_eq_true_eq] at hu
  rcases hu with ((⟨⟨rfl, rfl⟩, rfl⟩ | ⟨⟨rfl, rfl⟩, hc⟩) | ⟨⟨rfl, rfl⟩, rfl⟩) | ⟨⟨rfl, rfl⟩, rfl⟩
  · revert h; decide
  · rcases hc with ((hc | rfl) | rfl) | rfl
    · rcases h with h | h | h
      · exact absurd h (by decide)
      · exact absurd h (by decide)
      · exact absurd h (UInt8.not_lt.mpr hc.1)
    all_goals revert h; decide
  · revert h; decide
  · revert h; decide

theorem spacePrefixLen_space (b : UInt8) (rest : Bytes) (h : isAsciiSpace b = true) :
    spacePrefixLen (b :: rest) = 1 := by
  match rest with
  | [] | [_] | _ :: _ :: _ => simp [spacePrefixLen, h]

theorem spaceSuffixLenR_space (b : UInt8) (rest : Bytes) (h : isAsciiSpace b = true) :
    spaceSuffixLenR (b :: rest) = 1 := by
  match rest with
  | [] | [_] | _ :: _ :: _ => simp [spaceSuffixLenR, h]

/-- ASCII and no white space: such a byte is never part of a rune that `bytes.TrimSpace` strips -/
def solid (b : UInt8) : Bool := decide (b < 0x80) && !isAsciiSpace b

theorem solid_iff {b : UInt8} : solid b = true ↔ b < 0x80 ∧ isAsciiSpace b = false := by
  simp [solid]

theorem spacePrefixLen_solid {z : UInt8} (h : solid z = true) (r : Bytes) : spacePrefixLen (z :: r) = 0 := by
  obtain ⟨hz, hs⟩ := solid_iff.mp h
  match r with
  | [] => simp [spacePrefixLen, hs]
  | [c] => simp [spacePrefixLen, hs, uniSpace2_lt z c (.inl hz)]
  | c :: e :: t => simp [spacePrefixLen, hs, uniSpace2_lt z c (.inl hz), uniSpace3_lt z c e (.inl hz)]

/-- in the reversed view the last byte comes first -/
theorem spaceSuffixLenR_solid {z : UInt8} (h : solid z = true) (r : Bytes) : spaceSuffixLenR (z :: r) = 0 := by
  obtain ⟨hz, hs⟩ := solid_iff.mp h
  match r with
  | [] => simp [spaceSuffixLenR, hs]
  | [c] => simp [spaceSuffixLenR, hs, uniSpace2_lt c z (.inr hz)]
  | c :: e :: t => simp [spaceSuffixLenR, hs, uniSpace2_lt c z (.inr hz), uniSpace3_lt e c z (.inr (.inr hz))]

theorem spacePrefixLen_cons_ascii_append (c : UInt8) (s r : Bytes) (hc : c < 0x80)
    (hs : isAsciiSpace c = false) : spacePrefixLen ((c :: s) ++ r) = 0 :=
  spacePrefixLen_solid (solid_iff.mpr ⟨hc, hs⟩) _

/-- `spacePrefixLen` looks at no more than three bytes -/
theorem spacePrefixLen_append_of_three (a b c : UInt8) (t r : Bytes)
    (h : spacePrefixLen (a :: b :: c :: t) = 0) : spacePrefixLen ((a :: b :: c :: t) ++ r) = 0 := by
  simpa [spacePrefixLen] using h

/-- an appended ASCII byte completes no multi-byte space rune -/
theorem spacePrefixLen_append_ascii {s : Bytes} {x : UInt8} (r : Bytes) (hs : s ≠ [])
    (h : spacePrefixLen s = 0) (hx : x < 0x80) : spacePrefixLen (s ++ x :: r) = 0 := by
  match s, hs, h with
  | [a], _, h =>
    have ha : isAsciiSpace a = false := by
      cases hsp : isAsciiSpace a <;> simp [spacePrefixLen, hsp] at h ⊢
    match r with
    | [] => simp [spacePrefixLen, ha, uniSpace2_lt a x (.inr hx)]
    | y :: t => simp [spacePrefixLen, ha, uniSpace2_lt a x (.inr hx), uniSpace3_lt a x y (.inr (.inl hx))]
  | [a, b], _, h =>
    have ha : isAsciiSpace a = false ∧ uniSpace2 a b = false := by
      cases hsp : isAsciiSpace a <;> cases hu : uniSpace2 a b <;> simp [spacePrefixLen, hsp, hu] at h ⊢
    simp [spacePrefixLen, ha, uniSpace3_lt a b x (.inr (.inr hx))]
  | a :: b :: c :: t, _, h => exact spacePrefixLen_append_of_three a b c t _ h

/-- `trimLeftN` and `trimRightRN` are one loop `g` over two rune tests `f`: it strips blanks `pre` and
stops at a `core` that `f` does not bite -/
theorem trimN_blanks {f : Bytes → Nat} {g : Nat → Bytes → Bytes} (hg0 : ∀ s, g 0 s = s)
    (hg : ∀ n s, g (n + 1) s = if f s = 0 then s else g n (s.drop (f s)))
    (hf : ∀ b rest, isAsciiSpace b = true → f (b :: rest) = 1)
    {pre core : Bytes} (hp : pre.all blank = true) (hc : f core = 0) :
    ∀ n, pre.length ≤ n → g n (pre ++ core) = core := by
  induction pre with
  | nil => intro n _; cases n <;> simp [hg0, hg, hc]
  | cons b r ih =>
    intro n hn
    simp only [List.all_cons, Bool.and_eq_true] at hp
    cases n with
    | zero => simp at hn
    | succ m =>
      rw [List.cons_append, hg, hf b _ (blank_isAsciiSpace hp.1)]
      exact ih hp.2 m (by simpa using hn)

theorem trimLeft_blanks {lead core : Bytes} (hl : lead.all blank = true) (hc : spacePrefixLen core = 0) :
    trimLeft (lead ++ core) = core :=
  trimN_blanks (fun _ => rfl) (fun _ _ => rfl) spacePrefixLen_space hl hc _ (by simp)

theorem trimRightR_blanks {trailR coreR : Bytes} (ht : trailR.all blank = true)
    (hc : spaceSuffixLenR coreR = 0) : trimRightR (trailR ++ coreR) = coreR :=
  trimN_blanks (fun _ => rfl) (fun _ _ => rfl) spaceSuffixLenR_space ht hc _ (by simp)

def endsSolid (s : Bytes) : Bool := s.getLast?.any solid

theorem endsSolid_append (a : Bytes) {s : Bytes} (h : endsSolid s = true) : endsSolid (a ++ s) = true := by
  obtain ⟨z, hz, hs⟩ := (Option.any_eq_true _ _).mp h
  rw [endsSolid, List.getLast?_append, hz]
  exact hs

theorem endsSolid_of_all {s : Bytes} (hne : s ≠ []) (h : s.all solid = true) : endsSolid s = true := by
  rw [endsSolid, List.getLast?_eq_some_getLast hne]
  exact List.all_eq_true.mp h _ (List.getLast_mem hne)

/-- a core that does not start with a strippable rune (whatever is appended) and ends in a solid byte
is exactly what `TrimSpace` returns when blanks are put around it -/
theorem trimSpace_around {lead core trail : Bytes} (hl : lead.all blank = true) (ht : trail.all blank = true)
    (h0 : spacePrefixLen (core ++ trail) = 0) (h1 : endsSolid core = true) :
    trimSpace (lead ++ (core ++ trail)) = core := by
  obtain ⟨z, hz, hs⟩ := (Option.any_eq_true _ _).mp h1
  obtain ⟨init, rfl⟩ := List.getLast?_eq_some_iff.mp hz
  unfold trimSpace
  rw [trimLeft_blanks hl h0, List.reverse_append, List.reverse_append, List.reverse_singleton,
    List.singleton_append, trimRightR_blanks (by simpa using ht) (spaceSuffixLenR_solid hs _)]
  simp

theorem trimSpace_id {s : Bytes} (h0 : s.head?.any solid = true) (h1 : endsSolid s = true) :
    trimSpace s = s := by
  cases s with
  | nil => simp at h0
  | cons c t =>
    simpa using trimSpace_around (lead := []) (trail := []) rfl rfl (by simpa using spacePrefixLen_solid h0 t) h1

end Arc.C01
