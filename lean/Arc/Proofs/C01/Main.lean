import Arc.Proofs.C01.Line
/-! `TrimSpace` gives back the core of a rendered line, whose parts the section parsers read back: the
line theorem.  A rendered line holds no newline, so `splitNL` gives back the lines of a batch. -/
namespace Arc.C01

theorem endsSolid_renderCore {pf : Bytes → Option UInt64} (sp : Spacing) {p : Point} (w : WFFacts pf p) :
    endsSolid (renderCore sp p) = true := by
  have hF : endsSolid (renderFields p.fields) = true :=
    renderFields_rec (P := fun s => endsSolid s = true)
      (fun X _ _ hc => endsSolid_append X (endsSolid_append [cCM] hc)) w.fne fun f hf =>
      endsSolid_append _ (s := cEQ :: renderVal f.2)
        (endsSolid_append [cEQ] (endsSolid_renderVal (w.fields f hf).2))
  refine endsSolid_append _ (endsSolid_append _ ?_)
  cases hts : p.ts with
  | none => rwa [renderTs, List.append_nil]
  | some t =>
    obtain ⟨htok, htne, _⟩ := tsText_facts (hts ▸ w.ts)
    exact endsSolid_append _ (endsSolid_append _ (endsSolid_of_all htne (solid_of_tok htok)))

theorem renderCore_head {pf : Bytes → Option UInt64} (sp : Spacing) {p : Point} (w : WFFacts pf p)
    (trail : Bytes) :
    spacePrefixLen (renderCore sp p ++ trail) = 0 ∧ (renderCore sp p).head? ≠ some cHash ∧
      renderCore sp p ≠ [] := by
  obtain ⟨c, r, hmm⟩ := List.exists_cons_of_ne_nil w.meas.ne
  have hm := w.head
  simp only [hmm, measHeadOK, Bool.and_eq_true, bne_iff_ne, ne_eq, beq_iff_eq] at hm
  -- the escaped measurement is followed by ',' or ' '
  obtain ⟨x, rest, hx, hcore⟩ : ∃ x rest, x < 0x80 ∧
      renderCore sp p = escName measSet (c :: r) ++ x :: rest := by
    rw [renderCore, renderMT, hmm, List.append_assoc]
    cases p.tags with
    | nil => exact ⟨cSP, _, by decide, rfl⟩
    | cons t ts => exact ⟨cCM, _, by decide, rfl⟩
  rw [hcore]
  refine ⟨?_, ?_, by simp⟩
  · rw [List.append_assoc, List.cons_append]
    exact spacePrefixLen_append_ascii _ (escName_ne_nil (List.cons_ne_nil c r)) hm.2 hx
  · cases hs : measSet c
    · simpa [escName_bare hs] using hm.1
    · simp [escName_esc hs]; decide

theorem trimSpace_render {pf : Bytes → Option UInt64} {sp : Spacing} {p : Point} (w : WFFacts pf p)
    (hs : WFSpacing sp = true) : trimSpace (render sp p) = renderCore sp p := by
  simp only [WFSpacing, Bool.and_eq_true] at hs
  exact trimSpace_around hs.1 hs.2 (renderCore_head sp w sp.trail).1
    (endsSolid_renderCore sp w)

theorem timestampOf_render {now : Int} {pr : Prec} {a b : Bytes} {ts : Option TsLit} (h : WFTs ts = true) :
    timestampOf now pr (a :: b :: tsParts ts) = denoteTs now pr ts := by
  cases ts with
  | none => rfl
  | some t =>
    obtain ⟨htok, htne, hparse⟩ := tsText_facts h
    simp [tsParts, timestampOf, denoteTs, trimSpace_tok htne htok, hparse]

theorem parseLine_render {pf : Bytes → Option UInt64} (now : Int) (pr : Prec) (valid : Bool)
    {sp : Spacing} {p : Point} (hw : WF pf p = true) (hs : WFSpacing sp = true) :
    parseLine pf now pr valid (render sp p) = some (denote pf now pr p) := by
  have w := wfFacts hw
  obtain ⟨_, hhash, hne⟩ := renderCore_head sp w []
  have h1 : (renderCore sp p).isEmpty = false := by simpa using hne
  have h2 : p.meas.isEmpty = false := by simpa using w.meas.ne
  have h3 : (p.fields.map (fun f => (f.1, denoteVal pf f.2))).isEmpty = false := by simpa using w.fne
  simp only [parseLine, trimSpace_render w hs, h1, hhash, splitOn_core sp w, parseParts,
    parseMT_render w, parseFields_render valid w.fne w.fields w.fnd,
    timestampOf_render w.ts, h2, h3, Bool.false_eq_true, if_false, denote]

def joinNL : List Bytes → Bytes
  | [] => []
  | [l] => l
  | l :: l' :: ls => l ++ cNL :: joinNL (l' :: ls)

def NoNL (s : Bytes) : Prop := ∀ b ∈ s, b ≠ cNL

theorem splitNL_append {l : Bytes} (h : NoNL l) (rest : Bytes) :
    splitNL (l ++ cNL :: rest) = l :: splitNL rest := by
  induction l with
  | nil => simp [splitNL]
  | cons b r ih =>
    simp [splitNL, h b List.mem_cons_self, ih fun x hx => h x (List.mem_cons_of_mem _ hx), consHead]

theorem splitNL_noNL {l : Bytes} (h : NoNL l) : splitNL l = [l] := by
  induction l with
  | nil => rfl
  | cons b r ih =>
    simp [splitNL, h b List.mem_cons_self, ih fun x hx => h x (List.mem_cons_of_mem _ hx), consHead]

theorem splitNL_joinNL (ls : List Bytes) (hne : ls ≠ []) (h : ∀ l ∈ ls, NoNL l) :
    splitNL (joinNL ls) = ls := by
  induction ls with
  | nil => exact absurd rfl hne
  | cons l r ih =>
    cases r with
    | nil => exact splitNL_noNL (h l List.mem_cons_self)
    | cons l' ls' =>
      rw [joinNL, splitNL_append (h l List.mem_cons_self),
        ih (List.cons_ne_nil _ _) fun x hx => h x (List.mem_cons_of_mem _ hx)]

theorem NoNL_append {a b : Bytes} (ha : NoNL a) (hb : NoNL b) : NoNL (a ++ b) :=
  List.forall_mem_append.mpr ⟨ha, hb⟩

theorem NoNL_cons {c : UInt8} {s : Bytes} (hc : c ≠ cNL) (hs : NoNL s) : NoNL (c :: s) :=
  List.forall_mem_cons.mpr ⟨hc, hs⟩

theorem NoNL_nil : NoNL [] := fun _ hx => nomatch hx

theorem NoNL_escName {set : UInt8 → Bool} {s : Bytes} (h : NoNL s) : NoNL (escName set s) :=
  forall_escName (by decide) h

/-- for `tok` and `blank`: a newline is ASCII white space, hence no token byte, and is left out of the
`blank`s allowed around a point -/
theorem NoNL_of_all {p : UInt8 → Bool} (hp : p cNL = false) {s : Bytes} (h : s.all p = true) : NoNL s :=
  fun x hx => ne_of_pred (List.all_eq_true.mp h x hx) hp

theorem NoNL_replicate (k : Nat) : NoNL (List.replicate k cSP) :=
  fun x hx => (List.mem_replicate.mp hx).2 ▸ by decide

theorem NoNL_renderVal {pf : Bytes → Option UInt64} {v : FieldVal} (h : WFVal pf v = true) :
    NoNL (renderVal v) :=
  renderVal_rec h (fun _ ht _ => NoNL_of_all rfl ht) fun s hs =>
    NoNL_cons (by decide)
      (NoNL_append (NoNL_escName (not_contains (by simpa [noNL] using hs))) (NoNL_cons (by decide) NoNL_nil))

theorem NoNL_comma (X c : Bytes) (hX : NoNL X) (hc : NoNL c) : NoNL (X ++ cCM :: c) :=
  NoNL_append hX (NoNL_cons (by decide) hc)

theorem NoNL_render {pf : Bytes → Option UInt64} {sp : Spacing} {p : Point} (hw : WF pf p = true)
    (hs : WFSpacing sp = true) : NoNL (render sp p) := by
  have w := wfFacts hw
  simp only [WFSpacing, Bool.and_eq_true] at hs
  have hMT : NoNL (renderMT p) :=
    renderMT_rec NoNL_comma (NoNL_escName w.meas.noNL) fun t ht =>
      NoNL_append (NoNL_escName (w.tags t ht).1.noNL)
        (NoNL_cons (by decide) (NoNL_escName (w.tags t ht).2.noNL))
  have hF : NoNL (renderFields p.fields) :=
    renderFields_rec NoNL_comma w.fne fun f hf =>
      NoNL_append (NoNL_escName (w.fields f hf).1.noNL)
        (NoNL_cons (by decide) (NoNL_renderVal (w.fields f hf).2))
  have hT : NoNL (renderTs sp p.ts) := by
    cases hts : p.ts with
    | none => exact NoNL_nil
    | some t => exact NoNL_append (NoNL_replicate _) (NoNL_of_all rfl (tsText_facts (hts ▸ w.ts)).1)
  exact NoNL_append (NoNL_of_all rfl hs.1)
    (NoNL_append (NoNL_append hMT (NoNL_append (NoNL_replicate _) (NoNL_append hF hT))) (NoNL_of_all rfl hs.2))

end Arc.C01
