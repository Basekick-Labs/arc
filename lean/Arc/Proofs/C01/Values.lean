import Arc.Proofs.C01.Split
import Arc.Proofs.C01.Trim
/-! `parseFieldValue` on every rendered field value; integers. -/
namespace Arc.C01

theorem ne_of_pred {p : UInt8 → Bool} {c k : UInt8} (hc : p c = true) (hk : p k = false) : c ≠ k :=
  fun h => by rw [h, hk] at hc; cases hc

/-- the bytes bare tokens (numbers, booleans, the `i`/`u` suffix) are made of: `solid` and none of
`\` `"` `,` — so they are cut neither by the splitter nor by `TrimSpace` -/
def tok (b : UInt8) : Bool := solid b && b != cBS && b != cDQ && b != cCM

/-- the excluded bytes are no float characters, and a float character is at most `e` -/
theorem tok_of_floatChar {c : UInt8} (h : floatChar c = true) : tok c = true := by
  have ne : ∀ k, floatChar k = false → (c == k) = false := fun k hk => beq_eq_false_iff_ne.mpr (ne_of_pred h hk)
  have hlt : c < 0x80 := by
    simp only [floatChar, isDigit, Bool.or_eq_true, Bool.and_eq_true, decide_eq_true_eq, beq_iff_eq] at h
    rcases h with ((((h | rfl) | rfl) | rfl) | rfl) | rfl
    · exact UInt8.lt_of_le_of_lt h.2 (by decide)
    all_goals decide
  simp only [tok, solid, isAsciiSpace, hlt, ne 9 rfl, ne 10 rfl, ne 11 rfl, ne 12 rfl, ne 13 rfl, ne 32 rfl,
    bne, ne cBS rfl, ne cDQ rfl, ne cCM rfl, decide_true, Bool.or_false, Bool.not_false, Bool.and_true]

theorem floatChar_of_digit {c : UInt8} (h : isDigit c = true) : floatChar c = true := by
  simp [floatChar, h]

theorem solid_of_tok {s : Bytes} (h : s.all tok = true) : s.all solid = true :=
  List.all_eq_true.mpr fun b hb => by
    have := List.all_eq_true.mp h b hb
    simp only [tok, Bool.and_eq_true] at this
    exact this.1.1.1

theorem trimSpace_tok {s : Bytes} (hne : s ≠ []) (h : s.all tok = true) : trimSpace s = s := by
  have hs := solid_of_tok h
  refine trimSpace_id ?_ (endsSolid_of_all hne hs)
  cases s with
  | nil => exact absurd rfl hne
  | cons c t => exact List.all_eq_true.mp hs c List.mem_cons_self

theorem lowerAZ_ne {c k : UInt8} (h1 : c ≠ k) (h2 : c ≠ k - 32) : lowerAZ c ≠ k := by
  unfold lowerAZ; split
  · exact fun h => h2 (by rw [← h, UInt8.add_sub_cancel])
  · exact h1

theorem boolOf_none (c : UInt8) (t : Bytes)
    (h1 : c ≠ 116) (h2 : c ≠ 84) (h3 : c ≠ 102) (h4 : c ≠ 70) : boolOf (c :: t) = none := by
  cases t with
  | nil => simp [boolOf, h1, h2, h3, h4]
  | cons d t' =>
    have e1 : (lowerAZ c == 116) = false := beq_eq_false_iff_ne.mpr (lowerAZ_ne h1 h2)
    have e2 : (lowerAZ c == 102) = false := beq_eq_false_iff_ne.mpr (lowerAZ_ne h3 h4)
    simp only [boolOf, eqFold, wTrue, wFalse, e1, e2, Bool.false_and, Bool.and_false, Bool.false_eq_true, if_false]

theorem boolOf_boolText : ∀ (v : Bool) (k : Fin 5), boolOf (boolText v k) = some v := by decide +kernel

theorem boolText_tok : ∀ (v : Bool) (k : Fin 5), (boolText v k).all tok = true ∧ boolText v k ≠ [] := by
  decide +kernel

theorem digitsVal_all {ds : Bytes} (acc : Nat) (h : ds.all isDigit = true) :
    digitsVal acc ds = some (ds.foldl (fun a b => a * 10 + (b.toNat - 48)) acc) := by
  induction ds generalizing acc with
  | nil => rfl
  | cons b r ih =>
    simp only [List.all_cons, Bool.and_eq_true] at h
    simp [digitsVal, h.1, ih _ h.2]

theorem parseUint64_digits {ds : Bytes} (h : allDigits ds = true) (hr : digitsNat ds < 18446744073709551616) :
    parseUint64 ds = some (digitsNat ds) := by
  simp only [allDigits, Bool.and_eq_true, Bool.not_eq_true'] at h
  simp only [parseUint64, h.1, digitsVal_all 0 h.2]
  simpa [digitsNat] using hr

/-- the first digit is no sign -/
theorem parseInt64_signed (neg : Bool) {ds : Bytes} (h : allDigits ds = true)
    (hr : (if neg then decide (digitsNat ds ≤ 9223372036854775808)
      else decide (digitsNat ds < 9223372036854775808)) = true) :
    parseInt64 (signText neg ++ ds) = some (signed neg (digitsNat ds)) := by
  have hu : parseUint64 ds = some (digitsNat ds) :=
    parseUint64_digits h (by cases neg <;> simp at hr <;> omega)
  cases neg with
  | true => simpa [signText, parseInt64, hu, signed] using hr
  | false =>
    cases ds with
    | nil => simp [allDigits] at h
    | cons c r =>
      simp only [allDigits, List.all_cons, Bool.and_eq_true] at h
      have c43 : c ≠ 43 := ne_of_pred h.2.1 rfl
      have c45 : c ≠ 45 := ne_of_pred h.2.1 rfl
      simpa [signText, parseInt64, c43, c45, hu, signed] using hr

theorem strSet_isEsc (b : UInt8) (h : strSet b = true) : isEsc b = true := by
  simp [strSet] at h; rcases h with h | h <;> subst h <;> decide

theorem tagSet_isEsc (b : UInt8) (h : tagSet b = true) : isEsc b = true := by
  simp [tagSet] at h; rcases h with (h | h) | h <;> subst h <;> decide

theorem measSet_isEsc (b : UInt8) (h : measSet b = true) : isEsc b = true := by
  simp [measSet] at h; rcases h with h | h <;> subst h <;> decide

theorem strSet_isEscStr (b : UInt8) (h : strSet b = true) : isEscStr b = true := by
  simp [strSet] at h; rcases h with h | h <;> subst h <;> decide

theorem unescape_str (s : Bytes) : unescapeStr (escName strSet s) = s :=
  unescapeBy_escName strSet_isEscStr fun b _ hb => by subst hb; decide

theorem tok_of_digits {ds : Bytes} (h : allDigits ds = true) : ds.all tok = true := by
  simp only [allDigits, Bool.and_eq_true, List.all_eq_true] at h
  exact List.all_eq_true.mpr fun b hb => tok_of_floatChar (floatChar_of_digit (h.2 b hb))

/-- a rendered value is a non-empty token or a quoted, escaped string: what holds of both holds of it -/
theorem renderVal_rec {P : Bytes → Prop} {pf : Bytes → Option UInt64} {v : FieldVal} (h : WFVal pf v = true)
    (htok : ∀ s, s.all tok = true → s ≠ [] → P s)
    (hstr : ∀ s, noNL s = true → P (cDQ :: (escName strSet s ++ [cDQ]))) : P (renderVal v) := by
  cases v with
  | float lit =>
    simp only [WFVal, Bool.and_eq_true, Bool.not_eq_true', List.all_eq_true] at h
    exact htok lit (List.all_eq_true.mpr fun b hb => tok_of_floatChar (h.1.2 b hb)) (by simpa using h.1.1)
  | int neg ds =>
    simp only [WFVal, Bool.and_eq_true] at h
    refine htok _ ?_ (by simp [renderVal])
    rw [renderVal, List.all_append, List.all_append, tok_of_digits h.1, Bool.and_true]; cases neg <;> rfl
  | uint ds =>
    simp only [WFVal, Bool.and_eq_true] at h
    refine htok _ ?_ (by simp [renderVal])
    rw [renderVal, List.all_append, tok_of_digits h.1]; rfl
  | str s =>
    simp only [WFVal, Bool.and_eq_true] at h
    exact hstr s h.1
  | bool v k => exact htok _ (boolText_tok v k).1 (boolText_tok v k).2

theorem endsSolid_renderVal {pf : Bytes → Option UInt64} {v : FieldVal} (h : WFVal pf v = true) :
    endsSolid (renderVal v) = true :=
  renderVal_rec h (fun _ ht hne => endsSolid_of_all hne (solid_of_tok ht))
    fun s _ => endsSolid_append (cDQ :: escName strSet s) (s := [cDQ]) rfl

theorem trimSpace_renderVal {pf : Bytes → Option UInt64} {v : FieldVal} (h : WFVal pf v = true) :
    trimSpace (renderVal v) = renderVal v :=
  renderVal_rec (P := fun s => trimSpace s = s) h (fun _ ht hne => trimSpace_tok hne ht)
    fun s _ => trimSpace_id rfl (endsSolid_append (cDQ :: escName strSet s) (s := [cDQ]) rfl)

/-! ### the three arms of `parseFieldValue` on text that `TrimSpace` leaves alone -/

theorem parseFieldValue_bool (pf : Bytes → Option UInt64) (valid : Bool) {v : Bytes} {b : Bool}
    (ht : trimSpace v = v) (hb : boolOf v = some b) : parseFieldValue pf valid v = some (.bool b) := by
  cases v with
  | nil => simp [boolOf] at hb
  | cons c t => simp only [parseFieldValue, ht, hb]

theorem parseFieldValue_quoted (pf : Bytes → Option UInt64) (valid : Bool) {s : Bytes}
    (ht : trimSpace (cDQ :: (s ++ [cDQ])) = cDQ :: (s ++ [cDQ])) :
    parseFieldValue pf valid (cDQ :: (s ++ [cDQ])) = some (.str (san valid (unescapeStr s))) := by
  have hl : (cDQ :: (s ++ [cDQ])).getLast? = some cDQ := List.getLast?_concat (l := cDQ :: s)
  simp only [parseFieldValue, ht, boolOf_none cDQ _ (by decide) (by decide) (by decide) (by decide), hl]
  simp

/-- a bare token starting with a float character is neither boolean nor quoted: its last byte decides -/
theorem parseFieldValue_bare (pf : Bytes → Option UInt64) (valid : Bool) {init : Bytes} {z : UInt8}
    (ht : trimSpace (init ++ [z]) = init ++ [z]) (hc : ∀ c ∈ (init ++ [z]).head?, floatChar c = true) :
    parseFieldValue pf valid (init ++ [z]) =
      if z = 105 then (parseInt64 init).map GoVal.i64
      else if z = 117 then (parseUint64 init).map GoVal.u64
      else some (floatOrStr pf valid (init ++ [z])) := by
  obtain ⟨c, t, he⟩ : ∃ c t, init ++ [z] = c :: t := by cases init <;> exact ⟨_, _, rfl⟩
  have hc := hc c (by rw [he]; rfl)
  have hl : (c :: t).getLast? = some z := he ▸ List.getLast?_concat
  have hd : (c :: t).dropLast = init := he ▸ List.dropLast_concat
  rw [he] at ht ⊢
  simp only [parseFieldValue, ht, boolOf_none c t (ne_of_pred hc rfl) (ne_of_pred hc rfl) (ne_of_pred hc rfl)
    (ne_of_pred hc rfl), ne_of_pred hc (k := cDQ) rfl, if_false, hl, hd]
  simp

/-- an optional sign and digits start with a float character, whatever follows -/
theorem head_signed (neg : Bool) {ds r : Bytes} (h : allDigits ds = true) :
    ∀ c ∈ (signText neg ++ ds ++ r).head?, floatChar c = true := by
  cases neg
  · cases ds with
    | nil => simp [allDigits] at h
    | cons d t =>
      simp only [allDigits, List.all_cons, Bool.and_eq_true] at h
      simpa [signText] using floatChar_of_digit h.2.1
  · simp [signText]; rfl

theorem parseFieldValue_render {pf : Bytes → Option UInt64} (valid : Bool) {v : FieldVal}
    (h : WFVal pf v = true) : parseFieldValue pf valid (renderVal v) = some (denoteVal pf v) := by
  have ht := trimSpace_renderVal h
  cases v with
  | float lit =>
    simp only [WFVal, Bool.and_eq_true, Bool.not_eq_true', List.all_eq_true, Option.isSome_iff_exists] at h
    obtain ⟨⟨hne, hall⟩, bits, hpf⟩ := h
    obtain ⟨init, z, rfl⟩ : ∃ init z, lit = init ++ [z] :=
      ⟨_, _, (List.dropLast_concat_getLast (by simpa using hne)).symm⟩
    have hz : floatChar z = true := hall z (by simp)
    rw [renderVal] at ht ⊢
    rw [parseFieldValue_bare pf valid ht fun c hc => hall c (List.mem_of_mem_head? hc)]
    simp [ne_of_pred hz (k := 105) rfl, ne_of_pred hz (k := 117) rfl, hpf, denoteVal, floatOrStr]
  | int neg ds =>
    simp only [WFVal, Bool.and_eq_true] at h
    rw [renderVal] at ht ⊢
    rw [parseFieldValue_bare pf valid ht (head_signed neg h.1)]
    simp [parseInt64_signed neg h.1 h.2, denoteVal]
  | uint ds =>
    simp only [WFVal, Bool.and_eq_true, decide_eq_true_eq] at h
    rw [renderVal] at ht ⊢
    rw [parseFieldValue_bare pf valid ht (head_signed false h.1)]
    simp [parseUint64_digits h.1 h.2, denoteVal]
  | str s =>
    simp only [WFVal, Bool.and_eq_true] at h
    simp [renderVal, parseFieldValue_quoted pf valid ht, unescape_str, san, sanitizeUTF8, h.2, denoteVal]
  | bool v k => exact parseFieldValue_bool pf valid ht (boolOf_boolText v k)

end Arc.C01
