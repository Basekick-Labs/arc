import Arc.Spec.C01
/-! `splitRaw` on text made of chunks without a live delimiter; `unescape ∘ escName`; the key/value cut. -/
namespace Arc.C01

theorem consHead_append (a b : Bytes) (X : List Bytes) :
    consHead a (consHead b X) = consHead (a ++ b) X := by
  cases X <;> simp [consHead]

theorem consHead_nil {X : List Bytes} (h : X ≠ []) : consHead [] X = X := by
  cases X with
  | nil => exact absurd rfl h
  | cons s ss => rfl

theorem consHead_ne_nil (a : Bytes) (X : List Bytes) : consHead a X ≠ [] := by
  cases X <;> simp [consHead]

theorem bs_ne_dq : cBS ≠ cDQ := by decide

theorem splitRaw_ne_nil (d : UInt8) (q : Bool) (s : Bytes) : splitRaw d q s ≠ [] := by
  fun_cases splitRaw d q s <;> simp [consHead_ne_nil]

/-! ### one-step equations of `splitRaw`, uniform in the shape of the rest -/

theorem splitRaw_plain {d : UInt8} {q : Bool} {b : UInt8} (h1 : b ≠ cBS) (h2 : b ≠ cDQ)
    (h3 : ¬(b = d ∧ q = false)) (rest : Bytes) :
    splitRaw d q (b :: rest) = consHead [b] (splitRaw d q rest) := by
  cases rest <;> simp [splitRaw, h1, h2, h3, consHead]

theorem splitRaw_quote (d : UInt8) (q : Bool) (rest : Bytes) :
    splitRaw d q (cDQ :: rest) = consHead [cDQ] (splitRaw d (!q) rest) := by
  cases rest <;> simp [splitRaw, consHead, bs_ne_dq.symm]

theorem splitRaw_esc (d : UInt8) (q : Bool) (c : UInt8) (r : Bytes) :
    splitRaw d q (cBS :: c :: r) = consHead [cBS, c] (splitRaw d q r) := by
  simp [splitRaw]

theorem splitRaw_delim {d : UInt8} (h1 : d ≠ cBS) (h2 : d ≠ cDQ) (rest : Bytes) :
    splitRaw d false (d :: rest) = [] :: splitRaw d false rest := by
  cases rest <;> simp [splitRaw, h1, h2]

/-- `Chunk d q s q'`: read from quote state `q`, the text `s` ends in state `q'` and holds neither an
unquoted, unescaped `d` nor a backslash without a byte after it.  The constructors are the arms of
`splitRaw` that do not cut. -/
inductive Chunk (d : UInt8) : Bool → Bytes → Bool → Prop
  | nil (q : Bool) : Chunk d q [] q
  | esc {q q' : Bool} (c : UInt8) {r : Bytes} : Chunk d q r q' → Chunk d q (cBS :: c :: r) q'
  | quote {q q' : Bool} {r : Bytes} : Chunk d (!q) r q' → Chunk d q (cDQ :: r) q'
  | plain {q q' : Bool} {b : UInt8} {r : Bytes} :
      b ≠ cBS → b ≠ cDQ → ¬(b = d ∧ q = false) → Chunk d q r q' → Chunk d q (b :: r) q'

/-- a chunk stays in one segment -/
theorem splitRaw_chunk {d : UInt8} {q q' : Bool} {C : Bytes} (h : Chunk d q C q') (R : Bytes) :
    splitRaw d q (C ++ R) = consHead C (splitRaw d q' R) := by
  induction h with
  | nil q => exact (consHead_nil (splitRaw_ne_nil d q R)).symm
  | esc c _ ih => rw [List.cons_append, List.cons_append, splitRaw_esc, ih, consHead_append]; rfl
  | quote _ ih => rw [List.cons_append, splitRaw_quote, ih, consHead_append]; rfl
  | plain h1 h2 h3 _ ih => rw [List.cons_append, splitRaw_plain h1 h2 h3, ih, consHead_append]; rfl

theorem Chunk.append {d : UInt8} {q q' q'' : Bool} {A B : Bytes} (hA : Chunk d q A q')
    (hB : Chunk d q' B q'') : Chunk d q (A ++ B) q'' := by
  induction hA with
  | nil => exact hB
  | esc c _ ih => exact .esc c (ih hB)
  | quote _ ih => exact .quote (ih hB)
  | plain h1 h2 h3 _ ih => exact .plain h1 h2 h3 (ih hB)

theorem splitOn_chunk {d : UInt8} {X : Bytes} (hX : Chunk d false X false) (hne : X ≠ []) :
    splitOn d X = [X] := by
  have := splitRaw_chunk hX []
  rw [List.append_nil] at this
  simp [splitOn, this, splitRaw, consHead, hne]

theorem splitOn_delim {d : UInt8} (h1 : d ≠ cBS) (h2 : d ≠ cDQ) (R : Bytes) :
    splitOn d (d :: R) = splitOn d R := by
  simp [splitOn, splitRaw_delim h1 h2 R]

theorem splitOn_chunk_delim {d : UInt8} (h1 : d ≠ cBS) (h2 : d ≠ cDQ) {X : Bytes}
    (hX : Chunk d false X false) (hne : X ≠ []) (R : Bytes) :
    splitOn d (X ++ d :: R) = X :: splitOn d R := by
  simp [splitOn, splitRaw_chunk hX, splitRaw_delim h1 h2 R, consHead, hne]

def joinC : List Bytes → Bytes
  | [] => []
  | c :: cs => cCM :: (c ++ joinC cs)

/-- what holds of the parts and is kept by joining two texts with a comma holds of the joined text -/
theorem joinC_rec {P : Bytes → Prop} (hj : ∀ X c, P X → P c → P (X ++ cCM :: c)) {cs : List Bytes}
    (h : ∀ c ∈ cs, P c) {X : Bytes} (hX : P X) : P (X ++ joinC cs) := by
  induction cs generalizing X with
  | nil => rwa [joinC, List.append_nil]
  | cons c r ih =>
    simpa [joinC] using ih (fun x hx => h x (List.mem_cons_of_mem _ hx)) (hj X c hX (h c List.mem_cons_self))

theorem splitOn_joinC {X : Bytes} {cs : List Bytes} (hX : Chunk cCM false X false ∧ X ≠ [])
    (h : ∀ c ∈ cs, Chunk cCM false c false ∧ c ≠ []) : splitOn cCM (X ++ joinC cs) = X :: cs := by
  induction cs generalizing X with
  | nil => simpa [joinC] using splitOn_chunk hX.1 hX.2
  | cons c r ih =>
    rw [joinC, splitOn_chunk_delim (by decide) (by decide) hX.1 hX.2,
      ih (h c List.mem_cons_self) fun x hx => h x (List.mem_cons_of_mem _ hx)]

theorem escName_esc {set : UInt8 → Bool} {b : UInt8} (h : set b = true) (r : Bytes) :
    escName set (b :: r) = cBS :: b :: escName set r := by
  simp [escName, h]

theorem escName_bare {set : UInt8 → Bool} {b : UInt8} (h : set b = false) (r : Bytes) :
    escName set (b :: r) = b :: escName set r := by
  simp [escName, h]

/-- an escaped name is a chunk as soon as every byte left bare is neither a backslash, nor a quote, nor
a live delimiter -/
theorem chunk_escName {set : UInt8 → Bool} {d : UInt8} (q : Bool) {s : Bytes}
    (h : ∀ b ∈ s, set b = false → b ≠ cBS ∧ b ≠ cDQ ∧ ¬(b = d ∧ q = false)) :
    Chunk d q (escName set s) q := by
  fun_induction escName set s with
  | case1 => exact .nil q
  | case2 b r hs ih => exact .esc b (ih fun x hx => h x (List.mem_cons_of_mem _ hx))
  | case3 b r hs ih =>
    obtain ⟨h1, h2, h3⟩ := h b List.mem_cons_self (Bool.eq_false_iff.mpr hs)
    exact .plain h1 h2 h3 (ih fun x hx => h x (List.mem_cons_of_mem _ hx))

theorem forall_escName {set : UInt8 → Bool} {p : UInt8 → Prop} {s : Bytes} (hbs : p cBS) (h : ∀ b ∈ s, p b) :
    ∀ b ∈ escName set s, p b := by
  fun_induction escName set s with
  | case1 => exact h
  | case2 b r hs ih =>
    obtain ⟨hb, hr⟩ := List.forall_mem_cons.mp h
    exact List.forall_mem_cons.mpr ⟨hbs, List.forall_mem_cons.mpr ⟨hb, ih hr⟩⟩
  | case3 b r hs ih =>
    obtain ⟨hb, hr⟩ := List.forall_mem_cons.mp h
    exact List.forall_mem_cons.mpr ⟨hb, ih hr⟩

theorem escName_ne_nil {set : UInt8 → Bool} {s : Bytes} (h : s ≠ []) : escName set s ≠ [] := by
  fun_cases escName set s with
  | case1 => exact absurd rfl h
  | case2 | case3 => exact List.cons_ne_nil _ _

theorem unescapeBy_plain {esc : UInt8 → Bool} {b : UInt8} (hb : b ≠ cBS) (rest : Bytes) :
    unescapeBy esc (b :: rest) = b :: unescapeBy esc rest := by
  cases rest <;> simp [unescapeBy, hb]

theorem unescapeBy_escName {esc set : UInt8 → Bool} {s : Bytes}
    (hset : ∀ b, set b = true → esc b = true)
    (hbs : ∀ b ∈ s, b = cBS → set b = true) :
    unescapeBy esc (escName set s) = s := by
  fun_induction escName set s with
  | case1 => rfl
  | case2 b r hs ih => simp [unescapeBy, hset b hs, ih fun x hx => hbs x (List.mem_cons_of_mem _ hx)]
  | case3 b r hs ih =>
    rw [unescapeBy_plain fun hb => hs (hbs b List.mem_cons_self hb), ih fun x hx => hbs x (List.mem_cons_of_mem _ hx)]

theorem cutAt_append {d : UInt8} {A : Bytes} (h : ∀ b ∈ A, b ≠ d) (B : Bytes) :
    cutAt d (A ++ d :: B) = some (A, B) := by
  induction A with
  | nil => simp [cutAt]
  | cons a r ih =>
    simp [cutAt, h a List.mem_cons_self, ih fun x hx => h x (List.mem_cons_of_mem _ hx)]

theorem cutAtEsc_plain {d b : UInt8} (h1 : b ≠ cBS) (h2 : b ≠ d) (rest : Bytes) :
    cutAtEsc d (b :: rest) = (cutAtEsc d rest).map fun kv => (b :: kv.1, kv.2) := by
  cases rest with
  | nil => simp [cutAtEsc, h2]
  | cons c r => simp only [cutAtEsc, h1, h2, if_false]; cases cutAtEsc d (c :: r) <;> rfl

/-- the escape-aware cut finds the separator after an escaped name, also when the name itself
contains (escaped) separators -/
theorem cutAtEsc_escName {set : UInt8 → Bool} {d : UInt8} {k : Bytes} (hd : set d = true) (hd2 : d ≠ cBS)
    (hbs : ∀ b ∈ k, b ≠ cBS) (rest : Bytes) :
    cutAtEsc d (escName set k ++ d :: rest) = some (escName set k, rest) := by
  fun_induction escName set k with
  | case1 => cases rest <;> simp [cutAtEsc, hd2]
  | case2 b r hs ih => simp [cutAtEsc, ih fun x hx => hbs x (List.mem_cons_of_mem _ hx)]
  | case3 b r hs ih =>
    rw [List.cons_append, cutAtEsc_plain (hbs b List.mem_cons_self) fun h => hs (h ▸ hd),
      ih fun x hx => hbs x (List.mem_cons_of_mem _ hx)]; rfl

end Arc.C01
