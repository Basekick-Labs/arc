import Arc.Proofs.C13.Loop
/-!
# C13 — `backup`, `restore` and `restoreBackup` in terms of their loops

`backup` and `restore` are unfolded here and nowhere else: their copy loops get names (`bLoop`,
`rLoop`) and every field of the result is given in terms of the loop. `restore_of_allOk` is the
common core of the restore clauses: a completed restore whose loop hit no error holds every stored
file. `restoreBackup_progOk` reads off `progOk` what the step program does with the data step's
outcome.
-/
namespace Arc.C13

theorem mem_backupItems (t : Tree) (p : Path) (b : Bytes) :
    (p, b) ∈ backupItems t ↔ ((p, b) ∈ t ∧ eligible p = true) := by
  simp only [backupItems, List.mem_append, List.mem_filter, eligible]
  cases hidden p <;> cases isParquet p <;> cases isIcebergMeta p <;> simp

theorem functional_backupItems {t : Tree} (h : (keys t).Nodup) : Functional (backupItems t) :=
  (functional_of_nodup h).mono fun x hx => ((mem_backupItems t x.1 x.2).mp hx).1

/-- the copy loop of `backup` -/
def bLoop (pol : Policy) (f : Faults) (t : Tree) : CopySt :=
  copyLoop (backupCfg pol) (bOutcome pol f) ((backupItems t).map (bContent pol f)) { dest := [] }

/-- when the read phase hands on the source bytes the loop runs over the listing itself -/
theorem bLoop_eq (pol : Policy) (f : Faults) (t : Tree)
    (h : ∀ e ∈ backupItems t, backupExact pol = true ∨ f.readT.lookup e.1 = none) :
    bLoop pol f t = copyLoop (backupCfg pol) (bOutcome pol f) (backupItems t) { dest := [] } :=
  congrArg (copyLoop _ _ · _) (map_readContent h)

theorem backup_store (pol : Policy) (f : Faults) (t : Tree) : (backup pol f t).store = (bLoop pol f t).dest := by
  simp only [backup, apply_ite Backup.store, ite_self, bLoop]

theorem backup_skipped (pol : Policy) (f : Faults) (t : Tree) :
    (backup pol f t).skipped = (bLoop pol f t).skipped := by
  simp only [backup, apply_ite Backup.skipped, ite_self, bLoop]

theorem backup_total (pol : Policy) (f : Faults) (t : Tree) : (backup pol f t).total = (backupItems t).length := by
  simp only [backup, apply_ite Backup.total, ite_self, List.length_map]

theorem backup_store_nodup (pol : Policy) (f : Faults) (t : Tree) : (keys (backup pol f t).store).Nodup := by
  rw [backup_store]
  exact copyLoop_nodup List.nodup_nil

/-- the manifest `CreateBackup` writes when none of its three checks fails -/
def manifestOf (pol : Policy) (f : Faults) (t : Tree) : Manifest :=
  { totalFiles := (parquetItems t).length, totalSize := sumSizes (parquetItems t),
    skipped := if pol.manifestSkipped then (bLoop pol f t).skipped else 0,
    dbs := (dedup ((parquetItems t).map fun e => (dbMeas e.1).1)).length,
    meas := (dedup ((parquetItems t).map fun e => dbMeas e.1)).length }

theorem backup_status_manifest (pol : Policy) (f : Faults) (t : Tree) :
    (backup pol f t).status =
      (if (bLoop pol f t).aborted then .failedCopy
      else if pol.ratioChecked && ratioExceeded pol (bLoop pol f t).skipped (backupItems t).length then .failedRatio
      else if f.manifest then .failedManifest else .completed) ∧
    (backup pol f t).manifest =
      (if (bLoop pol f t).aborted then none
      else if pol.ratioChecked && ratioExceeded pol (bLoop pol f t).skipped (backupItems t).length then none
      else if f.manifest then none else some (manifestOf pol f t)) := by
  simp only [backup, apply_ite Backup.status, apply_ite Backup.manifest, List.length_map]
  exact ⟨rfl, rfl⟩

theorem backup_completed_iff (pol : Policy) (f : Faults) (t : Tree) :
    (backup pol f t).status = .completed ↔ (bLoop pol f t).aborted = false ∧
      (pol.ratioChecked && ratioExceeded pol (bLoop pol f t).skipped (backupItems t).length) = false ∧
      f.manifest = false := by
  rw [(backup_status_manifest pol f t).1]
  cases (bLoop pol f t).aborted <;>
    cases (pol.ratioChecked && ratioExceeded pol (bLoop pol f t).skipped (backupItems t).length) <;>
    cases f.manifest <;> decide

theorem backup_manifest (pol : Policy) (f : Faults) (t : Tree) :
    (backup pol f t).manifest =
      if (backup pol f t).status = .completed then some (manifestOf pol f t) else none := by
  obtain ⟨hs, hm⟩ := backup_status_manifest pol f t
  rw [hs, hm]
  cases (bLoop pol f t).aborted <;>
    cases (pol.ratioChecked && ratioExceeded pol (bLoop pol f t).skipped (backupItems t).length) <;>
    cases f.manifest <;> rfl

theorem backupFull_manifest (pol : Policy) (bo : BOpts) (f : Faults) (t : Tree) :
    (backupFull pol bo f t).manifest = (backup pol f t).manifest.map fun m =>
      { m with hasMetadata := bo.metadata && !f.sqlite, hasConfig := bo.config && !f.config } := rfl

/-- the copy loop of `restore` -/
def rLoop (pol : Policy) (f : Faults) (bk : Backup) (d0 : Tree) : CopySt :=
  copyLoop (restoreCfg pol) (rOutcome pol f) ((walkSort bk.store).map (rContent pol f)) { dest := d0 }

theorem rLoop_eq (pol : Policy) (f : Faults) (bk : Backup) (d0 : Tree)
    (h : ∀ e ∈ walkSort bk.store, restoreExact pol = true ∨ f.readT.lookup e.1 = none) :
    rLoop pol f bk d0 = copyLoop (restoreCfg pol) (rOutcome pol f) (walkSort bk.store) { dest := d0 } :=
  congrArg (copyLoop _ _ · _) (map_readContent h)

theorem restore_of_manifest (pol : Policy) (f : Faults) (bk : Backup) (d0 : Tree) (m : Manifest)
    (hm : bk.manifest = some m) (hf : f.manifest = false) :
    restore pol f bk d0 =
      { status := if (rLoop pol f bk d0).aborted || (rLoop pol f bk d0).skipped != 0 then .failedData else .completed,
        data := (rLoop pol f bk d0).dest, processed := (rLoop pol f bk d0).processed,
        pbytes := (rLoop pol f bk d0).bytes, total := (walkSort bk.store).length, tbytes := m.totalSize } := by
  simp only [restore, restoreItems, hm, hf]
  rfl

/-- a restore that reports `completed` ran its loop to the end without abort or skip -/
theorem restore_completed {pol : Policy} {f : Faults} {bk : Backup} {d0 : Tree}
    (h : (restore pol f bk d0).status = .completed) :
    (rLoop pol f bk d0).aborted = false ∧ (rLoop pol f bk d0).skipped = 0 ∧
    (restore pol f bk d0).data = (rLoop pol f bk d0).dest ∧
    (restore pol f bk d0).processed = (rLoop pol f bk d0).processed ∧
    (restore pol f bk d0).total = (walkSort bk.store).length := by
  cases hm : bk.manifest with
  | none => simp [restore, restoreItems, hm] at h
  | some m =>
    cases hf : f.manifest with
    | true => simp [restore, restoreItems, hm, hf] at h
    | false =>
      rw [restore_of_manifest pol f bk d0 m hm hf] at h ⊢
      cases hab : (rLoop pol f bk d0).aborted <;> cases hsk : (rLoop pol f bk d0).skipped <;> simp_all

theorem restore_of_allOk {pol : Policy} {f : Faults} {bk : Backup} (hnd : (keys bk.store).Nodup) {d0 : Tree}
    (hst : (restore pol f bk d0).status = .completed)
    (hx : ∀ e ∈ walkSort bk.store, restoreExact pol = true ∨ f.readT.lookup e.1 = none)
    (hok : AllOk (rOutcome pol f) (walkSort bk.store)) :
    ∀ p b, lookup bk.store p = some b → lookup (restore pol f bk d0).data p = some b := by
  intro p b hpb
  have hf := functional_of_nodup hnd
  obtain ⟨_, _, hdata, _⟩ := restore_completed hst
  rw [hdata, rLoop_eq pol f bk d0 hx]
  exact copyLoop_ok_mem hok rfl (hf.mono fun x => (mem_sortBy _ x _).mp)
    ((mem_sortBy ..).mpr ((mem_iff_lookup hf).mpr hpb))

theorem restore_backupFull (pol : Policy) (bo : BOpts) (g f : Faults) (t d0 : Tree) :
    restore pol f (backupFull pol bo g t) d0 = restore pol f (backup pol g t) d0 := by
  unfold restore
  rw [backupFull_manifest]
  -- the store is the same, and of the manifest `restoreItems` reads only `totalSize`
  cases (backup pol g t).manifest <;> rfl

theorem all_bools {p : Bool → Bool} (h : bools.all p = true) (b : Bool) : p b = true :=
  List.all_eq_true.mp h b (by cases b <;> decide)

/-- Under a well-behaved step program, with the data step requested and the manifest read,
`RestoreBackup` reports `completed` only if its data step did, and then hands on that step's storage;
if moreover neither the SQLite nor the arc.toml step fails, it reports `completed` whenever the data
step does. -/
theorem restoreBackup_progOk {pol : Policy} (hprog : progOk pol.restoreProg = true)
    (hns : pol.dataSkipNoParquet = false) {o : ROpts} (hd : o.data = true) {bk : Backup} {m : Manifest}
    (hm : bk.manifest = some m) (f : Faults) (hf : f.manifest = false) (d0 : Tree) :
    ((restoreBackup pol o f bk d0).status = .completed →
      (restore pol f bk d0).status = .completed ∧
      (restoreBackup pol o f bk d0).data = (restore pol f bk d0).data) ∧
    ((restore pol f bk d0).status = .completed → f.sqlite = false → f.config = false →
      (restoreBackup pol o f bk d0).status = .completed ∧
      (restoreBackup pol o f bk d0).data = (restore pol f bk d0).data) := by
  -- `progOk` at this combination of requested steps and step outcomes: (honest) ∧ (live) of `comboOk`
  have hc : comboOk pol.restoreProg (o.metadata && m.hasMetadata) (o.config && m.hasConfig)
      ((restore pol f bk d0).status != .completed) f.sqlite f.config = true :=
    all_bools (all_bools (all_bools (all_bools (all_bools hprog _) _) _) _) _
  simp only [comboOk, Bool.and_eq_true, Bool.or_eq_true, Bool.not_eq_true', beq_iff_eq, beq_eq_false_iff_ne,
    ne_eq, bne_eq_false_iff_eq] at hc
  simp only [restoreBackup, hm, hf, hd, hns, Bool.false_eq_true, if_false, Bool.false_and, Bool.not_false,
    Bool.and_true]
  generalize runProg _ _ _ _ = st at hc ⊢
  obtain ⟨honest, live⟩ := hc
  refine ⟨fun h => ?_, fun h hs hc => ?_⟩
  · have hnone : st.failed = none := by
      cases hfl : st.failed with
      | none => rfl
      | some k => rw [hfl] at h; cases k <;> cases h
    obtain ⟨hran, hcomp⟩ := honest.resolve_left (not_not_intro hnone)
    exact ⟨hcomp, by rw [hran]; rfl⟩
  · simp only [h, hs, hc, bne_self_eq_false, Bool.false_eq_true, false_or] at live
    rw [live.1, live.2]
    exact ⟨rfl, rfl⟩

end Arc.C13
