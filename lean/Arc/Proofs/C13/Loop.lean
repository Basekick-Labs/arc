import Arc.Proofs.C13.Tree
/-!
# C13 — the per-file loop shared by backup and restore

A run over a listing on which no file fails (`AllOk`) is described completely: counters
(`copyLoop_ok_state`) and destination (`copyLoop_ok_dest`). Two observations show that a run was such
a run: under policies that never continue silently, it ended unaborted with the skip count it started
with (`copyLoop_clean`); or `processed` grew by the length of the listing (`copyLoop_processed`).
Last, when the read phase hands on the source bytes (`readContent_eq`), mapping it over a listing
changes nothing.
-/
namespace Arc.C13

/-! ## one file: counters and destination -/

theorem onErr_skipped_ge (pol : ErrPolicy) (st : CopySt) : st.skipped ≤ (onErr pol st).skipped := by
  cases pol <;> simp [onErr]

theorem onErr_processed (pol : ErrPolicy) (st : CopySt) : (onErr pol st).processed = st.processed := by
  cases pol <;> rfl

theorem onErr_dest (pol : ErrPolicy) (st : CopySt) : (onErr pol st).dest = st.dest := by
  cases pol <;> rfl

theorem onErr_loud (pol : ErrPolicy) (h : pol ≠ .continueSilently) (st : CopySt) :
    (onErr pol st).aborted = true ∨ (onErr pol st).skipped = st.skipped + 1 := by
  cases pol <;> simp [onErr] at h ⊢

theorem stepFile_skipped_ge (cfg : LoopCfg) (oc : Path → Outcome) (p : Path) (b : Bytes) (st : CopySt) :
    st.skipped ≤ (stepFile cfg oc p b st).skipped := by
  unfold stepFile
  split
  · exact Nat.le_refl _
  · exact onErr_skipped_ge _ _
  · rename_i s _
    exact onErr_skipped_ge cfg.onWrite { st with dest := stagedPut cfg.keepStaged st.dest p b s }

/-- under loud policies a file that failed shows: the loop aborts or the skip count goes up -/
theorem stepFile_loud (cfg : LoopCfg) (oc : Path → Outcome) (p : Path) (b : Bytes) (st : CopySt)
    (hr : cfg.onRead ≠ .continueSilently) (hw : cfg.onWrite ≠ .continueSilently) (h : oc p ≠ .ok) :
    (stepFile cfg oc p b st).aborted = true ∨ (stepFile cfg oc p b st).skipped = st.skipped + 1 := by
  unfold stepFile
  split
  · contradiction
  · exact onErr_loud _ hr _
  · exact onErr_loud _ hw _

theorem stepFile_processed (cfg : LoopCfg) (oc : Path → Outcome) (p : Path) (b : Bytes) (st : CopySt) :
    (stepFile cfg oc p b st).processed ≤ st.processed + 1 ∧
    ((stepFile cfg oc p b st).processed = st.processed + 1 → oc p = .ok) := by
  unfold stepFile
  split
  · exact ⟨Nat.le_refl _, fun _ => ‹_›⟩
  all_goals rw [onErr_processed]; exact ⟨Nat.le_succ _, fun h => absurd h (Nat.ne_of_lt (Nat.lt_succ_self _))⟩

theorem stepFile_nodup {cfg : LoopCfg} {oc : Path → Outcome} {p : Path} {b : Bytes} {st : CopySt}
    (h : (keys st.dest).Nodup) : (keys (stepFile cfg oc p b st).dest).Nodup := by
  unfold stepFile
  split
  · exact nodup_keys_put h
  · rwa [onErr_dest]
  · rw [onErr_dest]
    unfold stagedPut
    split
    · split
      · exact nodup_keys_put h
      · exact h
    · exact h

theorem copyLoop_nodup {cfg : LoopCfg} {oc : Path → Outcome} {items : Tree} {st : CopySt}
    (h : (keys st.dest).Nodup) : (keys (copyLoop cfg oc items st).dest).Nodup := by
  induction items generalizing st with
  | nil => exact h
  | cons e rest ih =>
    rw [copyLoop]
    split
    · exact stepFile_nodup h
    · exact ih (stepFile_nodup h)

/-! ## a run on which no file fails -/

def AllOk (oc : Path → Outcome) (items : Tree) : Prop := ∀ e ∈ items, oc e.1 = .ok

theorem allOk_cons {oc : Path → Outcome} {p : Path} {b : Bytes} {rest : Tree} :
    AllOk oc ((p, b) :: rest) ↔ oc p = .ok ∧ AllOk oc rest := List.forall_mem_cons

/-- the state after one file went through -/
def okStep (st : CopySt) (p : Path) (b : Bytes) : CopySt :=
  { st with dest := put st.dest p b, processed := st.processed + 1, bytes := st.bytes + b.length }

@[simp] theorem okStep_aborted (st : CopySt) (p : Path) (b : Bytes) : (okStep st p b).aborted = st.aborted := rfl
@[simp] theorem okStep_skipped (st : CopySt) (p : Path) (b : Bytes) : (okStep st p b).skipped = st.skipped := rfl
@[simp] theorem okStep_processed (st : CopySt) (p : Path) (b : Bytes) :
    (okStep st p b).processed = st.processed + 1 := rfl
@[simp] theorem okStep_dest (st : CopySt) (p : Path) (b : Bytes) : (okStep st p b).dest = put st.dest p b := rfl

theorem stepFile_ok {cfg : LoopCfg} {oc : Path → Outcome} {p : Path} {b : Bytes} {st : CopySt}
    (h : oc p = .ok) : stepFile cfg oc p b st = okStep st p b := by
  simp only [stepFile, h, okStep]

theorem copyLoop_cons_ok {cfg : LoopCfg} {oc : Path → Outcome} {p : Path} {b : Bytes} {rest : Tree}
    {st : CopySt} (h : oc p = .ok) (hst : st.aborted = false) :
    copyLoop cfg oc ((p, b) :: rest) st = copyLoop cfg oc rest (okStep st p b) := by
  simp [copyLoop, stepFile_ok h, hst]

theorem copyLoop_ok_state (cfg : LoopCfg) {oc : Path → Outcome} {items : Tree} (st : CopySt)
    (hok : AllOk oc items) (hst : st.aborted = false) :
    (copyLoop cfg oc items st).aborted = false ∧
    (copyLoop cfg oc items st).skipped = st.skipped ∧
    (copyLoop cfg oc items st).processed = st.processed + items.length := by
  induction items generalizing st with
  | nil => exact ⟨hst, rfl, rfl⟩
  | cons e rest ih =>
    obtain ⟨p, b⟩ := e
    obtain ⟨hp, hrest⟩ := allOk_cons.mp hok
    rw [copyLoop_cons_ok hp hst]
    obtain ⟨h1, h2, h3⟩ := ih (okStep st p b) hrest hst
    exact ⟨h1, h2, by rw [h3, okStep_processed, List.length_cons]; omega⟩

/-- the destination is the listing laid over what was there -/
theorem copyLoop_ok_dest {cfg : LoopCfg} {oc : Path → Outcome} {items : Tree} {st : CopySt}
    (hok : AllOk oc items) (hst : st.aborted = false) (hf : Functional items) (q : Path) :
    lookup (copyLoop cfg oc items st).dest q = (lookup items q).or (lookup st.dest q) := by
  induction items generalizing st with
  | nil => rfl
  | cons e rest ih =>
    obtain ⟨p, b⟩ := e
    obtain ⟨hp, hrest⟩ := allOk_cons.mp hok
    rw [copyLoop_cons_ok hp hst, ih (st := okStep st p b) hrest hst hf.tail, okStep_dest, lookup_put, lookup_cons]
    split
    · -- a later entry for the same path holds the same bytes
      subst q
      cases hl : lookup rest p with
      | none => rfl
      | some c => exact congrArg some (hf p c b (List.mem_cons_of_mem _ ((mem_iff_lookup hf.tail).mpr hl)) (List.mem_cons_self ..))
    · rfl

theorem copyLoop_ok_mem {cfg : LoopCfg} {oc : Path → Outcome} {items : Tree} {st : CopySt}
    (hok : AllOk oc items) (hst : st.aborted = false) (hf : Functional items)
    {q : Path} {c : Bytes} (hq : (q, c) ∈ items) :
    lookup (copyLoop cfg oc items st).dest q = some c := by
  rw [copyLoop_ok_dest hok hst hf, (mem_iff_lookup hf).mp hq]
  rfl

/-- starting from empty storage it holds exactly the listing -/
theorem copyLoop_ok_iff {cfg : LoopCfg} {oc : Path → Outcome} {items : Tree}
    (hok : AllOk oc items) (hf : Functional items) {q : Path} {c : Bytes} :
    lookup (copyLoop cfg oc items { dest := [] }).dest q = some c ↔ (q, c) ∈ items := by
  rw [copyLoop_ok_dest (st := { dest := [] }) hok rfl hf, mem_iff_lookup hf]
  exact Option.or_none ▸ Iff.rfl

/-! ## recognising such a run -/

theorem copyLoop_skipped_ge (cfg : LoopCfg) (oc : Path → Outcome) (items : Tree) (st : CopySt) :
    st.skipped ≤ (copyLoop cfg oc items st).skipped := by
  induction items generalizing st with
  | nil => exact Nat.le_refl _
  | cons e rest ih =>
    rw [copyLoop]
    split
    · exact stepFile_skipped_ge ..
    · exact Nat.le_trans (stepFile_skipped_ge ..) (ih _)

theorem copyLoop_clean {cfg : LoopCfg} {oc : Path → Outcome}
    (hr : cfg.onRead ≠ .continueSilently) (hw : cfg.onWrite ≠ .continueSilently)
    {items : Tree} {st : CopySt}
    (hab : (copyLoop cfg oc items st).aborted = false)
    (hsk : (copyLoop cfg oc items st).skipped = st.skipped) : AllOk oc items := by
  induction items generalizing st with
  | nil => exact fun _ he => nomatch he
  | cons e rest ih =>
    obtain ⟨p, b⟩ := e
    rw [copyLoop] at hab hsk
    have hge := copyLoop_skipped_ge cfg oc rest (stepFile cfg oc p b st)
    split at hab
    · rename_i ha
      cases ha.symm.trans hab
    · rename_i ha
      rw [if_neg ha] at hsk
      -- a failed file would have aborted the loop or raised the skip count for good
      have hok : oc p = .ok := Classical.byContradiction fun hne =>
        (stepFile_loud cfg oc p b st hr hw hne).elim ha (by omega)
      rw [stepFile_ok hok] at hab hsk
      exact allOk_cons.mpr ⟨hok, ih hab hsk⟩

/-- each file adds at most one to `processed`, and exactly one only if it went through: the counter
reaches the number of listed files only if every file did -/
theorem copyLoop_processed (cfg : LoopCfg) (oc : Path → Outcome) (items : Tree) (st : CopySt) :
    (copyLoop cfg oc items st).processed ≤ st.processed + items.length ∧
    ((copyLoop cfg oc items st).processed = st.processed + items.length → AllOk oc items) := by
  induction items generalizing st with
  | nil => exact ⟨Nat.le_refl _, fun _ _ he => nomatch he⟩
  | cons e rest ih =>
    obtain ⟨p, b⟩ := e
    obtain ⟨h1, h2⟩ := stepFile_processed cfg oc p b st
    obtain ⟨i1, i2⟩ := ih (stepFile cfg oc p b st)
    rw [copyLoop, List.length_cons]
    split
    · refine ⟨by omega, fun h => ?_⟩
      cases List.eq_nil_of_length_eq_zero (by omega : rest.length = 0)
      exact allOk_cons.mpr ⟨h2 (by omega), fun _ he => nomatch he⟩
    · exact ⟨by omega, fun h => allOk_cons.mpr ⟨h2 (by omega), i2 (by omega)⟩⟩

/-! ## faults and what the read phase hands on -/

theorem noFaults_ok (ra wa : Nat) (p : Path) : noFaults.outcomeA ra wa p = .ok := by
  simp [noFaults, Faults.outcomeA]

theorem repeatBytes_zero (b : Bytes) : repeatBytes 0 b = [] := rfl

/-- the read phase hands on the source bytes if it is exact or no transient fault names the file -/
theorem readContent_eq {ra : Nat} {resets : Bool} {f : Faults} {p : Path} {b : Bytes}
    (h : readExact ra resets = true ∨ f.readT.lookup p = none) : readContent ra resets f p b = b := by
  unfold readContent
  split
  · rename_i n d hl
    rcases h with h | h
    · by_cases hr : resets = true
      · simp [hr]
      · have hra : ra ≤ 1 := by simpa [readExact, hr] using h
        by_cases hn : n < ra
        · cases (by omega : n = 0); simp [repeatBytes]
        · simp [hn]
    · rw [h] at hl; cases hl
  · rfl

/-- `bContent` and `rContent` are instances of the mapped function -/
theorem map_readContent {ra : Nat} {resets : Bool} {f : Faults} {items : Tree}
    (h : ∀ e ∈ items, readExact ra resets = true ∨ f.readT.lookup e.1 = none) :
    items.map (fun e => (e.1, readContent ra resets f e.1 e.2)) = items :=
  (List.map_congr_left fun e he => by rw [readContent_eq (h e he)]; rfl).trans (List.map_id items)

end Arc.C13
