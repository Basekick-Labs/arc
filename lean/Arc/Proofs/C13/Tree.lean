import Arc.Model.C13
/-!
# C13 — storage trees

`lookup` after `put`. A listing may hold a path twice as long as both entries carry the same bytes
(`Functional`): on such a list `lookup` and membership agree, and since the notion speaks of
membership only it passes to any list with no further members (`Functional.mono`) — the filtered
listing of `backup`, the sorted listing of `restore` (sorting is a permutation, `perm_sortBy`).
-/
namespace Arc.C13

theorem mem_keys_of_mem {t : Tree} {p : Path} {b : Bytes} (h : (p, b) ∈ t) : p ∈ keys t :=
  List.mem_map.mpr ⟨(p, b), h, rfl⟩

theorem lookup_cons (a : Path) (c : Bytes) (t : Tree) (q : Path) :
    lookup ((a, c) :: t) q = if q = a then some c else lookup t q := by
  rw [lookup, List.lookup_cons]
  by_cases h : q = a
  · simp [h]
  · rw [beq_eq_false_iff_ne.mpr h, if_neg h]; rfl

theorem lookup_put (t : Tree) (p q : Path) (b : Bytes) :
    lookup (put t p b) q = if q = p then some b else lookup t q := by
  rw [put, lookup_cons]
  split
  · rfl
  · -- `put` filtered out the entries for `p` only, and `q` is another path
    rename_i h
    induction t with
    | nil => rfl
    | cons a rest ih =>
      obtain ⟨a1, a2⟩ := a
      by_cases ha : a1 = p
      · simp [lookup_cons, ha, h, ih]
      · simp [lookup_cons, ha, ih]

theorem lookup_none_of_not_mem (t : Tree) (p : Path) (h : p ∉ keys t) : lookup t p = none :=
  List.lookup_eq_none_iff.mpr fun e he => by
    simpa using fun hp : p = e.1 => h (hp ▸ mem_keys_of_mem he)

theorem nodup_keys_put {t : Tree} {p : Path} {b : Bytes} (h : (keys t).Nodup) :
    (keys (put t p b)).Nodup := by
  refine List.nodup_cons.mpr ⟨fun hm => ?_, h.sublist (List.filter_sublist.map Prod.fst)⟩
  obtain ⟨e, he, hfst⟩ := List.mem_map.mp hm
  simpa [hfst] using (List.mem_filter.mp he).2

def Functional (items : Tree) : Prop :=
  ∀ p b b', (p, b) ∈ items → (p, b') ∈ items → b = b'

theorem Functional.mono {s t : Tree} (h : Functional t) (hst : ∀ x ∈ s, x ∈ t) : Functional s :=
  fun p b b' h1 h2 => h p b b' (hst _ h1) (hst _ h2)

theorem Functional.tail {e : Path × Bytes} {items : Tree} (h : Functional (e :: items)) : Functional items :=
  h.mono fun _ => List.mem_cons_of_mem _

theorem functional_of_nodup {t : Tree} (h : (keys t).Nodup) : Functional t := by
  induction t with
  | nil => exact fun _ _ _ h1 => nomatch h1
  | cons a rest ih =>
    have ⟨hno, hnd⟩ := List.nodup_cons.mp h
    intro p b b' h1 h2
    rcases List.mem_cons.mp h1 with e1 | t1 <;> rcases List.mem_cons.mp h2 with e2 | t2
    · cases e1; cases e2; rfl
    · cases e1; exact absurd (mem_keys_of_mem t2) hno
    · cases e2; exact absurd (mem_keys_of_mem t1) hno
    · exact ih hnd p b b' t1 t2

theorem mem_iff_lookup {t : Tree} (hf : Functional t) {p : Path} {b : Bytes} :
    (p, b) ∈ t ↔ lookup t p = some b := by
  induction t with
  | nil => simp [lookup]
  | cons a rest ih =>
    obtain ⟨a1, a2⟩ := a
    rw [lookup_cons, List.mem_cons, ih hf.tail]
    split
    · subst p
      constructor
      · rintro (h | h)
        · cases h; rfl
        · exact congrArg some (hf a1 a2 b (List.mem_cons_self ..) (List.mem_cons_of_mem _ ((ih hf.tail).mpr h)))
      · exact fun h => .inl (by cases h; rfl)
    · simp [*]

theorem perm_insertBy (lt : Path → Path → Bool) (e : Path × Bytes) (t : Tree) :
    (insertBy lt e t).Perm (e :: t) := by
  induction t with
  | nil => exact .refl _
  | cons a rest ih =>
    rw [insertBy]
    split
    · exact .refl _
    · exact (ih.cons a).trans (.swap e a rest)

theorem perm_sortBy (lt : Path → Path → Bool) (t : Tree) : (sortBy lt t).Perm t := by
  induction t with
  | nil => exact .refl _
  | cons a rest ih => exact (perm_insertBy lt a _).trans (ih.cons a)

theorem mem_sortBy (lt : Path → Path → Bool) (x : Path × Bytes) (t : Tree) :
    x ∈ sortBy lt t ↔ x ∈ t := (perm_sortBy lt t).mem_iff

theorem length_sortBy (lt : Path → Path → Bool) (t : Tree) : (sortBy lt t).length = t.length :=
  (perm_sortBy lt t).length_eq

end Arc.C13
