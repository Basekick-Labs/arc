import Arc.Proofs.C02.Elem
/-
C02 — column-level agreement: `decodeValueColumnTyped` vs `convertColumnsToTyped` on the boxed,
sanitised elements; `decodeTimeColumnTyped` vs `normalizeTimestampColumns` + the time chokepoint.
-/
namespace Arc.C02
open Arc.Generated.C02

variable (F : FloatSem) (san : Bytes → Bytes)

/-- boxed + sanitised element, as `convertColumnsToTyped` sees it -/
def bx (x : MV) : GoVal := sanVal san (boxS x)

theorem map_bx (xs : List MV) : (xs.map boxS).map (sanVal san) = xs.map (bx san) := by
  rw [List.map_map]; rfl

theorem gIsNil_bx {x : MV} (h : scalar x = true) : gIsNil (bx san x) = isNil x := by
  cases x <;> first | rfl | cases h

theorem isNil_scalar {x : MV} (h : isNil x = true) : scalar x = true := by
  cases x <;> first | rfl | cases h

theorem convElems_agrees {α : Type} (conv : MV → Option α) (gconv : GoVal → Option α) (zero : α)
    (hel : ∀ {x v}, conv x = some v → scalar x = true ∧ gconv (bx san x) = some v) :
    ∀ (xs : List MV) (vs : List α), convElems conv zero xs = some vs →
      (∀ x ∈ xs, scalar x = true) ∧ gConv gconv zero (xs.map (bx san)) = some vs
  | [], vs, h => by cases h; exact ⟨nofun, rfl⟩
  | x :: xs, vs, h => by
    unfold convElems at h
    split at h
    · rename_i a as ha has
      cases h
      obtain ⟨ih1, ih2⟩ := convElems_agrees conv gconv zero @hel xs as has
      have hx : scalar x = true ∧ (if gIsNil (bx san x) then some zero else gconv (bx san x)) = some a := by
        by_cases hn : isNil x = true
        · have hs := isNil_scalar hn
          rw [gIsNil_bx san hs]; rw [if_pos hn] at ha ⊢; exact ⟨hs, ha⟩
        · rw [if_neg hn] at ha
          have he := hel ha
          rw [gIsNil_bx san he.1, if_neg hn]; exact he
      exact ⟨List.forall_mem_cons.2 ⟨hx.1, ih1⟩, by simp only [List.map_cons, gConv, hx.2, ih2]⟩
    · cases h

theorem nils_agree : ∀ {xs : List MV}, (∀ x ∈ xs, scalar x = true) →
    (xs.map (bx san)).any gIsNil = xs.any isNil ∧
      (xs.map (bx san)).map (fun x => !gIsNil x) = xs.map (fun x => !isNil x)
  | [], _ => ⟨rfl, rfl⟩
  | x :: xs, h => by
    rw [List.forall_mem_cons] at h
    have ih := nils_agree h.2
    simp only [List.map_cons, List.any_cons, gIsNil_bx san h.1, ih.1, ih.2, and_self]

theorem validity_agrees {xs : List MV} (h : ∀ x ∈ xs, scalar x = true) :
    gValidity (xs.map (bx san)) = validityOf xs := by
  simp only [gValidity, validityOf, (nils_agree san h).1, (nils_agree san h).2]

theorem firstNonNil_agrees : ∀ (xs : List MV), (∀ x ∈ xs, scalar x = true) →
    firstNonNilG (xs.map (bx san)) = (firstNonNilMV xs).map (bx san)
  | [], _ => rfl
  | x :: xs, h => by
    rw [List.forall_mem_cons] at h
    simp only [List.map_cons, firstNonNilG, firstNonNilMV, gIsNil_bx san h.1,
      firstNonNil_agrees xs h.2]
    cases isNil x <;> rfl

theorem scalar_of_firstNonNil_none : ∀ (xs : List MV), firstNonNilMV xs = none → ∀ x ∈ xs, scalar x = true
  | [], _ => nofun
  | x :: xs, h => by
    simp only [firstNonNilMV] at h
    split at h
    · rename_i hn
      exact List.forall_mem_cons.2 ⟨isNil_scalar hn, scalar_of_firstNonNil_none xs h⟩
    · cases h

/-! Both sides dispatch on the class of the first non-nil element. -/

/-- `clsOfElem` on boxed values -/
def clsG : GoVal → Option Cls
  | .int _ _ => some .int
  | .f32 _ | .f64 _ => some .float
  | .str _ => some .str
  | .bool _ => some .bool
  | _ => none

theorem clsG_bx (x : MV) : clsG (bx san x) = clsOfElem x := by cases x <;> rfl

theorem convertCol_value {name : Bytes} (hname : (name == timeName) = false) {ys : List GoVal}
    {g : GoVal} (hg : firstNonNilG ys = some g) :
    convertCol F name ys =
      match clsG g with
      | none => none
      | some .int => (gConv (toInt64 F) 0 ys).map fun vs => ⟨name, .i64 vs, gValidity ys⟩
      | some .float => (gConv (toFloat64 F) 0 ys).map fun vs => ⟨name, .f64 vs, gValidity ys⟩
      | some .str => (gConv gStr [] ys).map fun vs => ⟨name, .str vs, gValidity ys⟩
      | some .bool => (gConv gBool false ys).map fun vs => ⟨name, .bool vs, gValidity ys⟩ := by
  simp only [convertCol, hg, hname]; cases g <;> rfl

/-- one class: element-wise agreement lifts to the column, given (`hcc`) that `convertCol` takes this
class's branch once the elements are known to be scalars -/
theorem classCol_agrees {α : Type} {conv : MV → Option α} {gconv : GoVal → Option α} {zero : α}
    (mk : List α → Col) (hel : ∀ {x v}, conv x = some v → scalar x = true ∧ gconv (bx san x) = some v)
    {xs : List MV} {r : Col × Option (List Bool)} {name : Bytes}
    (h : ((convElems conv zero xs).map fun vs => (mk vs, validityOf xs)) = some r)
    (hcc : (∀ x ∈ xs, scalar x = true) → convertCol F name (xs.map (bx san)) =
      (gConv gconv zero (xs.map (bx san))).map fun vs => ⟨name, mk vs, gValidity (xs.map (bx san))⟩) :
    (∀ x ∈ xs, scalar x = true) ∧ convertCol F name (xs.map (bx san)) = some ⟨name, r.1, r.2⟩ := by
  obtain ⟨vs, hvs, rfl⟩ := Option.map_eq_some_iff.1 h
  obtain ⟨hs, hg⟩ := convElems_agrees san conv gconv zero @hel xs vs hvs
  exact ⟨hs, by rw [hcc hs, hg, validity_agrees san hs]; rfl⟩

/-- **value columns**: whenever `decodeValueColumnTyped` succeeds on the wire elements, every element
boxes as a scalar and `convertColumnsToTyped` produces the same type, values and null positions. -/
theorem valueCol_agrees (hF : FloatLaws F) {name : Bytes} (hname : (name == timeName) = false)
    {xs : List MV} {d : Col} {vl : Option (List Bool)} (h : typedValueCol F san xs = some (d, vl)) :
    (∀ x ∈ xs, scalar x = true) ∧
      convertCol F name ((xs.map boxS).map (sanVal san)) = some ⟨name, d, vl⟩ := by
  rw [map_bx]
  unfold typedValueCol at h
  cases hx0 : firstNonNilMV xs with
  | none =>
    have hs := scalar_of_firstNonNil_none xs hx0
    simp only [hx0] at h; cases h
    exact ⟨hs, by simp [convertCol, firstNonNil_agrees san xs hs, hx0, hname, Function.comp_def]⟩
  | some x0 =>
    simp only [hx0] at h
    have hcc := fun hs => convertCol_value F hname
      (ys := xs.map (bx san)) (g := bx san x0) (by rw [firstNonNil_agrees san xs hs, hx0]; rfl)
    rw [clsG_bx] at hcc
    cases hc : clsOfElem x0 with
    | none => rw [hc] at h; cases h
    | some c =>
      simp only [hc] at h hcc
      cases c with
      | int => exact classCol_agrees F san .i64 (intElem_agrees F san hF) h hcc
      | float => exact classCol_agrees F san .f64 (floatElem_agrees F san) h hcc
      | str => exact classCol_agrees F san .str (strElem_agrees san) h hcc
      | bool => exact classCol_agrees F san .bool (boolElem_agrees san) h hcc

theorem tsAll_agrees (hF : FloatLaws F) : ∀ (xs : List MV) (tl : List Int),
    typedTsAll F xs = some tl →
    (∀ x ∈ xs, scalar x = true) ∧
      ∀ m, normAll F m (xs.map boxS) = some (tl.map fun t => GoVal.int IK.i64 (applyMult m t))
  | [], tl, h => by cases h; exact ⟨nofun, fun _ => rfl⟩
  | x :: xs, tl, h => by
    unfold typedTsAll at h
    split at h
    · cases h
    · rename_i t ht
      split at h
      · cases h
      · rename_i ts hts
        cases h
        have he := timeElem_agrees F hF ht
        have ih := tsAll_agrees hF xs ts hts
        exact ⟨List.forall_mem_cons.2 ⟨he.1, ih.1⟩,
          fun m => by simp only [List.map_cons, normAll, he.2, ih.2 m]⟩

/-- both files detect the unit with the same thresholds and multipliers (tables regenerated from
msgpack.go and msgpack_typed.go on every run; a one-sided edit breaks this `decide`). -/
theorem units_same : typedUnits = normUnits ∧ typedUnitDefault = normUnitDefault := by decide

theorem tsMult_same (ts : Int) : tsMultG ts = tsMultT ts := by
  unfold tsMultG tsMultT; rw [units_same.1, units_same.2]

/-- ints produced by normalisation pass the time chokepoint of convertColumnsToTyped unchanged -/
theorem gTimeAll_ints (f : Int → Int) : ∀ (ts : List Int),
    gTimeAll F ((ts.map fun t => GoVal.int IK.i64 (f t)).map (sanVal san)) = some (ts.map f)
  | [] => rfl
  | t :: ts => by
    simp only [List.map_cons, gTimeAll, sanVal, gIsNil, toInt64, Bool.false_eq_true, if_false,
      gTimeAll_ints f ts]

theorem convertCol_time_ints (f : Int → Int) : ∀ (ts : List Int), ts ≠ [] →
    convertCol F timeName ((ts.map fun t => GoVal.int IK.i64 (f t)).map (sanVal san))
      = some ⟨timeName, .i64 (ts.map f), none⟩
  | [], h => absurd rfl h
  | t0 :: tl, _ => by
    have hg := gTimeAll_ints F san f (t0 :: tl)
    simp only [List.map_cons, sanVal] at hg
    simp only [convertCol, List.map_cons, firstNonNilG, sanVal, gIsNil, Bool.false_eq_true, if_false,
      hg, beq_self_eq_true, if_true, Option.map_some]

/-- **time column**: unit detection from element 0 and per-element scaling agree; the normalised
column passes the typing chokepoint as int64 without validity. -/
theorem timeCol_agrees (hF : FloatLaws F) : ∀ {xs : List MV} {ts : List Int}, xs ≠ [] →
    typedTime F xs = some ts →
    (∀ x ∈ xs, scalar x = true) ∧
    ∃ gts : List GoVal, normalizeTime F (xs.map boxS) = some gts ∧
      convertCol F timeName (gts.map (sanVal san)) = some ⟨timeName, .i64 ts, none⟩
  | [], _, hne, _ => absurd rfl hne
  | x :: xs, ts, _, h => by
    simp only [typedTime, typedTsAll] at h
    -- element 0 gives the unit on both sides
    cases ht : typedTs F x with
    | none => simp [ht] at h
    | some t0 =>
      cases hts : typedTsAll F xs with
      | none => simp [ht, hts] at h
      | some tl =>
        simp only [ht, hts, Option.some.injEq] at h
        subst h
        have he := timeElem_agrees F hF ht
        have hA := tsAll_agrees F hF xs tl hts
        refine ⟨List.forall_mem_cons.2 ⟨he.1, hA.1⟩, _, ?_,
          convertCol_time_ints F san (applyMult (tsMultT t0)) (t0 :: tl) (List.cons_ne_nil _ _)⟩
        simp only [List.map_cons, normalizeTime, he.2, tsMult_same, normAll, hA.2]

end Arc.C02
