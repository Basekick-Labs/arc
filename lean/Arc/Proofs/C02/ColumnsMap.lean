import Arc.Proofs.C02.Boxing
import Arc.Proofs.C02.Pipeline
/-
C02 — the map under the "columns" key. The typed loop `decodeTypedColumns`, when it succeeds, has
converted exactly the array-valued pairs `arrayCols kvs` in wire order (`typedCols_inv`); its
duplicate-key bail-outs make Go's last-wins map of the boxed pairs, arrays only, that same list
(`cols_box`). `ColsOk` is what the generic path then needs of the boxed value (`columnsVal_agrees`).
-/
namespace Arc.C02
open Arc.Generated.C02

variable (F : FloatSem) (san : Bytes → Bytes)

/-- the array-valued pairs of a flattened map, in wire order -/
def arrayCols : List MV → List (Bytes × List MV)
  | k :: v :: rest =>
    match strKey? k, v with
    | some name, .arr _ xs => (name, xs) :: arrayCols rest
    | _, _ => arrayCols rest
  | _ => []

theorem arrayCols_nonarr {k v : MV} {rest : List MV} (h : isArr v = false) :
    arrayCols (k :: v :: rest) = arrayCols rest := by
  -- the equation of the second arm, whose side condition is that the first does not apply
  rw [arrayCols]
  intro _ _ _ _ hv
  subst hv; cases h

theorem arrayCols_arr {k : MV} {name : Bytes} (hk : strKey? k = some name) (w : AW) (xs rest : List MV) :
    arrayCols (k :: .arr w xs :: rest) = (name, xs) :: arrayCols rest := by
  simp only [arrayCols, hk]

/-! One iteration of the loop, by the kind of the value. -/

theorem typedCols_nonarr (hfix : nonArrayDupFallsBack = true) {k v : MV} {rest : List MV}
    {acc : List ColRec} {e : Option Nat} {R : List ColRec × Option Nat} (hv : isArr v = false)
    (h : typedCols F san (k :: v :: rest) acc e = some R) :
    ∃ name, strKey? k = some name ∧ name ∉ acc.map (·.name) ∧ typedCols F san rest acc e = some R := by
  unfold typedCols at h
  cases k with
  | str kw name =>
    refine ⟨name, rfl, ?_⟩
    cases v with
    | arr => cases hv
    | _ =>
      obtain ⟨hc, h⟩ := Option.ite_none_left_eq_some.1 h
      exact ⟨fun hm => hc (by rw [hfix, hasCol_iff.2 hm]; rfl), h⟩
  | _ => cases h

theorem typedCols_arr {k : MV} {w : AW} {xs rest : List MV} {acc : List ColRec} {e : Option Nat}
    {R : List ColRec × Option Nat} (h : typedCols F san (k :: .arr w xs :: rest) acc e = some R) :
    ∃ name c, strKey? k = some name ∧ name ∉ acc.map (·.name) ∧ 0 < xs.length ∧
      (∀ n0, e = some n0 → n0 = xs.length) ∧ typedColOf F san (name, xs) = some c ∧
      typedCols F san rest (acc ++ [c]) (some xs.length) = some R := by
  unfold typedCols at h
  cases k with
  | str kw name =>
    obtain ⟨h1, h⟩ := Option.ite_none_left_eq_some.1 h
    obtain ⟨h2, h⟩ := Option.ite_none_left_eq_some.1 h
    obtain ⟨h3, h⟩ := Option.ite_none_left_eq_some.1 h
    have hpos : 0 < xs.length := by
      simp only [Bool.or_eq_true, decide_eq_true_eq, not_or] at h1; omega
    have he : ∀ n0, e = some n0 → n0 = xs.length := fun n0 h0 => by
      subst h0; exact (by simpa using h2 : xs.length = n0).symm
    have hc : name ∉ acc.map (·.name) := mt hasCol_iff.2 h3
    unfold typedColOf
    split at h <;> rename_i ht <;> split at h
    · cases h
    · rename_i ts hts
      exact ⟨name, _, rfl, hc, hpos, he, by simp [ht, hts], h⟩
    · cases h
    · rename_i d vl hv
      exact ⟨name, _, rfl, hc, hpos, he, by simp [ht, hv], h⟩
  | _ => cases h

def allStr : List MV → Bool
  | k :: _ :: rest => (strKey? k).isSome && allStr rest
  | _ => true

/-- no array-valued pair is followed by a later pair with the same key -/
def arrNoLater : List MV → Bool
  | k :: v :: rest =>
    (if isArr v then
      (match strKey? k with
       | some name => !keyIn name rest
       | none => true)
     else true) && arrNoLater rest
  | _ => true

theorem keyIn_acc {acc : List ColRec} {k v : MV} {rest : List MV} {name : Bytes}
    (hk : strKey? k = some name) (hc : name ∉ acc.map (·.name))
    (h : ∀ c ∈ acc, keyIn c.name rest = false) : ∀ c ∈ acc, keyIn c.name (k :: v :: rest) = false := by
  intro c hcm
  have : name ≠ c.name := fun he => hc (he ▸ List.mem_map_of_mem hcm)
  simp [keyIn, hk, h c hcm, this]

/-- a successful run of the loop from accumulator `acc` and expected length `e`: the array-valued
pairs were converted (to `cs`) and appended, all have the final expected length, no earlier or
converted key recurs later, and the column names stay distinct -/
theorem typedCols_inv (hfix : nonArrayDupFallsBack = true) :
    ∀ {kvs : List MV} {acc : List ColRec} {e : Option Nat} {R : List ColRec × Option Nat},
      typedCols F san kvs acc e = some R →
      ∃ cs, (arrayCols kvs).map (typedColOf F san) = cs.map some ∧ R.1 = acc ++ cs ∧
        (∀ p ∈ arrayCols kvs, 0 < p.2.length ∧ R.2 = some p.2.length) ∧
        (∀ n0, e = some n0 → R.2 = some n0) ∧
        (∀ c ∈ acc, keyIn c.name kvs = false) ∧ arrNoLater kvs = true ∧ allStr kvs = true ∧
        ((acc.map (·.name)).Nodup → (R.1.map (·.name)).Nodup)
  | [], acc, e, R, h | [_], acc, e, R, h => by
    cases h
    exact ⟨[], rfl, (List.append_nil _).symm, nofun, fun _ h0 => h0, fun _ _ => rfl, rfl, rfl, id⟩
  | k :: v :: rest, acc, e, R, h => by
    cases hv : isArr v with
    | false =>
      obtain ⟨name, hk, hc, hrest⟩ := typedCols_nonarr F san hfix hv h
      obtain ⟨cs, hcs, hR, hlen, he, hacc, hnl, hstr, hnd⟩ := typedCols_inv hfix hrest
      rw [arrayCols_nonarr hv]
      exact ⟨cs, hcs, hR, hlen, he, keyIn_acc hk hc hacc, by simp [arrNoLater, hv, hnl],
        by simp [allStr, hk, hstr], hnd⟩
    | true =>
      obtain ⟨w, xs, rfl⟩ := isArr_eq hv
      obtain ⟨name, c, hk, hc, hpos, he', hconv, hrest⟩ := typedCols_arr F san h
      obtain ⟨cs, hcs, hR, hlen, he, hacc, hnl, hstr, hnd⟩ :=
        typedCols_inv hfix hrest
      have hR2 : R.2 = some xs.length := he _ rfl
      have hcn : c.name = name := typedColOf_name F san hconv
      have hk' : keyIn name rest = false :=
        hcn ▸ hacc c (List.mem_append_right _ (List.mem_singleton_self c))
      rw [arrayCols_arr hk]
      refine ⟨c :: cs, by simp only [List.map_cons, hconv, hcs], by rw [hR, List.append_assoc]; rfl,
        List.forall_mem_cons.2 ⟨⟨hpos, hR2⟩, hlen⟩, fun n0 h0 => he' n0 h0 ▸ hR2,
        keyIn_acc hk hc fun c' hcm => hacc c' (List.mem_append_left _ hcm),
        by simp [arrNoLater, isArr, hk, hk', hnl], by simp [allStr, hk, hstr], fun hN => hnd ?_⟩
      rw [List.map_append, List.nodup_append]
      refine ⟨hN, List.pairwise_singleton _ _, fun a ha b hb => ?_⟩
      cases List.mem_singleton.1 hb
      exact fun (he : a = c.name) => hc (hcn ▸ he ▸ ha)

def slice? (p : Bytes × GoVal) : Option (Bytes × List GoVal) :=
  match p.2 with
  | .slice xs => some (p.1, xs)
  | _ => none

theorem payloadColumns_eq (kvs : List (Bytes × GoVal)) :
    payloadColumns kvs = (dedupLast kvs).filterMap slice? := rfl

/-- **last-wins de-duplication**: the `columns` map boxes (keys are str; arrays hold scalars; the
rest are leaves by `colsCarve`), and Go's map over the boxed pairs, arrays only, is exactly the list
of array-valued pairs in wire order. -/
theorem cols_box : ∀ {kvs : List MV}, allStr kvs = true → arrNoLater kvs = true →
    colsCarve kvs = true → (∀ p ∈ arrayCols kvs, ∀ x ∈ p.2, scalar x = true) →
    KVok F kvs ∧ payloadColumns (boxPairs F kvs) = (arrayCols kvs).map boxCol
  | [], _, _, _, _ | [_], _, _, _, _ => ⟨trivial, rfl⟩
  | k :: v :: rest, hs, hnl, hcv, hsc => by
    simp only [allStr, arrNoLater, colsCarve, Bool.and_eq_true, Bool.or_eq_true] at hs hnl hcv
    obtain ⟨name, hk⟩ := Option.isSome_iff_exists.1 hs.1
    obtain ⟨kw, rfl⟩ := strKey_eq hk
    cases hv : isArr v with
    | true =>
      obtain ⟨w, xs, rfl⟩ := isArr_eq hv
      rw [arrayCols_arr hk] at hsc ⊢
      rw [List.forall_mem_cons] at hsc
      obtain ⟨ihk, ihp⟩ := cols_box hs.2 hnl.2 hcv.2 hsc.2
      have hb := goBox_arr F (w := w) hsc.1
      have hk' : keyIn name rest = false := by simpa [isArr, strKey?] using hnl.1
      refine ⟨⟨⟨_, rfl⟩, ⟨_, hb⟩, ihk⟩, ?_⟩
      rw [payloadColumns_eq] at ihp ⊢
      simp [boxPairs_cons, dedupLast, any_boxPairs F name ihk, hk', boxT_ok F hb, slice?, ihp,
        boxCol]
    | false =>
      obtain ⟨g, hg, hns⟩ := goBox_leaf F (hcv.1.resolve_left (by simp [hv]))
      rw [arrayCols_nonarr hv] at hsc ⊢
      obtain ⟨ihk, ihp⟩ := cols_box hs.2 hnl.2 hcv.2 hsc
      refine ⟨⟨⟨_, rfl⟩, ⟨g, hg⟩, ihk⟩, ?_⟩
      rw [payloadColumns_eq] at ihp ⊢
      have hsl : slice? (name, g) = none := by
        cases g <;> first | rfl | exact absurd rfl (hns _)
      simp only [boxPairs_cons, dedupLast, boxT_ok F hg]
      split <;> simp [hsl, ihp]

def colsCarveV : MV → Bool
  | .map _ ckvs => colsCarve ckvs
  | _ => true

/-- what the generic path needs of the boxed value under the "columns" key: a string-keyed map whose
array entries (last wins) are wire columns `A` the typed path converted to `c.1`, `c.2` rows each -/
def ColsOk (g : GoVal) (c : List ColRec × Nat) : Prop :=
  ∃ (ckvs : List (Bytes × GoVal)) (A : List (Bytes × List MV)), g = .smap ckvs ∧
    payloadColumns ckvs = A.map boxCol ∧ A ≠ [] ∧ (∀ p ∈ A, p.2.length = c.2) ∧ 0 < c.2 ∧
    (A.map (·.1)).Nodup ∧ A.map (typedColOf F san) = c.1.map some

/-- **the `columns` value** boxes, and the typed path's columns are its array entries. -/
theorem columnsVal_agrees (hF : FloatLaws F) (hfix : nonArrayDupFallsBack = true) {cv : MV}
    {c : List ColRec × Nat} (h : typedColumnsVal F san cv = some c) (hcv : colsCarveV cv = true) :
    ∃ g, goBox F cv = .ok g ∧ ColsOk F san g c := by
  cases cv with
  | map w ckvs =>
    simp only [typedColumnsVal] at h
    obtain ⟨hlen, h⟩ := Option.ite_none_left_eq_some.1 h
    split at h
    · rename_i acc n hT
      obtain ⟨hne, h⟩ := Option.ite_none_left_eq_some.1 h
      cases h
      obtain ⟨cs, hcs, hR, hlens, _, _, hnl, hstr, hnd⟩ := typedCols_inv F san hfix hT
      cases (hR : acc = cs)
      have hsc : ∀ p ∈ arrayCols ckvs, ∀ x ∈ p.2, scalar x = true := fun p hp =>
        let ⟨_, hc⟩ := exists_of_map_eq_map_some hcs hp
        (typedColOf_agrees F san hF hc (List.ne_nil_of_length_pos (hlens p hp).1)).1
      obtain ⟨hkv, hpay⟩ := cols_box F hstr hnl hcv hsc
      have hA : arrayCols ckvs ≠ [] := fun h0 => by
        rw [h0] at hcs
        cases acc with
        | nil => exact hne rfl
        | cons => cases hcs
      have hn : ∀ p ∈ arrayCols ckvs, p.2.length = n := fun p hp =>
        (Option.some.inj (hlens p hp).2).symm
      obtain ⟨p, hp⟩ := List.exists_mem_of_ne_nil _ hA
      exact ⟨_, goBox_smap F w (by omega) hkv, _, _, rfl, hpay, hA, hn, hn p hp ▸ (hlens p hp).1,
        names_of_map F san hcs ▸ hnd List.nodup_nil, hcs⟩
    · cases h
  | _ => cases h

end Arc.C02
