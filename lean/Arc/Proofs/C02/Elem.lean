import Arc.Model.C02
/-
C02 — per-element agreement between the typed fast path (on wire values) and the generic path
(library boxing `goBox`, then toInt64 / toFloat64 / toInt64Timestamp / type assertions of
convertColumnsToTyped and normalizeTimestampColumns). A wire value the typed path accepts as a column
element is a `scalar`, and `goBox` of a scalar is `boxS` of it.
-/
namespace Arc.C02

variable (F : FloatSem) (san : Bytes → Bytes)

/-- boxing of a scalar wire value (what `goBox` returns on it). -/
def boxS : MV → GoVal
  | .nil => .nil
  | .bool b => .bool b
  | .int w v => .int (ikOfIW w) v
  | .uint w v => .int (ikOfUW w) v
  | .f32 b => .f32 b
  | .f64 b => .f64 b
  | .str _ s => .str s
  | _ => .nil

def scalar : MV → Bool
  | .nil | .bool _ | .int _ _ | .uint _ _ | .f32 _ | .f64 _ | .str _ _ => true
  | _ => false

theorem goBox_scalar {x : MV} (h : scalar x = true) : goBox F x = .ok (boxS x) := by
  cases x <;> first | rfl | cases h

theorem goBoxL_scalars : ∀ {xs : List MV}, (∀ x ∈ xs, scalar x = true) →
    goBoxL F xs = .ok (xs.map boxS)
  | [], _ => rfl
  | x :: xs, h => by
    rw [List.forall_mem_cons] at h
    simp only [goBoxL, goBox_scalar F h.1, goBoxL_scalars h.2, List.map_cons]

theorem intElem_agrees (hF : FloatLaws F) {x : MV} {v : Int} (h : typedIntElem F x = some v) :
    scalar x = true ∧ toInt64 F (sanVal san (boxS x)) = some v := by
  cases x with
  | uint w n =>
    cases w
    case u64 =>
      obtain ⟨hn, hv⟩ := Option.ite_none_left_eq_some.1 h
      cases hv
      exact ⟨rfl, if_neg hn⟩
    all_goals exact ⟨rfl, h⟩
  | int w n => cases w <;> exact ⟨rfl, h⟩
  | f32 b =>
    simp only [typedIntElem] at h
    simp only [scalar, boxS, sanVal, toInt64, hF.f32gtMax_eq, hF.f32ltMin_eq, hF.f32toI_eq, true_and]
    exact h
  | f64 b => exact ⟨rfl, h⟩
  | _ => cases h

theorem floatElem_agrees {x : MV} {v : Nat} (h : typedFloatElem F x = some v) :
    scalar x = true ∧ toFloat64 F (sanVal san (boxS x)) = some v := by
  cases x <;> cases h <;> exact ⟨rfl, rfl⟩

theorem strElem_agrees {x : MV} {v : Bytes} (h : typedStrElem san x = some v) :
    scalar x = true ∧ gStr (sanVal san (boxS x)) = some v := by
  cases x <;> cases h <;> exact ⟨rfl, rfl⟩

theorem boolElem_agrees {x : MV} {v : Bool} (h : typedBoolElem x = some v) :
    scalar x = true ∧ gBool (sanVal san (boxS x)) = some v := by
  cases x <;> cases h <;> exact ⟨rfl, rfl⟩

theorem timeElem_agrees (hF : FloatLaws F) {x : MV} {t : Int} (h : typedTs F x = some t) :
    scalar x = true ∧ toInt64Ts F (boxS x) = some t := by
  cases x with
  | uint w n => cases w <;> exact ⟨rfl, h⟩
  | int w n => cases w <;> exact ⟨rfl, h⟩
  | f32 b => exact ⟨rfl, (congrArg some (hF.f32toI_eq b)).trans h⟩
  | f64 b => exact ⟨rfl, h⟩
  | _ => cases h

end Arc.C02
