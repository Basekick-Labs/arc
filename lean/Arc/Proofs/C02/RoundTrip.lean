import Arc.Model.C02.Msgpack
/-
C02 — decoder/encoder round trip, leaf level: for every non-container value at EVERY encoding width
(nil, bool, positive/negative fixint, int8–64, uint8–64, float32/64, fixstr/str8–32, bin8–32,
fixext1–16/ext8–32) that is well-formed for its width, `decode (encode v ++ rest) = some (v, rest)`.
(Containers: the decoder's array/map arms are exercised against the real library by the harness;
their inductive round trip is not proved here.)
-/
namespace Arc.C02

theorem readN_append : ∀ (s r : Bytes), readN s.length (s ++ r) = some (s, r)
  | [], r => by simp [readN]
  | x :: s, r => by simp [readN, readN_append s r]

theorem beNat_snoc (xs : Bytes) (y : UInt8) : beNat (xs ++ [y]) = beNat xs * 256 + y.toNat := by
  simp [beNat, List.foldl_append]

theorem be_length : ∀ (k v : Nat), (be k v).length = k
  | 0, _ => rfl
  | k + 1, v => by simp [be, be_length k]

theorem beNat_be : ∀ (k v : Nat), v < 256 ^ k → beNat (be k v) = v
  | 0, v, h => by simp at h; subst h; rfl
  | k + 1, v, h => by
    have h' : v / 256 < 256 ^ k := by
      rw [Nat.pow_succ] at h; exact Nat.div_lt_of_lt_mul (by omega)
    simp only [be, beNat_snoc, beNat_be k (v / 256) h', UInt8.toNat_ofNat']
    omega

theorem readBE_be {k v : Nat} (h : v < 256 ^ k) (r : Bytes) : readBE k (be k v ++ r) = some (v, r) := by
  have := readN_append (be k v) r
  rw [be_length] at this
  simp [readBE, this, beNat_be k v h]

/-! The decoder's four readers on what the encoder writes, each under the continuation `g` that
`decodeF` applies to the result. -/

theorem map_readBE (g : Nat → MV) (k : Nat) {n : Nat} (h : n < 256 ^ k) (rest : Bytes) :
    (readBE k (be k n ++ rest)).map (fun (n, r') => (g n, r')) = some (g n, rest) := by
  rw [readBE_be h rest]; rfl

theorem map_readLenBytes (g : Bytes → MV) (k : Nat) {s : Bytes} (h : s.length < 256 ^ k) (rest : Bytes) :
    (readLenBytes k (be k s.length ++ s ++ rest)).map (fun (s, r') => (g s, r')) = some (g s, rest) := by
  rw [List.append_assoc, readLenBytes, readBE_be h]
  simp only [readN_append]; rfl

theorem map_readExt (g : UInt8 → Bytes → MV) (k : Nat) (t : UInt8) {d : Bytes} (h : d.length < 256 ^ k)
    (rest : Bytes) :
    (readExt k (be k d.length ++ t :: d ++ rest)).map (fun (t, d, r') => (g t d, r')) = some (g t d, rest) := by
  rw [List.append_assoc, readExt, readBE_be h]
  simp only [List.cons_append, readN_append]; rfl

theorem map_readFixExt (g : UInt8 → Bytes → MV) {n : Nat} (t : UInt8) {d : Bytes} (h : d.length = n)
    (rest : Bytes) :
    (readFixExt n (t :: (d ++ rest))).map (fun (t, d, r') => (g t d, r')) = some (g t d, rest) := by
  subst h; simp only [readFixExt, readN_append]; rfl

theorem fromSigned_lt (bits : Nat) (v : Int) : fromSigned bits v < 2 ^ bits := by
  have hM : (0 : Int) < (2 ^ bits : Nat) := Int.natCast_pos.2 (Nat.pow_pos (by decide))
  have := Int.emod_lt_of_pos v hM
  have := Int.emod_nonneg v (Int.ne_of_gt hM)
  unfold fromSigned; omega

theorem toSigned_fromSigned (b : Nat) {v : Int} (lo : -((2 ^ b : Nat) : Int) ≤ v) (hi : v < (2 ^ b : Nat)) :
    toSigned (b + 1) (fromSigned (b + 1) v) = v := by
  have hM : ((2 ^ (b + 1) : Nat) : Int) = (2 ^ b : Nat) + (2 ^ b : Nat) := by rw [Nat.pow_succ]; omega
  simp only [toSigned, fromSigned, Nat.add_sub_cancel, hM]
  generalize (2 ^ b : Nat) = H at *
  by_cases h0 : 0 ≤ v
  · have : v < H + H := by omega
    rw [Int.emod_eq_of_lt h0 this, if_pos (by omega), Int.toNat_of_nonneg h0]
  · have h1 : 0 ≤ v + (H + H) := by omega
    have h2 : v + (H + H) < H + H := by omega
    rw [← Int.add_emod_right, Int.emod_eq_of_lt h1 h2, if_neg (by omega), Int.toNat_of_nonneg h1]
    omega

/-- well-formedness of a leaf for its width -/
def wfLeaf : MV → Prop
  | .nil | .bool _ => True
  | .int .fix v => -32 ≤ v ∧ v ≤ 127
  | .int .i8 v => -128 ≤ v ∧ v ≤ 127
  | .int .i16 v => -32768 ≤ v ∧ v ≤ 32767
  | .int .i32 v => -2147483648 ≤ v ∧ v ≤ 2147483647
  | .int .i64 v => -9223372036854775808 ≤ v ∧ v ≤ 9223372036854775807
  | .uint .u8 v => v < 256
  | .uint .u16 v => v < 65536
  | .uint .u32 v => v < 4294967296
  | .uint .u64 v => v < 18446744073709551616
  | .f32 b => b < 4294967296
  | .f64 b => b < 18446744073709551616
  | .str .fix s => s.length ≤ 31
  | .str .l8 s => s.length < 256
  | .str .l16 s => s.length < 65536
  | .str .l32 s => s.length < 4294967296
  | .bin .l8 s => s.length < 256
  | .bin .l16 s => s.length < 65536
  | .bin .l32 s => s.length < 4294967296
  | .ext .f1 _ d => d.length = 1
  | .ext .f2 _ d => d.length = 2
  | .ext .f4 _ d => d.length = 4
  | .ext .f8 _ d => d.length = 8
  | .ext .f16 _ d => d.length = 16
  | .ext .e8 _ d => d.length < 256
  | .ext .e16 _ d => d.length < 65536
  | .ext .e32 _ d => d.length < 4294967296
  | .arr _ _ | .map _ _ => False

/-! `decodeF` on the three code ranges that carry their payload in the code byte itself. -/

theorem decodeF_posfix {f : Nat} {c : UInt8} {r : Bytes} (h : c.toNat ≤ 0x7f) :
    decodeF (f + 1) (c :: r) = some (.int .fix c.toNat, r) := by
  rw [decodeF]; exact if_pos h

theorem decodeF_negfix {f : Nat} {c : UInt8} {r : Bytes} (h : 0xe0 ≤ c.toNat) :
    decodeF (f + 1) (c :: r) = some (.int .fix ((c.toNat : Int) - 256), r) := by
  rw [decodeF]; dsimp only
  rw [if_neg (by omega), if_neg (by omega), if_neg (by omega), if_neg (by omega), if_pos h]

/-- both fixint ranges read the code byte as a two's-complement int8 -/
theorem decodeF_fixint {f : Nat} {c : UInt8} {r : Bytes} (h : c.toNat ≤ 0x7f ∨ 0xe0 ≤ c.toNat) :
    decodeF (f + 1) (c :: r) = some (.int .fix (toSigned 8 c.toNat), r) := by
  rcases h with h | h
  · rw [decodeF_posfix h, toSigned, if_pos (show c.toNat < 128 by omega)]
  · rw [decodeF_negfix h, toSigned, if_neg (show ¬ c.toNat < 128 by omega)]; rfl

theorem decodeF_fixstr {f : Nat} {c : UInt8} {r : Bytes} (h : 0xa0 ≤ c.toNat) (h' : c.toNat ≤ 0xbf) :
    decodeF (f + 1) (c :: r) =
      match readN (c.toNat - 0xa0) r with
      | some (s, r') => some (.str .fix s, r')
      | none => none := by
  rw [decodeF]; dsimp only
  rw [if_neg (by omega), if_neg (by omega), if_neg (by omega), if_pos h']
  generalize readN _ r = o; cases o <;> rfl

/-- **Round trip, every leaf at every width.** On a literal code byte `decode (c :: …)` computes to
the reader with its continuation, so each fixed-code arm is an instance of a `map_read…` lemma; only
fixint and fixstr, whose code byte depends on the value, go through the range lemmas. -/
theorem decode_encode_leaf (v : MV) (h : wfLeaf v) (rest : Bytes) :
    decode (encode v ++ rest) = some (v, rest) :=
  match v, h with
  | .nil, _ => rfl
  | .bool false, _ => rfl
  | .bool true, _ => rfl
  | .int .fix v, h => by
    have hv : -32 ≤ v ∧ v ≤ 127 := h
    have hc : (UInt8.ofNat (fromSigned 8 v)).toNat = fromSigned 8 v := by
      rw [UInt8.toNat_ofNat']; exact Nat.mod_eq_of_lt (fromSigned_lt 8 v)
    have hr : fromSigned 8 v ≤ 0x7f ∨ 0xe0 ≤ fromSigned 8 v := by unfold fromSigned; omega
    rw [encode, List.cons_append, List.nil_append, decode, decodeF_fixint (hc.symm ▸ hr), hc,
      toSigned_fromSigned 7 (by omega) (by omega)]
  | .int .i8 v, h => (map_readBE (fun n => .int .i8 (toSigned 8 n)) 1 (fromSigned_lt 8 v) rest).trans
      (by rw [toSigned_fromSigned 7 h.1 (by have := h.2; omega)])
  | .int .i16 v, h => (map_readBE (fun n => .int .i16 (toSigned 16 n)) 2 (fromSigned_lt 16 v) rest).trans
      (by rw [toSigned_fromSigned 15 h.1 (by have := h.2; omega)])
  | .int .i32 v, h => (map_readBE (fun n => .int .i32 (toSigned 32 n)) 4 (fromSigned_lt 32 v) rest).trans
      (by rw [toSigned_fromSigned 31 h.1 (by have := h.2; omega)])
  | .int .i64 v, h => (map_readBE (fun n => .int .i64 (toSigned 64 n)) 8 (fromSigned_lt 64 v) rest).trans
      (by rw [toSigned_fromSigned 63 h.1 (by have := h.2; omega)])
  | .uint .u8 n, h => map_readBE (.uint .u8) 1 h rest
  | .uint .u16 n, h => map_readBE (.uint .u16) 2 h rest
  | .uint .u32 n, h => map_readBE (.uint .u32) 4 h rest
  | .uint .u64 n, h => map_readBE (.uint .u64) 8 h rest
  | .f32 n, h => map_readBE .f32 4 h rest
  | .f64 n, h => map_readBE .f64 8 h rest
  | .str .fix s, h => by
    have hl : s.length ≤ 31 := h
    have hc : (UInt8.ofNat (0xa0 + s.length)).toNat = 0xa0 + s.length := by
      rw [UInt8.toNat_ofNat']; omega
    rw [encode, List.cons_append, decode, decodeF_fixstr (by omega) (by omega), hc,
      Nat.add_sub_cancel_left, readN_append]
  | .str .l8 s, h => map_readLenBytes (.str .l8) 1 h rest
  | .str .l16 s, h => map_readLenBytes (.str .l16) 2 h rest
  | .str .l32 s, h => map_readLenBytes (.str .l32) 4 h rest
  | .bin .l8 s, h => map_readLenBytes (.bin .l8) 1 h rest
  | .bin .l16 s, h => map_readLenBytes (.bin .l16) 2 h rest
  | .bin .l32 s, h => map_readLenBytes (.bin .l32) 4 h rest
  | .ext .f1 t d, h => map_readFixExt (.ext .f1) t h rest
  | .ext .f2 t d, h => map_readFixExt (.ext .f2) t h rest
  | .ext .f4 t d, h => map_readFixExt (.ext .f4) t h rest
  | .ext .f8 t d, h => map_readFixExt (.ext .f8) t h rest
  | .ext .f16 t d, h => map_readFixExt (.ext .f16) t h rest
  | .ext .e8 t d, h => map_readExt (.ext .e8) 1 t h rest
  | .ext .e16 t d, h => map_readExt (.ext .e16) 2 t h rest
  | .ext .e32 t d, h => map_readExt (.ext .e32) 4 t h rest

end Arc.C02
