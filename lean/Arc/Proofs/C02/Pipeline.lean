import Arc.Proofs.C02.Column
/-
C02 — from columns to the record. `A : List (Bytes × List MV)` are array-valued columns as they stand
on the wire, `A.map boxCol` what the library makes of them. "The typed path converts every column of
`A`, to `cs`" is written `A.map (typedColOf F san) = cs.map some`. Under it `decodeColumnar` and
`convertColumnsToTyped` turn `A.map boxCol` into the record the typed path builds from `cs`
(`columnar_agrees`): the time column is the only one `normalizeTimestampColumns` rewrites, and a
generated time column is the boxing of a wire column the typed path converts too.
-/
namespace Arc.C02

variable (F : FloatSem) (san : Bytes → Bytes)

/-- what the typed path makes of one array column -/
def typedColOf (p : Bytes × List MV) : Option ColRec :=
  if p.1 == timeName then (typedTime F p.2).map fun ts => ⟨p.1, .i64 ts, none⟩
  else (typedValueCol F san p.2).map fun q => ⟨p.1, q.1, q.2⟩

def boxCol (p : Bytes × List MV) : Bytes × List GoVal := (p.1, p.2.map boxS)

theorem typedColOf_name {p : Bytes × List MV} {c : ColRec} (h : typedColOf F san p = some c) :
    c.name = p.1 := by
  unfold typedColOf at h
  split at h <;> obtain ⟨_, _, rfl⟩ := Option.map_eq_some_iff.1 h <;> rfl

theorem typedColOf_agrees (hF : FloatLaws F) {p : Bytes × List MV} {c : ColRec}
    (h : typedColOf F san p = some c) (hne : p.2 ≠ []) :
    (∀ x ∈ p.2, scalar x = true) ∧
    (if p.1 == timeName then
       ∃ gts, normalizeTime F (p.2.map boxS) = some gts ∧
         convertCol F timeName (gts.map (sanVal san)) = some c
     else convertCol F p.1 ((p.2.map boxS).map (sanVal san)) = some c) := by
  obtain ⟨name, xs⟩ := p
  unfold typedColOf at h
  split at h <;> rename_i ht <;> obtain ⟨q, hq, rfl⟩ := Option.map_eq_some_iff.1 h
  · rw [if_pos ht]
    cases (beq_iff_eq.1 ht : name = timeName)
    exact timeCol_agrees F san hF hne hq
  · rw [if_neg ht]
    exact valueCol_agrees F san hF (by simpa using ht) hq

theorem exists_of_map_eq_map_some {α β : Type} {f : α → Option β} {l : List α} {cs : List β}
    (h : l.map f = cs.map some) {a : α} (ha : a ∈ l) : ∃ b, f a = some b := by
  obtain ⟨b, _, hb⟩ := List.mem_map.1 (h ▸ List.mem_map_of_mem (f := f) ha)
  exact ⟨b, hb.symm⟩

theorem names_of_map : ∀ {A : List (Bytes × List MV)} {cs : List ColRec},
    A.map (typedColOf F san) = cs.map some → cs.map (·.name) = A.map (·.1)
  | [], [], _ => rfl
  | p :: A, c :: cs, h => by
    obtain ⟨h1, h2⟩ := List.cons.inj h
    simp only [List.map_cons, typedColOf_name F san h1, names_of_map h2]

theorem hasCol_iff {cs : List ColRec} {name : Bytes} :
    hasCol cs name = true ↔ name ∈ cs.map (·.name) := by
  simp [hasCol]

/-- the generated time column, seen as a wire column, is one the typed path converts -/
theorem typedColOf_gen (now : Int) (n : Nat) :
    ∃ c, typedColOf F san (timeName, List.replicate n (MV.int .i64 now)) = some c := by
  have h : typedTsAll F (List.replicate n (MV.int .i64 now)) = some (List.replicate n now) := by
    induction n with
    | zero => rfl
    | succ k ih => simp only [List.replicate_succ, typedTsAll, typedTs, ih]
  simp only [typedColOf, beq_self_eq_true, if_true, typedTime, h]
  cases n <;> exact ⟨_, rfl⟩

/-! The stages of the generic path on a column list. -/

theorem normAll_length {m : Int} : ∀ {xs gts : List GoVal}, normAll F m xs = some gts → gts.length = xs.length
  | [], gts, h => by simp [normAll] at h; subst h; rfl
  | x :: xs, gts, h => by
    unfold normAll at h
    split at h
    · rename_i t r ht hr
      simp at h; subst h
      simp [normAll_length hr]
    · simp at h

theorem normalizeTime_length {xs gts : List GoVal} (h : normalizeTime F xs = some gts) :
    gts.length = xs.length := by
  cases xs with
  | nil => simp [normalizeTime] at h; subst h; rfl
  | cons x xs =>
    simp only [normalizeTime] at h
    split at h
    · simp at h
    · exact normAll_length F h

theorem lookupCol_none {k : Bytes} : ∀ {L : List (Bytes × List GoVal)},
    k ∉ L.map (·.1) → lookupCol k L = none
  | [], _ => rfl
  | (k', v) :: L, h => by
    simp only [lookupCol, beq_eq_false_iff_ne.2 (List.ne_of_not_mem_cons h).symm, Bool.false_eq_true,
      if_false, lookupCol_none (List.not_mem_of_not_mem_cons h)]

/-- `lookupCol` and `replaceCol` act at the first pair with the key -/
theorem lookupCol_replaceCol_append {k : Bytes} {v v' : List GoVal} {L₂ : List (Bytes × List GoVal)} :
    ∀ {L₁ : List (Bytes × List GoVal)}, k ∉ L₁.map (·.1) →
    lookupCol k (L₁ ++ (k, v) :: L₂) = some v ∧
      replaceCol k v' (L₁ ++ (k, v) :: L₂) = L₁ ++ (k, v') :: L₂
  | [], _ => by simp only [List.nil_append, lookupCol, replaceCol, beq_self_eq_true, if_true, and_self]
  | (k', w) :: L₁, h => by
    have ih := lookupCol_replaceCol_append (v := v) (v' := v') (L₂ := L₂) (List.not_mem_of_not_mem_cons h)
    simp only [List.cons_append, lookupCol, replaceCol, beq_eq_false_iff_ne.2 (List.ne_of_not_mem_cons h).symm,
      Bool.false_eq_true, if_false, ih.1, ih.2, and_self]

theorem sanCols_cons (p : Bytes × List GoVal) (rest : List (Bytes × List GoVal)) :
    sanCols san (p :: rest) = (p.1, p.2.map (sanVal san)) :: sanCols san rest := rfl

/-- on non-empty columns `convertColumnsToTyped` works column by column -/
theorem convertCols_of_map : ∀ {X : List (Bytes × List GoVal)} {cs : List ColRec},
    (∀ q ∈ X, q.2 ≠ []) → X.map (fun q => convertCol F q.1 q.2) = cs.map some →
    convertCols F X = some cs
  | [], [], _, _ => rfl
  | (name, []) :: _, _, hne, _ => absurd rfl (hne _ (List.mem_cons_self ..))
  | (name, x :: xs) :: X, c :: cs, hne, h => by
    obtain ⟨h1, h2⟩ := List.cons.inj h
    simp only [convertCols, List.isEmpty_cons, Bool.false_eq_true, if_false, h1,
      convertCols_of_map (fun q hq => hne q (List.mem_cons_of_mem _ hq)) h2]

theorem numRecordsOf_all {n : Nat} (hn : 0 < n) : ∀ {L : List (Bytes × List GoVal)}, L ≠ [] →
    (∀ q ∈ L, q.2.length = n) → numRecordsOf L = n
  | [], h, _ => absurd rfl h
  | (name, xs) :: rest, _, h => by
    have hl : xs.length = n := h _ (List.mem_cons_self ..)
    cases xs with
    | nil => exact absurd hl (Nat.ne_of_lt hn)
    | cons x xs => exact hl

/-- `decodeColumnar` and the typing step, from what their stages return on equally long columns -/
theorem decodeColumnar_typeItem {now : Int} {gm : Option GoVal} {m : Bytes} {n : Nat}
    {cols L X : List (Bytes × List GoVal)} {gen : Bool} {cs : List ColRec}
    (hm : extractMeas gm = some m) (hne : cols ≠ []) (hlen : ∀ q ∈ cols, q.2.length = n)
    (hens : ensureTime now n cols = (L, gen)) (hX : normalizeCols F L = some X)
    (hcc : convertCols F (sanCols san X) = some cs) (hnr : numRecordsOf (sanCols san X) = n) :
    ∃ rec, decodeColumnar F san now gm cols = some rec ∧ typeItem F rec = .col ⟨m, cs, n, gen⟩ := by
  obtain ⟨⟨k0, c0⟩, cols0, rfl⟩ := List.exists_cons_of_ne_nil hne
  have hl0 : c0.length = n := hlen _ (List.mem_cons_self ..)
  have hlens : lensOk n ((k0, c0) :: cols0) = true :=
    List.all_eq_true.2 fun q hq => by simpa using hlen q hq
  refine ⟨⟨m, sanCols san X, gen⟩, ?_, by simp only [typeItem, hcc, hnr]⟩
  simp only [decodeColumnar, hm, hl0, hlens, hens, hX, Bool.not_true, Bool.false_eq_true, if_false]

/-- **the column pipeline** on wire columns holding exactly one time column:
`normalizeTimestampColumns` rewrites that column only; sanitising and typing go column by column. -/
theorem pipeline (hF : FloatLaws F) {n : Nat} (hn : 0 < n) {A₁ A₂ : List (Bytes × List MV)}
    {ts : List MV} {cs : List ColRec} (h₁ : timeName ∉ A₁.map (·.1)) (h₂ : timeName ∉ A₂.map (·.1))
    (hlen : ∀ p ∈ A₁ ++ (timeName, ts) :: A₂, p.2.length = n)
    (hconv : (A₁ ++ (timeName, ts) :: A₂).map (typedColOf F san) = cs.map some) :
    lookupCol timeName ((A₁ ++ (timeName, ts) :: A₂).map boxCol) = some (ts.map boxS) ∧
    ∃ X, normalizeCols F ((A₁ ++ (timeName, ts) :: A₂).map boxCol) = some X ∧
      convertCols F (sanCols san X) = some cs ∧ numRecordsOf (sanCols san X) = n := by
  have hag : ∀ p ∈ A₁ ++ (timeName, ts) :: A₂, ∃ c, typedColOf F san p = some c ∧
      if p.1 == timeName then
        ∃ gts, normalizeTime F (p.2.map boxS) = some gts ∧
          convertCol F timeName (gts.map (sanVal san)) = some c
      else convertCol F p.1 ((p.2.map boxS).map (sanVal san)) = some c := fun p hp =>
    let ⟨c, hc⟩ := exists_of_map_eq_map_some hconv hp
    ⟨c, hc, (typedColOf_agrees F san hF hc (List.ne_nil_of_length_pos (hlen p hp ▸ hn))).2⟩
  obtain ⟨c, hc, hcc⟩ := hag _ (List.mem_append_right _ (List.mem_cons_self ..))
  simp only [beq_self_eq_true, if_true] at hcc
  obtain ⟨gts, hnt, hcv⟩ := hcc
  simp only [List.forall_mem_append, List.forall_mem_cons] at hlen
  have hgl : gts.length = n := (normalizeTime_length F hnt).trans (by simpa using hlen.2.1)
  -- a value column types to what the typed path made of it
  have hval : ∀ {A : List (Bytes × List MV)}, timeName ∉ A.map (·.1) →
      (∀ p ∈ A, p ∈ A₁ ++ (timeName, ts) :: A₂) →
      (sanCols san (A.map boxCol)).map (fun q => convertCol F q.1 q.2) = A.map (typedColOf F san) :=
    fun h hs => by
      simp only [sanCols, List.map_map]
      refine List.map_congr_left fun p hp => ?_
      obtain ⟨c, hc, hcc⟩ := hag p (hs p hp)
      rw [if_neg fun he => h (List.mem_map.2 ⟨p, hp, beq_iff_eq.1 he⟩)] at hcc
      exact hcc.trans hc.symm
  obtain ⟨hl, hr⟩ := lookupCol_replaceCol_append (k := timeName) (v := ts.map boxS) (v' := gts)
    (L₂ := A₂.map boxCol) (L₁ := A₁.map boxCol) (by rwa [List.map_map])
  have hXl : ∀ q ∈ sanCols san (A₁.map boxCol ++ (timeName, gts) :: A₂.map boxCol),
      q.2.length = n := by
    simpa only [sanCols, List.map_append, List.map_cons, List.map_map, List.forall_mem_append,
      List.forall_mem_cons, List.forall_mem_map, Function.comp, boxCol, List.length_map]
      using ⟨hlen.1, hgl, hlen.2.2⟩
  simp only [List.map_append, List.map_cons, boxCol] at hconv ⊢
  refine ⟨hl, _, by simp only [normalizeCols, hl, hnt, hr], ?_, numRecordsOf_all hn (by simp [sanCols]) hXl⟩
  refine convertCols_of_map F (fun q hq => List.ne_nil_of_length_pos (hXl q hq ▸ hn)) ?_
  have v1 := hval h₁ fun p hp => List.mem_append_left _ hp
  have v2 := hval h₂ fun p hp => List.mem_append_right _ (List.mem_cons_of_mem _ hp)
  simp only [sanCols, List.map_append, List.map_cons] at v1 v2 ⊢
  rw [← hconv, v1, v2, hcv, hc]

/-- a generated time column (always the last one) is replaced by the marker `genTime = true`. -/
def maskRec (r : TypedRec) : TypedRec :=
  if r.genTime then { r with cols := r.cols.dropLast } else r

/-- what `tryDecodeColumnarTyped` returns from measurement, converted columns and row count -/
def typedRecOf (m : Bytes) (cs : List ColRec) (n : Nat) (now : Int) : TypedRec :=
  if hasCol cs timeName then ⟨m, cs, n, false⟩
  else ⟨m, cs ++ [⟨timeName, .i64 (List.replicate n now), none⟩], n, true⟩

/-- **columnar pipeline**: length check, time column (supplied or generated), normalisation,
sanitisation and the typing chokepoint on the boxed array columns give the typed path's record,
up to the value of a generated time column. -/
theorem columnar_agrees (hF : FloatLaws F) (now : Int) {A : List (Bytes × List MV)} {cs : List ColRec}
    {n : Nat} {m : Bytes} {gm : Option GoVal} (hA : A ≠ []) (hlen : ∀ p ∈ A, p.2.length = n)
    (hn : 0 < n) (hd : (A.map (·.1)).Nodup)
    (hconv : A.map (typedColOf F san) = cs.map some) (hm : extractMeas gm = some m) :
    ∃ rec r', decodeColumnar F san now gm (A.map boxCol) = some rec ∧ typeItem F rec = .col r' ∧
      maskRec r' = maskRec (typedRecOf m cs n now) := by
  have hne : A.map boxCol ≠ [] := mt List.map_eq_nil_iff.1 hA
  have hlen' : ∀ q ∈ A.map boxCol, q.2.length = n :=
    List.forall_mem_map.2 fun p hp => (List.length_map ..).trans (hlen p hp)
  have hh : hasCol cs timeName = true ↔ timeName ∈ A.map (·.1) := by
    rw [hasCol_iff, names_of_map F san hconv]
  -- Supplied or generated, `ensureTime` leaves the boxing of wire columns that hold one time column.
  by_cases hT : timeName ∈ A.map (·.1)
  · obtain ⟨⟨_, ts⟩, hp, rfl⟩ := List.mem_map.1 hT
    obtain ⟨A₁, A₂, rfl⟩ := List.append_of_mem hp
    simp only [List.map_append, List.map_cons, List.nodup_append, List.nodup_cons] at hd
    obtain ⟨hl, X, hX, hcc, hnr⟩ := pipeline F san hF hn
      (fun h => hd.2.2 _ h _ (List.mem_cons_self ..) rfl) hd.2.1.1 hlen hconv
    have hens : ensureTime now n ((A₁ ++ (timeName, ts) :: A₂).map boxCol)
        = ((A₁ ++ (timeName, ts) :: A₂).map boxCol, false) := by
      rw [ensureTime, hl]
      cases ts with
      | nil => exact absurd (hlen _ hp) (Nat.ne_of_lt hn)
      | cons x xs => rfl
    obtain ⟨rec, h1, h2⟩ := decodeColumnar_typeItem F san hm hne hlen' hens hX hcc hnr
    exact ⟨rec, _, h1, h2, by simp [typedRecOf, hh.2 hT]⟩
  · obtain ⟨c, hc⟩ := typedColOf_gen F san now n
    have hens : ensureTime now n (A.map boxCol)
        = ((A ++ (timeName, List.replicate n (MV.int .i64 now)) :: []).map boxCol, true) := by
      rw [ensureTime, lookupCol_none (by rwa [List.map_map])]
      simp only [List.map_append, List.map_cons, List.map_nil, boxCol, genTimeCol, List.map_replicate]
      rfl
    obtain ⟨_, X, hX, hcc, hnr⟩ := pipeline F san hF hn (A₁ := A) (A₂ := [])
      (ts := List.replicate n (MV.int .i64 now)) (cs := cs ++ [c]) hT List.not_mem_nil
      (fun p hp => by
        rcases List.mem_append.1 hp with hp | hp
        · exact hlen p hp
        · cases List.mem_singleton.1 hp; exact List.length_replicate ..)
      (by simp only [List.map_append, List.map_cons, List.map_nil, hconv, hc])
    obtain ⟨rec, h1, h2⟩ := decodeColumnar_typeItem F san hm hne hlen' hens hX hcc hnr
    exact ⟨rec, _, h1, h2, by simp [maskRec, typedRecOf, mt hh.1 hT]⟩

end Arc.C02
