import Arc.Proofs.C02.ColumnsMap
/-
C02 — the top-level map and the assembly. A successful run of the typed key loop makes the body a
string-keyed map that boxes, and fixes what `decodeMapPayload` finds in it under "batch", "m" and
"columns" (`topLoop_inv`); with `columnar_agrees` on the columns that gives `hit_agrees`.
-/
namespace Arc.C02
open Arc.Generated.C02

variable (F : FloatSem) (san : Bytes → Bytes)

/-- What a successful run of the key loop says about a key it accepts at most once, in terms of the
boxed value `l` that Go's map ends up holding for it (last wins) in the remaining input: while the
key still occurs the slot `a` is empty, and the slot ends up (`a'`) holding something `R`-related
to that value. -/
def Once {α : Type} (R : GoVal → α → Prop) (l : Option GoVal) (a a' : Option α) : Prop :=
  match l with
  | none => a' = a
  | some g => a = none ∧ ∃ x, R g x ∧ a' = some x

theorem lookupLast_skip {key key' : Bytes} (g : GoVal) (L : List (Bytes × GoVal))
    (h : (key' == key) = false) : lookupLast key ((key', g) :: L) = lookupLast key L := by
  simp only [lookupLast, h]; cases lookupLast key L <;> rfl

theorem Once.skip {α : Type} {R : GoVal → α → Prop} {key key' : Bytes} {g : GoVal}
    {L : List (Bytes × GoVal)} {a a' : Option α} (h : (key' == key) = false)
    (i : Once R (lookupLast key L) a a') : Once R (lookupLast key ((key', g) :: L)) a a' := by
  rwa [lookupLast_skip g L h]

theorem Once.hit {α : Type} {R : GoVal → α → Prop} {key : Bytes} {g : GoVal}
    {L : List (Bytes × GoVal)} {x : α} {a a' : Option α} (ha : ¬ a.isSome = true) (hx : R g x)
    (h : Once R (lookupLast key L) (some x) a') : Once R (lookupLast key ((key, g) :: L)) a a' := by
  unfold Once at h
  cases hl : lookupLast key L with
  | some g' => rw [hl] at h; cases h.1
  | none =>
    rw [hl] at h
    simp only [lookupLast, hl, beq_self_eq_true, if_true]
    exact ⟨by simpa using ha, x, hx, h⟩

theorem Once.found {α : Type} {R : GoVal → α → Prop} {l : Option GoVal} {a' : Option α} {x : α}
    (h : Once R l none a') (hx : a' = some x) : ∃ g, l = some g ∧ R g x := by
  cases l with
  | none => cases hx.symm.trans h
  | some g =>
    obtain ⟨_, y, hy, hy'⟩ := h
    cases hy'.symm.trans hx
    exact ⟨g, rfl, hy⟩

theorem typedMeas_box {v : MV} {m : Bytes} (h : typedMeas v = some m) :
    goBox F v = .ok (boxS v) ∧ extractMeas (some (boxS v)) = some m := by
  cases v <;> first | exact ⟨rfl, h⟩ | cases h

/-- a successful run of the top-level key loop: the body boxes to a string-keyed map, and this is
what `decodeMapPayload` finds in it under its three keys -/
theorem topLoop_inv (hF : FloatLaws F) (hfix : nonArrayDupFallsBack = true) :
    ∀ {kvs : List MV} {st st' : TopSt}, typedTopLoop F san kvs st = some st' → topCarve kvs = true →
      KVok F kvs ∧ lookupLast batchName (boxPairs F kvs) = none ∧
      Once (fun g m => extractMeas (some g) = some m) (lookupLast mName (boxPairs F kvs))
        st.meas st'.meas ∧
      Once (ColsOk F san) (lookupLast columnsName (boxPairs F kvs)) st.cols st'.cols
  | [], st, st', h, _ | [_], st, st', h, _ => by
    cases h; exact ⟨trivial, rfl, rfl, rfl⟩
  | k :: v :: rest, st, st', h, hcv => by
    unfold typedTopLoop at h
    cases k with
    | str kw key =>
      rw [boxPairs_cons]
      simp only [topCarve, strKey?, Bool.and_eq_true] at hcv
      obtain ⟨hcv1, hcv2⟩ := hcv
      simp only [Option.ite_none_left_eq_some] at h
      obtain ⟨hb, h⟩ := h
      have hbk := lookupLast_skip (key := batchName) (boxT F v) (boxPairs F rest)
        (by simpa using hb)
      split at h
      · -- key = "m"
        rename_i hm
        cases (beq_iff_eq.1 hm : key = mName)
        rw [Option.ite_none_left_eq_some] at h
        obtain ⟨hs, h⟩ := h
        split at h
        · cases h
        rename_i m htm
        obtain ⟨ikv, ibatch, imeas, icols⟩ := topLoop_inv hF hfix h hcv2
        have hbox := typedMeas_box F htm
        exact ⟨⟨⟨_, rfl⟩, ⟨_, hbox.1⟩, ikv⟩, hbk.trans ibatch,
          .hit hs ((boxT_ok F hbox.1).symm ▸ hbox.2) imeas, .skip (by decide) icols⟩
      · rename_i hm
        split at h
        · -- key = "columns"
          rename_i hc
          cases (beq_iff_eq.1 hc : key = columnsName)
          rw [Option.ite_none_left_eq_some] at h
          obtain ⟨hs, h⟩ := h
          split at h
          · cases h
          rename_i c htc
          obtain ⟨ikv, ibatch, imeas, icols⟩ := topLoop_inv hF hfix h hcv2
          have hcvV : colsCarveV v = true := by
            rw [if_neg hm, if_neg hb, if_pos hc] at hcv1
            cases v <;> first | exact hcv1 | rfl
          obtain ⟨g, hbox, hok⟩ := columnsVal_agrees F san hF hfix htc hcvV
          exact ⟨⟨⟨_, rfl⟩, ⟨_, hbox⟩, ikv⟩, hbk.trans ibatch, .skip (by decide) imeas,
            .hit hs ((boxT_ok F hbox).symm ▸ hok) icols⟩
        · -- ignored key: Skip()
          rename_i hc
          obtain ⟨ikv, ibatch, imeas, icols⟩ := topLoop_inv hF hfix h hcv2
          rw [if_neg hm, if_neg hb, if_neg hc] at hcv1
          obtain ⟨g, hg, _⟩ := goBox_leaf F hcv1
          exact ⟨⟨⟨_, rfl⟩, ⟨g, hg⟩, ikv⟩, hbk.trans ibatch, .skip (by simpa using hm) imeas,
            .skip (by simpa using hc) icols⟩
    | _ => cases h

theorem typedOfMV_inv {now : Int} {v : MV} {r : TypedRec} (h : typedOfMV F san now v = some r) :
    ∃ w kvs st m cols n, v = .map w kvs ∧ 2 ≤ kvs.length ∧ typedTopLoop F san kvs {} = some st ∧
      st.meas = some m ∧ st.cols = some (cols, n) ∧ r = typedRecOf m cols n now := by
  cases v with
  | map w kvs =>
    obtain ⟨hl, h⟩ := Option.ite_none_left_eq_some.1 h
    split at h
    · rename_i m cols n hT
      rw [← apply_ite some] at h
      exact ⟨w, kvs, _, m, cols, n, rfl, by omega, hT, rfl, rfl, (Option.some.inj h).symm⟩
    · cases h
  | _ => cases h

theorem hit_agrees (hF : FloatLaws F) (hfix : nonArrayDupFallsBack = true) {now : Int} {b : Bytes}
    {r : TypedRec} (hcarve : Carve b = true) (h : typedPath F san now b = some r) :
    ∃ r', genericPath F san now b = .ok [.col r'] ∧ maskRec r' = maskRec r := by
  unfold typedPath at h
  cases hd : decode b with
  | none => rw [hd] at h; cases h
  | some vr =>
    obtain ⟨v, brest⟩ := vr
    simp only [hd] at h
    obtain ⟨w, kvs, st, m, cols, n, rfl, hlen, hT, hsm, hsc, rfl⟩ := typedOfMV_inv F san h
    have hcv : topCarve kvs = true := by simpa [Carve, hd] using hcarve
    obtain ⟨hkv, hbatch, hmeas, hcols⟩ := topLoop_inv F san hF hfix hT hcv
    obtain ⟨gm, hlm, hgm⟩ := hmeas.found hsm
    obtain ⟨_, hlc, ckvs, A, rfl, hpay, hA, hAlen, hn, hdist, hconv⟩ := hcols.found hsc
    obtain ⟨rec, r', hdecC, hty, hmask⟩ :=
      columnar_agrees F san hF now hA hAlen hn hdist hconv hgm
    refine ⟨r', ?_, hmask⟩
    simp only [genericPath, unmarshal, hd, goBox_smap F w hlen hkv, genericOfGo, decodeMapPayload,
      hbatch, hlc, hlm, hpay, hdecC, hty]

end Arc.C02
