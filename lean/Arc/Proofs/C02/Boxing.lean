import Arc.Proofs.C02.Elem
/-
C02 — which wire values the library boxes. The typed path `Skip()`s values the generic path has to
box first; `Carve` keeps the skipped values to those that always box (`goBox_leaf`). A map whose keys
are str codes and whose values box (`KVok`) boxes to the string-keyed Go map `boxPairs` (`goBox_smap`).
-/
namespace Arc.C02

variable (F : FloatSem)

def strKey? : MV → Option Bytes
  | .str _ s => some s
  | _ => none

def isArr : MV → Bool
  | .arr _ _ => true
  | _ => false

/-- a value the library always boxes: anything but array / map / ext (nil, bool, every int, uint
and float width, str, bin). -/
def leafOk : MV → Bool
  | .arr _ _ | .map _ _ | .ext _ _ _ => false
  | _ => true

/-- inside a `columns` map: every NON-ARRAY column value (the typed path `Skip()`s it) is a leaf. -/
def colsCarve : List MV → Bool
  | _ :: v :: rest => (isArr v || leafOk v) && colsCarve rest
  | _ => true

/-- top-level map: the value under every IGNORED key (any str key other than m / columns / batch;
the typed path `Skip()`s it) is a leaf, and every map under a `columns` key satisfies `colsCarve`. -/
def topCarve : List MV → Bool
  | k :: v :: rest =>
    (match strKey? k with
     | some key =>
       if key == mName then true
       else if key == batchName then true
       else if key == columnsName then
         (match v with
          | .map _ ckvs => colsCarve ckvs
          | _ => true)
       else leafOk v
     | none => true) && topCarve rest
  | _ => true

/-- **Carve** (decidable, independent of the float semantics): the body does not decode to a map,
or no array / map / ext value sits under an ignored top-level key or as a non-array column value. -/
def Carve (b : Bytes) : Bool :=
  match decode b with
  | some (.map _ kvs, _) => topCarve kvs
  | _ => true

theorem goBox_leaf {v : MV} (h : leafOk v = true) :
    ∃ g, goBox F v = .ok g ∧ ∀ xs, g ≠ .slice xs := by
  cases v <;> first | exact ⟨_, rfl, nofun⟩ | cases h

theorem goBox_arr {w : AW} {xs : List MV} (h : ∀ x ∈ xs, scalar x = true) :
    goBox F (.arr w xs) = .ok (.slice (xs.map boxS)) := by
  simp only [goBox, goBoxL_scalars F h]

theorem strKey_eq {k : MV} {s : Bytes} (h : strKey? k = some s) : ∃ w, k = .str w s := by
  cases k <;> cases h
  exact ⟨_, rfl⟩

theorem isArr_eq {v : MV} (h : isArr v = true) : ∃ w xs, v = .arr w xs := by
  cases v <;> cases h
  exact ⟨_, _, rfl⟩

/-! Boxing of a string-keyed map, total: `boxT` and `strOf` return a dummy where `goBox` fails or
the key is no str code, which `KVok` rules out. -/

def boxT (v : MV) : GoVal :=
  match goBox F v with
  | .ok g => g
  | .error _ => .nil

def strOf : MV → Bytes
  | .str _ s => s
  | _ => []

def boxPairs (kvs : List MV) : List (Bytes × GoVal) :=
  (pairs kvs).map fun p => (strOf p.1, boxT F p.2)

/-- every key is a str code and every value boxes -/
def KVok : List MV → Prop
  | k :: v :: rest => (∃ s, strKey? k = some s) ∧ (∃ g, goBox F v = .ok g) ∧ KVok rest
  | _ => True

theorem boxPairs_cons (w : SW) (s : Bytes) (v : MV) (rest : List MV) :
    boxPairs F (.str w s :: v :: rest) = (s, boxT F v) :: boxPairs F rest := rfl

theorem boxT_ok {v : MV} {g : GoVal} (h : goBox F v = .ok g) : boxT F v = g := by
  rw [boxT, h]

theorem goBoxSMap_ok : ∀ (kvs : List MV), KVok F kvs → goBoxSMap F kvs = .ok (boxPairs F kvs)
  | [], _ | [_], _ => rfl
  | k :: v :: rest, ⟨⟨s, hs⟩, ⟨g, hg⟩, hr⟩ => by
    obtain ⟨w, rfl⟩ := strKey_eq hs
    simp only [goBoxSMap, keyString, hg, goBoxSMap_ok rest hr, boxPairs_cons, boxT_ok F hg]

theorem goBox_smap (w : AW) {kvs : List MV} (hlen : 2 ≤ kvs.length) (h : KVok F kvs) :
    goBox F (.map w kvs) = .ok (.smap (boxPairs F kvs)) := by
  have hs := goBoxSMap_ok F kvs h
  match kvs, hlen, h with
  | k :: _ :: _, _, ⟨⟨s, hk⟩, _⟩ =>
    obtain ⟨kw, rfl⟩ := strKey_eq hk
    simp only [goBox, hs]

def keyIn (name : Bytes) : List MV → Bool
  | k :: _ :: rest => (strKey? k == some name) || keyIn name rest
  | _ => false

theorem any_boxPairs (name : Bytes) : ∀ {kvs : List MV}, KVok F kvs →
    (boxPairs F kvs).any (fun p => p.1 == name) = keyIn name kvs
  | [], _ | [_], _ => rfl
  | k :: v :: rest, ⟨⟨s, hs⟩, _, hr⟩ => by
    obtain ⟨w, rfl⟩ := strKey_eq hs
    simp [boxPairs_cons, keyIn, strKey?, any_boxPairs name hr]

end Arc.C02
