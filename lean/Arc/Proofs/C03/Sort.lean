import Arc.Proofs.C03.Radix
import Arc.Proofs.C03.List
/-! Every path of `permuteByTime` yields a sorted permutation of the row indices, and the radix path
is stable; `gather` (applyPermutation / slice) moves whole rows, validity included — so sorting a
batch permutes its rows into time order. -/
namespace Arc.C03

def tAt (times : List Int) (i : Nat) : Int := times.getD i 0

theorem keyAt_eq {times : List Int} {i : Nat} (h : i < times.length) :
    keyAt (times.map bias).toArray i = bias (tAt times i) := by
  simp [keyAt, tAt, Array.getD_eq_getD_getElem?, h]

theorem keyAt_lt (times : List Int) (i : Nat) : keyAt (times.map bias).toArray i < 2 ^ 64 := by
  by_cases h : i < times.length
  · rw [keyAt_eq h]; exact bias_lt_pow _
  · simp [keyAt, Array.getD_eq_getD_getElem?, h]

theorem timeAt_eq (times : List Int) (i : Nat) : timeAt times.toArray i = tAt times i := by
  simp [timeAt, tAt, Array.getD_eq_getD_getElem?]

/-- strict (time, arrival position) order: sorted **and** stable -/
def StableSorted (times : List Int) (ix : List Nat) : Prop :=
  ix.Pairwise (fun i j => tAt times i < tAt times j ∨ (tAt times i = tAt times j ∧ i < j))

def TimeSorted (times : List Int) (ix : List Nat) : Prop :=
  (ix.map (tAt times)).Pairwise (· ≤ ·)

theorem StableSorted.timeSorted {times : List Int} {ix : List Nat} (h : StableSorted times ix) :
    TimeSorted times ix := by
  unfold TimeSorted
  rw [List.pairwise_map]
  exact h.imp (fun hab => by omega)

theorem tAt_inI64 {times : List Int} (hr : ∀ t ∈ times, inI64 t) (i : Nat) : inI64 (tAt times i) := by
  rw [tAt, List.getD_eq_getElem?_getD]
  cases h : times[i]? with
  | none => decide
  | some t => exact hr t (List.mem_of_getElem? h)

theorem radix_stable (times : List Int) (hr : ∀ t ∈ times, inI64 t) :
    StableSorted times (radixPermuteByTime times) ∧
    (radixPermuteByTime times).Perm (List.range times.length) := by
  obtain ⟨h1, h2⟩ := radixWith_sorted_stable (keyAt (times.map bias).toArray) times.length (keyAt_lt times)
  refine ⟨h1.imp_of_mem fun {a b} ha hb hab => ?_, h2⟩
  have ra := tAt_inI64 hr a
  have rb := tAt_inI64 hr b
  rwa [keyAt_eq (List.mem_range.mp (h2.subset ha)), keyAt_eq (List.mem_range.mp (h2.subset hb)),
    bias_lt_iff ra rb, bias_eq_iff ra rb] at hab

theorem cmp_sorted (times : List Int) :
    TimeSorted times (cmpPermuteByTime times) ∧
    (cmpPermuteByTime times).Perm (List.range times.length) := by
  unfold cmpPermuteByTime
  constructor
  · unfold TimeSorted
    rw [List.pairwise_map]
    have := List.pairwise_mergeSort
      (le := fun i j => decide (timeAt times.toArray i ≤ timeAt times.toArray j))
      (by intro a b c h1 h2; simp only [decide_eq_true_eq] at *; omega)
      (by intro a b; simp only [Bool.or_eq_true, decide_eq_true_eq]; omega)
      (List.range times.length)
    refine this.imp ?_
    intro a b hab
    simp only [decide_eq_true_eq, timeAt_eq] at hab
    exact hab
  · exact List.mergeSort_perm _ _

theorem sortedScan_pairwise : ∀ (l : List Int), sortedScan l = true → l.Pairwise (· ≤ ·)
  | [], _ => .nil
  | [_], _ => by simp
  | a :: b :: rest, h => by
    unfold sortedScan at h
    split at h
    · cases h
    have ih := sortedScan_pairwise (b :: rest) h
    refine List.pairwise_cons.mpr ⟨fun x hx => ?_, ih⟩
    rcases List.mem_cons.mp hx with rfl | e
    · omega
    · have := List.rel_of_pairwise_cons ih e; omega

theorem map_tAt_range (times : List Int) : (List.range times.length).map (tAt times) = times :=
  map_range_getD times 0

/-- the permutation a batch is rearranged by: identity when `permuteByTime` returns nil -/
def effPerm (times : List Int) : List Nat :=
  match permuteByTime times with
  | none => List.range times.length
  | some ix => ix

theorem effPerm_sorted (times : List Int) (hr : ∀ t ∈ times, inI64 t) :
    TimeSorted times (effPerm times) ∧ (effPerm times).Perm (List.range times.length) := by
  -- `none` (no rows, or already sorted) stands for the identity, which lists `times` itself
  have hid : times.Pairwise (· ≤ ·) → TimeSorted times (List.range times.length) ∧
      (List.range times.length).Perm (List.range times.length) := fun h =>
    ⟨by unfold TimeSorted; rwa [map_tAt_range], .refl _⟩
  unfold effPerm permuteByTime sortPath
  by_cases h0 : times.length = 0
  · rw [if_pos h0]; exact hid (List.length_eq_zero_iff.mp h0 ▸ .nil)
  rw [if_neg h0]
  by_cases hs : sortedScan times = true
  · rw [if_pos hs]; exact hid (sortedScan_pairwise _ hs)
  rw [if_neg hs]
  by_cases hc : times.length < radixSkipThreshold
  · rw [if_pos hc]; exact cmp_sorted times
  · rw [if_neg hc]; exact ⟨(radix_stable times hr).1.timeSorted, (radix_stable times hr).2⟩

theorem gather_cellAt (c : Col) (ix : List Nat) (j : Nat) (h : j < ix.length) :
    (c.gather ix).cellAt j = c.cellAt ix[j] := by
  unfold Col.gather Col.cellAt
  cases hv : c.valid with
  | none => simp only [Option.map_none]; rw [getD_map_lt _ h]
  | some v => simp only [Option.map_some]; rw [getD_map_lt _ h, getD_map_lt _ h]

theorem gather_col (b : Batch) (ix : List Nat) (nm : String) :
    (b.gather ix).col nm = (b.col nm).map (fun c => c.gather ix) := by
  unfold Batch.gather Batch.col
  exact lookup_map_snd (fun c => c.gather ix) nm b.cols

/-- the batch has a `time` column of Go type `[]int64` -/
def HasTime (b : Batch) : Prop := ∃ c, b.col "time" = some c ∧ c.ty = .i64

theorem hasTime_gather (b : Batch) (ix : List Nat) (ht : HasTime b) : HasTime (b.gather ix) := by
  obtain ⟨c, hc, hty⟩ := ht
  exact ⟨c.gather ix, by rw [gather_col, hc]; rfl, hty⟩

theorem gather_times (b : Batch) (ix : List Nat) (ht : HasTime b) :
    (b.gather ix).times = ix.map (tAt b.times) := by
  obtain ⟨c, hc, hty⟩ := ht
  unfold Batch.times
  rw [gather_col, hc]
  simp only [Option.map_some, Col.gather, hty, if_true, List.map_map]
  exact List.map_congr_left fun i _ => (getD_map Val.toInt c.vals i (Ty.zero .i64)).symm

theorem gather_n (b : Batch) (ix : List Nat) (ht : HasTime b) : (b.gather ix).n = ix.length := by
  unfold Batch.n; rw [gather_times b ix ht]; simp

theorem gather_rowAt (b : Batch) (ix : List Nat) (ht : HasTime b) (j : Nat) (h : j < ix.length) :
    (b.gather ix).rowAt j = b.rowAt ix[j] := by
  unfold Batch.rowAt
  congr 1
  · rw [gather_times b ix ht, getD_map_lt _ h]; rfl
  · funext nm
    rw [gather_col]
    cases b.col nm with
    | none => rfl
    | some c => simp [gather_cellAt c ix j h]

theorem gather_rows (b : Batch) (ix : List Nat) (ht : HasTime b) :
    (b.gather ix).rows = ix.map b.rowAt := by
  unfold Batch.rows
  rw [gather_n b ix ht]
  apply List.ext_getElem
  · simp
  · intro j h1 h2
    have hj : j < ix.length := by simpa using h1
    simp [gather_rowAt b ix ht j hj]

theorem rows_eq_map_range (b : Batch) : b.rows = (List.range b.times.length).map b.rowAt := rfl

theorem rowAt_time (b : Batch) (i : Nat) : (b.rowAt i).time = tAt b.times i := rfl

theorem rows_time (b : Batch) : b.rows.map (·.time) = b.times := by
  simp only [Batch.rows, List.map_map]; exact map_tAt_range b.times

theorem sortBatch_rows (b : Batch) (ht : HasTime b) :
    (sortBatch b).rows = (effPerm b.times).map b.rowAt := by
  unfold sortBatch effPerm
  cases permuteByTime b.times with
  | none => rfl
  | some ix => exact gather_rows b ix ht

theorem sortBatch_spec (b : Batch) (ht : HasTime b) (hr : ∀ t ∈ b.times, inI64 t) :
    (sortBatch b).rows.Perm b.rows ∧ ((sortBatch b).rows.map (·.time)).Pairwise (· ≤ ·) := by
  obtain ⟨h1, h2⟩ := effPerm_sorted b.times hr
  rw [sortBatch_rows b ht, List.map_map]
  exact ⟨h2.map b.rowAt, h1⟩

end Arc.C03
