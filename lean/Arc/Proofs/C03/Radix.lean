import Arc.Model.C03.Pure
/-! The 8-pass LSD radix sort is a stable sort, by induction on passes: after `k` passes the indices
are strictly ordered by (low `k` bytes of the key, original position) — `R keyOf k`. A counting pass
on byte `k` keeps that order inside each bucket and lays the buckets out in byte order; a skipped
pass had a single bucket. After 8 passes the low bytes are the whole 64-bit key. -/
namespace Arc.C03

/-- the low `k` bytes of a key -/
def low (k : Nat) (key : Nat) : Nat := key % 256 ^ k

theorem low_succ (k x : Nat) : low (k + 1) x = digit k x * 256 ^ k + low k x := by
  unfold low digit
  rw [Nat.pow_succ, Nat.mod_mul]
  rw [Nat.mul_comm (x / 256 ^ k % 256), Nat.add_comm]

theorem low_lt (k x : Nat) : low k x < 256 ^ k := Nat.mod_lt _ (Nat.pow_pos (by decide))

theorem digit_lt (k x : Nat) : digit k x < 256 := Nat.mod_lt _ (by decide)

/-- strict order "by the low k bytes, ties by original position" -/
def R (keyOf : Nat → Nat) (k : Nat) (i j : Nat) : Prop :=
  low k (keyOf i) < low k (keyOf j) ∨ (low k (keyOf i) = low k (keyOf j) ∧ i < j)

section partition
variable {α : Type} (f : α → Nat)

theorem filter_lt_succ_perm (l : List α) (m : Nat) :
    (l.filter (fun x => decide (f x < m)) ++ l.filter (fun x => f x == m)).Perm
      (l.filter (fun x => decide (f x < m + 1))) := by
  have e1 : ∀ x, (decide (f x < m) && decide (f x < m + 1)) = decide (f x < m) := fun x => by
    rw [Bool.eq_iff_iff]; simp; omega
  have e2 : ∀ x, (!decide (f x < m) && decide (f x < m + 1)) = (f x == m) := fun x => by
    rw [Bool.eq_iff_iff]; simp; omega
  simpa only [List.filter_filter, e1, e2] using
    List.filter_append_perm (fun x => decide (f x < m)) (l.filter fun x => decide (f x < m + 1))

theorem buckets_perm_lt (l : List α) (m : Nat) :
    ((List.range m).flatMap (fun d => l.filter (fun x => f x == d))).Perm
      (l.filter (fun x => decide (f x < m))) := by
  induction m with
  | zero => simp
  | succ m ih =>
    rw [List.range_succ, List.flatMap_append]
    simp only [List.flatMap_cons, List.flatMap_nil, List.append_nil]
    exact (ih.append_right _).trans (filter_lt_succ_perm f l m)

theorem buckets_perm (l : List α) (m : Nat) (h : ∀ x ∈ l, f x < m) :
    ((List.range m).flatMap (fun d => l.filter (fun x => f x == d))).Perm l := by
  have := buckets_perm_lt f l m
  rwa [List.filter_eq_self.mpr fun a ha => by simpa using h a ha] at this

end partition

theorem countingPass_perm (keyOf : Nat → Nat) (k : Nat) (src : List Nat) :
    (countingPass keyOf k src).Perm src := by
  unfold countingPass
  exact buckets_perm (fun ix => digit k (keyOf ix)) src 256 (fun x _ => digit_lt _ _)

theorem R_succ_of_digit_eq {keyOf : Nat → Nat} {k i j : Nat}
    (hd : digit k (keyOf i) = digit k (keyOf j)) (h : R keyOf k i j) : R keyOf (k + 1) i j := by
  unfold R at *
  rw [low_succ, low_succ, hd]
  rcases h with h | ⟨h, hij⟩
  · left; omega
  · right; exact ⟨by omega, hij⟩

theorem R_succ_of_digit_lt {keyOf : Nat → Nat} {k i j : Nat}
    (hd : digit k (keyOf i) < digit k (keyOf j)) : R keyOf (k + 1) i j := by
  unfold R
  left
  rw [low_succ, low_succ]
  have h1 := low_lt k (keyOf i)
  have h2 : (digit k (keyOf i) + 1) * 256 ^ k ≤ digit k (keyOf j) * 256 ^ k :=
    Nat.mul_le_mul_right _ hd
  rw [Nat.add_mul] at h2
  omega

/-- among keys that agree on byte `k`, the order by the low `k` bytes is the order by the low `k + 1` -/
theorem Pairwise.R_succ {keyOf : Nat → Nat} {k d : Nat} {l : List Nat}
    (hd : ∀ a ∈ l, digit k (keyOf a) = d) (h : l.Pairwise (R keyOf k)) : l.Pairwise (R keyOf (k + 1)) :=
  h.imp_of_mem fun ha hb hab => R_succ_of_digit_eq ((hd _ ha).trans (hd _ hb).symm) hab

theorem countingPass_pairwise {keyOf : Nat → Nat} {k : Nat} {src : List Nat}
    (h : src.Pairwise (R keyOf k)) : (countingPass keyOf k src).Pairwise (R keyOf (k + 1)) := by
  unfold countingPass
  rw [List.pairwise_flatMap]
  constructor
  · intro d _
    exact Pairwise.R_succ (fun a ha => by simpa using (List.mem_filter.mp ha).2)
      (h.sublist List.filter_sublist)
  · refine (List.pairwise_lt_range (n := 256)).imp ?_
    intro d1 d2 hlt x hx y hy
    have hx' := (List.mem_filter.mp hx).2
    have hy' := (List.mem_filter.mp hy).2
    simp only [beq_iff_eq] at hx' hy'
    exact R_succ_of_digit_lt (by omega)

theorem radixPass_perm (keyOf : Nat → Nat) (src : List Nat) (k : Nat) :
    (radixPass keyOf src k).Perm src := by
  unfold radixPass
  split
  · exact List.Perm.refl _
  · split
    · exact List.Perm.refl _
    · exact countingPass_perm _ _ _

theorem radixPass_pairwise {keyOf : Nat → Nat} {src : List Nat} {k : Nat}
    (h : src.Pairwise (R keyOf k)) : (radixPass keyOf src k).Pairwise (R keyOf (k + 1)) := by
  unfold radixPass
  split
  · simp
  · rename_i i0 rest
    split
    · rename_i hall
      exact Pairwise.R_succ (fun a ha => by simpa using List.all_eq_true.mp hall a ha) h
    · exact countingPass_pairwise h

theorem foldl_radixPass (keyOf : Nat → Nat) (m : Nat) :
    ∀ (src : List Nat), src.Pairwise (R keyOf 0) →
      ((List.range m).foldl (radixPass keyOf) src).Pairwise (R keyOf m) ∧
      ((List.range m).foldl (radixPass keyOf) src).Perm src := by
  induction m with
  | zero => intro src h; exact ⟨by simpa using h, by simp⟩
  | succ m ih =>
    intro src h
    rw [List.range_succ, List.foldl_append]
    simp only [List.foldl_cons, List.foldl_nil]
    obtain ⟨h1, h2⟩ := ih src h
    exact ⟨radixPass_pairwise h1, (radixPass_perm _ _ _).trans h2⟩

theorem range_R0 (keyOf : Nat → Nat) (n : Nat) : (List.range n).Pairwise (R keyOf 0) := by
  refine (List.pairwise_lt_range (n := n)).imp ?_
  intro a b hab
  right
  exact ⟨by simp [low, Nat.mod_one], hab⟩

/-- `radixWith` returns a permutation of `0..n-1`, strictly sorted by (key, original position):
sorted and stable. Holds for every key function with 64-bit keys and every `n`. -/
theorem radixWith_sorted_stable (keyOf : Nat → Nat) (n : Nat) (hk : ∀ i, keyOf i < 2 ^ 64) :
    (radixWith keyOf n).Pairwise (fun i j => keyOf i < keyOf j ∨ (keyOf i = keyOf j ∧ i < j)) ∧
    (radixWith keyOf n).Perm (List.range n) := by
  obtain ⟨h1, h2⟩ := foldl_radixPass keyOf 8 (List.range n) (range_R0 keyOf n)
  refine ⟨?_, h2⟩
  refine h1.imp ?_
  intro a b hab
  unfold R low at hab
  have e : (256 : Nat) ^ 8 = 2 ^ 64 := by decide
  rw [e, Nat.mod_eq_of_lt (hk a), Nat.mod_eq_of_lt (hk b)] at hab
  exact hab

/-! ### the sign-bit bias is an order isomorphism int64 → uint64 -/

theorem bias_eq {t : Int} (h : inI64 t) : (bias t : Int) = t + 2 ^ 63 := by
  unfold bias inI64 at *
  have : (t + 2 ^ 63) % 2 ^ 64 = t + 2 ^ 63 := Int.emod_eq_of_lt (by omega) (by omega)
  rw [this]
  omega

theorem bias_lt_pow (t : Int) : bias t < 2 ^ 64 := by
  unfold bias; omega

theorem bias_lt_iff {a b : Int} (ha : inI64 a) (hb : inI64 b) : bias a < bias b ↔ a < b := by
  have h1 := bias_eq ha
  have h2 := bias_eq hb
  omega

theorem bias_eq_iff {a b : Int} (ha : inI64 a) (hb : inI64 b) : bias a = bias b ↔ a = b := by
  have h1 := bias_eq ha
  have h2 := bias_eq hb
  omega

end Arc.C03
