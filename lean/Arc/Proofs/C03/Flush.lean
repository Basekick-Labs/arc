import Arc.Proofs.C03.Sort
import Arc.Proofs.C03.Group
import Arc.Proofs.C03.Hour
/-! `flushFiles`: the files written for one merged batch partition its rows by hour, each file
time-sorted. One hour: the test on the extremes covers every row. Several hours: `groupByHour`'s
partition of the indices, each slice sorted by `sortBatch`. -/
namespace Arc.C03

theorem listMin_spec (m : Int) (l : List Int) :
    listMin m l ≤ m ∧ (∀ x ∈ l, listMin m l ≤ x) := by
  induction l generalizing m with
  | nil => simp [listMin]
  | cons t ts ih =>
    simp only [listMin, List.mem_cons, forall_eq_or_imp]
    split
    · exact ⟨by have := (ih t).1; omega, ih t⟩
    · exact ⟨(ih m).1, by have := (ih m).1; omega, (ih m).2⟩

theorem listMax_spec (m : Int) (l : List Int) :
    m ≤ listMax m l ∧ (∀ x ∈ l, x ≤ listMax m l) := by
  induction l generalizing m with
  | nil => simp [listMax]
  | cons t ts ih =>
    simp only [listMax, List.mem_cons, forall_eq_or_imp]
    split
    · exact ⟨by have := (ih t).1; omega, ih t⟩
    · exact ⟨(ih m).1, by have := (ih m).1; omega, (ih m).2⟩

/-- the single-hour test of `flushPartitionedData` compares the extremes only -/
theorem hour_of_min_max {t0 : Int} {ts : List Int}
    (h : hourBucketID (listMin t0 ts) = hourBucketID (listMax t0 ts)) {x : Int} (hx : x ∈ t0 :: ts) :
    hourBucketID x = hourBucketID (listMin t0 ts) := by
  obtain ⟨mn1, mn2⟩ := listMin_spec t0 ts
  obtain ⟨mx1, mx2⟩ := listMax_spec t0 ts
  have : listMin t0 ts ≤ x ∧ x ≤ listMax t0 ts := by
    rcases List.mem_cons.mp hx with rfl | e
    · exact ⟨mn1, mx1⟩
    · exact ⟨mn2 _ e, mx2 _ e⟩
  have a1 := hour_mono this.1
  have a2 := hour_mono this.2
  omega

theorem time_mem_of_mem_rows {b : Batch} {r : Row} (h : r ∈ b.rows) : r.time ∈ b.times :=
  rows_time b ▸ List.mem_map_of_mem h

structure FileOK (f : OutFile) : Prop where
  inHour : ∀ r ∈ f.batch.rows, hourBucketID r.time = f.hour
  sorted : (f.batch.rows.map (·.time)).Pairwise (· ≤ ·)

theorem sortBatch_gather_spec (m : Batch) (ht : HasTime m) (hr : ∀ t ∈ m.times, inI64 t) (ix : List Nat) :
    (sortBatch (m.gather ix)).rows.Perm (ix.map m.rowAt) ∧
    ((sortBatch (m.gather ix)).rows.map (·.time)).Pairwise (· ≤ ·) := by
  have := sortBatch_spec (m.gather ix) (hasTime_gather m ix ht)
    (by rw [gather_times m ix ht]; exact List.forall_mem_map.mpr fun i _ => tAt_inI64 hr i)
  rwa [gather_rows m ix ht] at this

theorem flushFiles_spec (m : Batch) (ht : HasTime m) (hr : ∀ t ∈ m.times, inI64 t)
    (files : List OutFile) (hf : flushFiles m = .ok files) :
    (files.flatMap (fun f => f.batch.rows)).Perm m.rows ∧
    (∀ f ∈ files, FileOK f) ∧
    (files.map (·.hour)).Nodup := by
  unfold flushFiles at hf
  split at hf
  · simp at hf
  · rename_i t0 ts htimes
    simp only at hf
    split at hf
    · -- single hour
      rename_i hsame
      simp only [Except.ok.injEq] at hf
      subst hf
      obtain ⟨hp, hs⟩ := sortBatch_spec m ht hr
      refine ⟨by simpa using hp, List.forall_mem_singleton.mpr ⟨fun r hrm => ?_, hs⟩, by simp⟩
      exact hour_of_min_max hsame (htimes ▸ time_mem_of_mem_rows (hp.subset hrm))
    · -- multi hour
      simp only [Except.ok.injEq] at hf
      subst hf
      have inv := groupByHour_inv m.times
      have hfile := fun (p : Int × List Nat) => sortBatch_gather_spec m ht hr p.2
      refine ⟨?_, ?_, ?_⟩
      · rw [List.flatMap_map]
        refine (perm_flatMap_congr (g := fun p => p.2.map m.rowAt) fun p _ => (hfile p).1).trans ?_
        rw [← List.map_flatMap]
        exact inv.perm.map m.rowAt
      · intro f hfm
        obtain ⟨p, hp, rfl⟩ := List.mem_map.mp hfm
        refine ⟨fun r hrm => ?_, (hfile p).2⟩
        obtain ⟨j, hj, rfl⟩ := List.mem_map.mp ((hfile p).1.subset hrm)
        obtain ⟨t, htj, hh⟩ := inv.hour p hp j hj
        rwa [rowAt_time, tAt, List.getD_eq_getElem?_getD, htj]
      · rw [List.map_map]
        exact inv.keys

theorem flushFiles_error {m : Batch} {e : FlushErr} (h : flushFiles m = .error e) : m.times = [] := by
  unfold flushFiles at h
  split at h
  · assumption
  · simp only at h; split at h <;> cases h

end Arc.C03
