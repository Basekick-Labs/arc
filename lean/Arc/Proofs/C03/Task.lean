import Arc.Model.C03.Buffer
import Arc.Proofs.C03.Merge
import Arc.Proofs.C03.Flush
/-! The flush of one task — the batches of one buffer: each accepted by `wfBatch`, all of one column
signature (`GoodGroup`) — produces files holding exactly the task's rows, partitioned by hour, each
time-sorted. Equal signatures of batches without internal columns rule out the merge's type
conflict; then `merge_rows` and `flushFiles_spec` compose. -/
namespace Arc.C03

theorem insertSorted_perm (p : String × Ty) (l : List (String × Ty)) :
    (insertSorted p l).Perm (p :: l) := by
  induction l with
  | nil => simp [insertSorted]
  | cons q rest ih =>
    unfold insertSorted
    split
    · exact List.Perm.refl _
    · exact (ih.cons q).trans (List.Perm.swap p q rest)

theorem signature_perm (b : Batch) :
    (signature b).Perm ((b.cols.filter (fun p => !internalName p.1)).map (fun p => (p.1, p.2.ty))) := by
  unfold signature
  induction (b.cols.filter (fun p => !internalName p.1)) with
  | nil => simp
  | cons p rest ih =>
    simp only [List.foldr_cons, List.map_cons]
    exact (insertSorted_perm _ _).trans (ih.cons _)

theorem mem_signature {b : Batch} {nm : String} {ty : Ty} :
    (nm, ty) ∈ signature b ↔ ∃ c, (nm, c) ∈ b.cols ∧ internalName nm = false ∧ c.ty = ty := by
  rw [(signature_perm b).mem_iff]
  simp only [List.mem_map, List.mem_filter, Prod.mk.injEq]
  constructor
  · rintro ⟨⟨a, c⟩, ⟨h1, h2⟩, h3, h4⟩
    simp only at h3 h4 h2
    subst h3
    exact ⟨c, h1, by simpa using h2, h4⟩
  · rintro ⟨c, h1, h2, h3⟩
    exact ⟨(nm, c), ⟨h1, by simp [h2]⟩, rfl, h3⟩

/-- the Bool check `wfBatch` gives the Prop-level facts -/
structure WF (b : Batch) : Prop where
  wfb      : WFB b
  clean    : ∀ nm ∈ b.names, internalName nm = false
  inRange  : ∀ t ∈ b.times, inI64 t

theorem allDistinct_nodup {l : List String} (h : allDistinct l = true) : l.Nodup := by
  induction l with
  | nil => simp
  | cons a rest ih =>
    simp only [allDistinct, Bool.and_eq_true, Bool.not_eq_true', List.contains_eq_mem,
      decide_eq_false_iff_not] at h
    exact List.nodup_cons.mpr ⟨h.1, ih h.2⟩

theorem wf_of_wfBatch {b : Batch} (h : wfBatch b = true) : WF b := by
  unfold wfBatch at h
  simp only [Bool.and_eq_true] at h
  obtain ⟨⟨⟨⟨h1, h2⟩, h3⟩, h4⟩, h5⟩ := h
  have hcols : ∀ p ∈ b.cols, p.2.vals.length = b.n := by
    intro p hp
    have := List.all_eq_true.mp h5 p hp
    unfold colWF at this
    simp only [Bool.and_eq_true, beq_iff_eq] at this
    exact this.1
  refine ⟨⟨allDistinct_nodup h1, ?_, ?_⟩, ?_, ?_⟩
  · unfold timeColWF at h3
    cases hc : b.col "time" with
    | none => simp [hc] at h3
    | some c =>
      simp only [hc, Bool.and_eq_true, decide_eq_true_eq, Option.isNone_iff_eq_none] at h3
      exact ⟨c, rfl, h3.1, h3.2⟩
  · intro nm c hc
    exact hcols (nm, c) (lookup_mem hc)
  · intro nm hnm
    have := List.all_eq_true.mp h2 nm hnm
    simpa using this
  · intro t ht
    have := List.all_eq_true.mp h4 t ht
    simpa using this

/-- a group of batches as it sits in one buffer / one task -/
structure GoodGroup (l : List TBatch) : Prop where
  wf  : ∀ tb ∈ l, wfBatch tb.b = true
  sig : ∀ tb ∈ l, ∀ tb' ∈ l, signature tb.b = signature tb'.b

theorem firstTy_mem {bs : List Batch} {nm : String} {c : Col} {b : Batch} (hb : b ∈ bs)
    (hc : b.col nm = some c) : ∃ b' ∈ bs, ∃ c', b'.col nm = some c' ∧ firstTy bs nm = c'.ty := by
  unfold firstTy
  cases hf : bs.findSome? (fun b => b.col nm) with
  | none =>
    have := List.findSome?_eq_none_iff.mp hf b hb
    simp [hc] at this
  | some c' =>
    obtain ⟨b', hb', hc'⟩ := List.exists_of_findSome?_eq_some hf
    exact ⟨b', hb', c', hc', rfl⟩

theorem goodGroup_noConflict {l : List TBatch} (h : GoodGroup l) :
    typeConflict (l.map TBatch.b) = false := by
  refine typeConflict_eq_false.mpr fun b hb ⟨nm, c⟩ hp => ?_
  obtain ⟨tb, htb, rfl⟩ := List.mem_map.mp hb
  have hwf := wf_of_wfBatch (h.wf tb htb)
  have hcol : tb.b.col nm = some c := lookup_of_mem hwf.wfb.names hp
  obtain ⟨b', hb', c', hc', hft⟩ := firstTy_mem hb hcol
  obtain ⟨tb', htb', rfl⟩ := List.mem_map.mp hb'
  rw [hft]
  have hclean : internalName nm = false := hwf.clean nm (mem_names_of_col hcol)
  have h1 : (nm, c.ty) ∈ signature tb.b := mem_signature.mpr ⟨c, hp, hclean, rfl⟩
  rw [h.sig tb htb tb' htb'] at h1
  obtain ⟨c2, hc2, _, hty2⟩ := mem_signature.mp h1
  have := (lookup_of_mem (wf_of_wfBatch (h.wf tb' htb')).wfb.names hc2).symm.trans hc'
  rw [← Option.some.inj this, hty2]

theorem flushTask_spec {l : List TBatch} (h : GoodGroup l) :
    (∀ fs, flushTask (l.map TBatch.b) = .ok fs →
        (fs.flatMap (fun f => f.batch.rows)).Perm ((l.map TBatch.b).flatMap Batch.rows) ∧
        (∀ f ∈ fs, FileOK f) ∧ (fs.map (·.hour)).Nodup) ∧
    (∀ e, flushTask (l.map TBatch.b) = .error e → (l.map TBatch.b).flatMap Batch.rows = []) := by
  have hnc := goodGroup_noConflict h
  have hwf := fun tb htb => wf_of_wfBatch (h.wf tb htb)
  have hwfb : ∀ b ∈ l.map TBatch.b, WFB b :=
    List.forall_mem_map.mpr fun tb htb => (hwf tb htb).wfb
  have hrange : ∀ t ∈ allTimes (l.map TBatch.b), inI64 t := fun t ht => by
    obtain ⟨b, hb, htb⟩ := List.mem_flatMap.mp ht
    obtain ⟨tb, htb', rfl⟩ := List.mem_map.mp hb
    exact (hwf tb htb').inRange t htb
  unfold flushTask
  cases hm : mergeBatches (l.map TBatch.b) with
  | error e =>
    simp only
    refine ⟨by intro fs hfs; simp at hfs, ?_⟩
    intro _ _
    rw [mergeBatches_error hnc hm]; rfl
  | ok m =>
    simp only
    obtain ⟨hrows, htime, htimes⟩ := merge_rows _ hwfb hnc m hm
    constructor
    · intro fs hfs
      obtain ⟨h1, h2, h3⟩ := flushFiles_spec m htime (by rw [htimes]; exact hrange) fs hfs
      exact ⟨by rw [← hrows]; exact h1, h2, h3⟩
    · intro e he
      rw [← hrows, Batch.rows, Batch.n, flushFiles_error he]; rfl

end Arc.C03
