import Arc.Model.C03.Pure
/-! `groupByHour` partitions the row indices by hour: the loop invariant `GInv` (the buckets list
`0..i-1` once each, every index under its own hour, keys distinct, each bucket ascending) is kept by
`insertIdx`. -/
namespace Arc.C03

theorem insertIdx_perm (bs : List (Int × List Nat)) (h : Int) (i : Nat) :
    ((insertIdx bs h i).flatMap (·.2)).Perm (i :: bs.flatMap (·.2)) := by
  induction bs with
  | nil => simp [insertIdx]
  | cons p rest ih =>
    unfold insertIdx
    split
    · simp only [List.flatMap_cons, List.append_assoc, List.singleton_append]; exact List.perm_middle
    · simp only [List.flatMap_cons]; exact (ih.append_left _).trans List.perm_middle

theorem insertIdx_mem {bs : List (Int × List Nat)} {h : Int} {i : Nat} {p : Int × List Nat}
    (hp : p ∈ insertIdx bs h i) :
    (p ∈ bs) ∨ (p.1 = h ∧ ∃ is, p.2 = is ++ [i] ∧ (is = [] ∨ (h, is) ∈ bs)) := by
  induction bs with
  | nil => simp [insertIdx] at hp; subst hp; exact Or.inr ⟨rfl, [], rfl, Or.inl rfl⟩
  | cons q rest ih =>
    obtain ⟨h', is⟩ := q
    unfold insertIdx at hp
    split at hp
    · rename_i heq
      rcases List.mem_cons.mp hp with h1 | h1
      · subst h1; subst heq; exact Or.inr ⟨rfl, is, rfl, Or.inr (by simp)⟩
      · exact Or.inl (List.mem_cons_of_mem _ h1)
    · rcases List.mem_cons.mp hp with rfl | h1
      · exact Or.inl List.mem_cons_self
      · rcases ih h1 with h2 | ⟨h2, is', h3, h4⟩
        · exact Or.inl (List.mem_cons_of_mem _ h2)
        · exact Or.inr ⟨h2, is', h3, h4.imp_right (List.mem_cons_of_mem _)⟩

theorem insertIdx_keys (bs : List (Int × List Nat)) (h : Int) (i : Nat) :
    (insertIdx bs h i).map (·.1) = if h ∈ bs.map (·.1) then bs.map (·.1) else bs.map (·.1) ++ [h] := by
  induction bs with
  | nil => simp [insertIdx]
  | cons q rest ih =>
    obtain ⟨h', is⟩ := q
    unfold insertIdx
    by_cases heq : h' = h
    · subst heq; simp
    · simp only [heq, if_false, List.map_cons, ih]
      have : h ≠ h' := fun e => heq e.symm
      by_cases hm : h ∈ rest.map (·.1)
      · simp [hm]
      · simp [hm, this]

/-- invariant of the grouping loop after the first `i` timestamps -/
structure GInv (times : List Int) (i : Nat) (acc : List (Int × List Nat)) : Prop where
  perm : (acc.flatMap (·.2)).Perm (List.range i)
  hour : ∀ p ∈ acc, ∀ j ∈ p.2, ∃ t, times[j]? = some t ∧ hourBucketID t = p.1
  keys : (acc.map (·.1)).Nodup
  asc  : ∀ p ∈ acc, p.2.Pairwise (· < ·)
  lt   : ∀ p ∈ acc, ∀ j ∈ p.2, j < i

theorem GInv.step {times : List Int} {i : Nat} {acc : List (Int × List Nat)} (t : Int)
    (ht : times[i]? = some t) (inv : GInv times i acc) :
    GInv times (i + 1) (insertIdx acc (hourBucketID t) i) := by
  -- the bucket that receives `i`: empty so far, or an old bucket of this hour
  have old : ∀ is, (is = [] ∨ (hourBucketID t, is) ∈ acc) → is.Pairwise (· < ·) ∧
      ∀ j ∈ is, (∃ t', times[j]? = some t' ∧ hourBucketID t' = hourBucketID t) ∧ j < i := by
    rintro is (rfl | h)
    · simp
    · exact ⟨inv.asc _ h, fun j hj => ⟨inv.hour _ h j hj, inv.lt _ h j hj⟩⟩
  have new : ∀ p ∈ insertIdx acc (hourBucketID t) i, p.2.Pairwise (· < ·) ∧
      ∀ j ∈ p.2, (∃ t', times[j]? = some t' ∧ hourBucketID t' = p.1) ∧ j < i + 1 := by
    intro p hp
    rcases insertIdx_mem hp with h1 | ⟨h1, is, h2, h3⟩
    · exact ⟨inv.asc p h1, fun j hj => ⟨inv.hour p h1 j hj, Nat.lt_succ_of_lt (inv.lt p h1 j hj)⟩⟩
    · obtain ⟨ha, ho⟩ := old is h3
      rw [h2, h1]
      refine ⟨List.pairwise_append.mpr ⟨ha, by simp, fun a ha b hb => ?_⟩, fun j hj => ?_⟩
      · rw [List.mem_singleton.mp hb]; exact (ho a ha).2
      · rcases List.mem_append.mp hj with h4 | h4
        · exact ⟨(ho j h4).1, Nat.lt_succ_of_lt (ho j h4).2⟩
        · rw [List.mem_singleton.mp h4]; exact ⟨⟨t, ht, rfl⟩, Nat.lt_succ_self _⟩
  refine ⟨?_, fun p hp j hj => ((new p hp).2 j hj).1, ?_, fun p hp => (new p hp).1,
    fun p hp j hj => ((new p hp).2 j hj).2⟩
  · rw [List.range_succ]
    exact (insertIdx_perm acc _ i).trans ((inv.perm.cons i).trans (List.perm_append_singleton i _).symm)
  · rw [insertIdx_keys]
    split
    · exact inv.keys
    · rename_i hn
      exact List.nodup_append.mpr ⟨inv.keys, by simp, by
        intro a ha b hb; simp at hb; subst hb; intro e; subst e; exact hn ha⟩

theorem groupFrom_inv (pre ts : List Int) (acc : List (Int × List Nat))
    (inv : GInv (pre ++ ts) pre.length acc) :
    GInv (pre ++ ts) (pre ++ ts).length (groupFrom ts pre.length acc) := by
  induction ts generalizing pre acc with
  | nil => simpa [groupFrom] using inv
  | cons t ts ih =>
    have := ih (pre ++ [t]) (insertIdx acc (hourBucketID t) pre.length)
    simp only [List.append_assoc, List.singleton_append, List.length_append, List.length_singleton] at this ⊢
    exact this (inv.step t (by simp))

theorem groupByHour_inv (times : List Int) : GInv times times.length (groupByHour times) :=
  groupFrom_inv [] times [] ⟨by simp, by simp, by simp, by simp, by simp⟩

end Arc.C03
