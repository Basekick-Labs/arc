import Arc.Proofs.C03.Sort
/-! `mergeBatches` concatenates rows: every value and every NULL (explicit, or a column absent from
a batch) is preserved, in arrival order.

Two lists of rows are equal when their timestamps and, for every column name, their cells are.
`mergeBatches` builds each column by appending one segment per batch, so column by column the
statement is about appended segments and needs no row index across batches. -/
namespace Arc.C03

def totalN (bs : List Batch) : Nat := (bs.map Batch.n).sum

def allTimes (bs : List Batch) : List Int := bs.flatMap Batch.times

/-- the cells of one column for rows `0..n-1`; an absent column reads NULL -/
def cells (oc : Option Col) (n : Nat) : List (Option Val) :=
  (List.range n).map fun i => oc.bind (·.cellAt i)

/-- value `v` under validity bit `w` -/
def cellOf (w : Bool) (v : Val) : Option Val := if w then some v else none

theorem rows_ext {l l' : List Row} (ht : l.map (·.time) = l'.map (·.time))
    (hc : ∀ nm, l.map (·.cell nm) = l'.map (·.cell nm)) : l = l' := by
  induction l generalizing l' with
  | nil => cases l' <;> simp_all
  | cons r l ih =>
    cases l' with
    | nil => simp at ht
    | cons r' l' =>
      simp only [List.map_cons, List.cons.injEq] at ht hc
      have : r = r' := by
        cases r; cases r'; simp only [Row.mk.injEq]; exact ⟨ht.1, funext fun nm => (hc nm).1⟩
      rw [this, ih ht.2 fun nm => (hc nm).2]

theorem rows_cell (b : Batch) (nm : String) : b.rows.map (·.cell nm) = cells (b.col nm) b.n := by
  simp only [Batch.rows, List.map_map]; rfl

/-- one segment of `n` entries per batch -/
theorem length_flatMap_n {α : Type} {A : Batch → List α} (h : ∀ b, (A b).length = b.n) (bs : List Batch) :
    (bs.flatMap A).length = totalN bs := by
  simp [List.length_flatMap, totalN, h]

theorem map_range_cellOf {W : List Bool} {V : List Val} (z : Val) (h : V.length = W.length) :
    ((List.range W.length).map fun g => cellOf (W.getD g false) (V.getD g z)) = List.zipWith cellOf W V := by
  conv => rhs; rw [← map_range_getD W false, ← map_range_getD V z, h, List.zipWith_map, List.zipWith_self]

theorem segVals_length (b : Batch) (nm : String) (ty : Ty) : (segVals b nm ty).length = b.n := by
  unfold segVals; split <;> simp

theorem segValid_length (b : Batch) (nm : String) : (segValid b nm).length = b.n := by
  unfold segValid; split
  · split <;> simp
  · simp

/-- payload and validity segment of a batch encode exactly its cells, when the payload is read at
the column's own type -/
theorem seg_cells (b : Batch) (nm : String) (ty : Ty) (hty : ∀ c, b.col nm = some c → c.ty = ty) :
    List.zipWith cellOf (segValid b nm) (segVals b nm ty) = cells (b.col nm) b.n := by
  unfold segValid segVals cells
  cases hc : b.col nm with
  | none => simp [cellOf, List.map_const']
  | some c =>
    -- every segment is a map over `range b.n`, so `zipWith` is pointwise
    have hr : List.replicate b.n true = (List.range b.n).map fun _ => true := by simp [List.map_const']
    cases hv : c.valid <;>
      simp only [hv, hr, List.zipWith_map, List.zipWith_self, cellOf, if_true, Col.cellAt, Option.bind_some,
        hty c hc]

theorem cells_absent (bs : List Batch) (nm : String) (h : ∀ b ∈ bs, b.col nm = none) :
    bs.flatMap (fun b => cells (b.col nm) b.n) = cells none (totalN bs) := by
  have hc (n : Nat) : cells none n = List.replicate n none := by simp [cells, List.map_const']
  induction bs with
  | nil => rfl
  | cons b rest ih =>
    simp [h b (by simp), ih fun b' hb' => h b' (by simp [hb']), hc, totalN]

/-- what the merge needs from an accepted batch: names unique, an int64 `time` column without
validity whose length is the row count, every column as long -/
structure WFB (b : Batch) : Prop where
  names : b.names.Nodup
  time  : ∃ c, b.col "time" = some c ∧ c.ty = .i64 ∧ c.valid = none
  lens  : ∀ nm c, b.col nm = some c → c.vals.length = b.n

theorem WFB.hasTime {b : Batch} (h : WFB b) : HasTime b := by
  obtain ⟨c, h1, h2, _⟩ := h.time; exact ⟨c, h1, h2⟩

theorem typeConflict_eq_false {bs : List Batch} :
    typeConflict bs = false ↔ ∀ b ∈ bs, ∀ p ∈ b.cols, p.2.ty = firstTy bs p.1 := by
  simp only [typeConflict, List.any_eq_false, Bool.not_eq_true, decide_eq_false_iff_not, Decidable.not_not]

theorem mem_unionNames {bs : List Batch} {nm : String} :
    nm ∈ unionNames bs ↔ ∃ b ∈ bs, nm ∈ b.names := by
  unfold unionNames
  rw [List.mem_eraseDups, List.mem_flatMap]

theorem mem_names_of_col {b : Batch} {nm : String} {c : Col} (h : b.col nm = some c) : nm ∈ b.names :=
  List.mem_map.mpr ⟨(nm, c), lookup_mem h, rfl⟩

theorem segVals_time {b : Batch} (hb : WFB b) :
    (segVals b "time" .i64).map Val.toInt = b.times := by
  obtain ⟨c, hc, hty, _⟩ := hb.time
  simp only [segVals, Batch.times, hc, hty, if_true, ← hb.lens "time" c hc, map_range_getD]

/-- pigeonhole: a batch that lacks a union column has fewer columns than the union -/
theorem sparse_of_missing {bs : List Batch} {b : Batch} (hb : b ∈ bs) (hn : b.names.Nodup)
    {nm : String} (hu : nm ∈ unionNames bs) (hm : nm ∉ b.names) :
    b.cols.length < (unionNames bs).length := by
  have hsub : b.names ⊆ (unionNames bs).erase nm := by
    intro x hx
    have hxu : x ∈ unionNames bs := mem_unionNames.mpr ⟨b, hb, hx⟩
    have hne : x ≠ nm := fun e => hm (e ▸ hx)
    exact (List.mem_erase_of_ne hne).mpr hxu
  have h1 := hn.length_le_of_subset hsub
  have h2 := List.length_erase_of_mem hu
  have h3 : b.names.length = b.cols.length := by simp [Batch.names]
  have h4 : 0 < (unionNames bs).length := List.length_pos_of_mem hu
  omega

/-- no validity vector anywhere and no sparse column: every union column is present everywhere
and all its segments are all-true -/
theorem segValid_all (bs : List Batch) (hwf : ∀ b ∈ bs, WFB b) (nm : String)
    (hu : nm ∈ unionNames bs) (h : needsValidity bs = false) :
    (bs.flatMap fun b => segValid b nm).all id = true := by
  simp only [needsValidity, Bool.or_eq_false_iff] at h
  obtain ⟨hA, hB⟩ := h
  rw [List.all_eq_true]
  intro x hx
  obtain ⟨b, hb, hxb⟩ := List.mem_flatMap.mp hx
  have hnotsparse : ¬ b.cols.length < (unionNames bs).length := by
    simpa using List.any_eq_false.mp hB b hb
  have hAb : ∀ x c, (x, c) ∈ b.cols → c.valid = none := by
    simpa using List.any_eq_false.mp hA b hb
  unfold segValid at hxb
  cases hc : b.col nm with
  | none =>
    exact absurd (sparse_of_missing hb (hwf b hb).names hu (lookup_none_iff.mp hc)) hnotsparse
  | some c =>
    simp only [hc, hAb nm c (lookup_mem hc)] at hxb
    simp [List.eq_of_mem_replicate hxb]

/-- the cells of the merged column: the appended payload under the appended validity -/
theorem mergedCol_cells (bs : List Batch) (hwf : ∀ b ∈ bs, WFB b) (nm : String)
    (hu : nm ∈ unionNames bs) :
    cells (some (mergedCol bs nm)) (totalN bs) =
      List.zipWith cellOf (bs.flatMap fun b => segValid b nm)
        (bs.flatMap fun b => segVals b nm (firstTy bs nm)) := by
  have hW : (bs.flatMap fun b => segValid b nm).length = totalN bs :=
    length_flatMap_n (segValid_length · nm) bs
  rw [← map_range_cellOf (firstTy bs nm).zero
    ((length_flatMap_n (segVals_length · nm _) bs).trans hW.symm), hW]
  apply List.map_congr_left
  intro g hg
  simp only [Option.bind_some, mergedCol, Col.cellAt, stripValid, cellOf]
  by_cases hall : (bs.flatMap fun b => segValid b nm).all id = true
  · -- the validity vector is dropped, and it reads `true` at `g`
    have := all_getD_true hall (hW ▸ List.mem_range.mp hg)
    simp only [hall, this, if_true, ite_self]
  · have hnv : needsValidity bs = true :=
      Decidable.byContradiction fun h => hall (segValid_all bs hwf nm hu (by simpa using h))
    simp only [hnv, hall, if_true, Bool.false_eq_true, if_false]

/-- column `nm` of the merge over all rows: the batches' cells, appended (a name outside the union
is absent everywhere) -/
theorem merged_cells (bs : List Batch) (hwf : ∀ b ∈ bs, WFB b) (hnc : typeConflict bs = false)
    (nm : String) :
    cells (if nm ∈ unionNames bs then some (mergedCol bs nm) else none) (totalN bs) =
      bs.flatMap fun b => cells (b.col nm) b.n := by
  by_cases hu : nm ∈ unionNames bs
  · rw [if_pos hu, mergedCol_cells bs hwf nm hu,
      zipWith_flatMap _ fun b _ => (segValid_length b nm).trans (segVals_length b nm _).symm]
    exact congrArg List.flatten (List.map_congr_left fun b hb =>
      seg_cells b nm _ fun c hc => typeConflict_eq_false.mp hnc b hb (nm, c) (lookup_mem hc))
  · rw [if_neg hu]
    exact (cells_absent bs nm fun b hb => lookup_none_iff.mpr fun hmem =>
      hu (mem_unionNames.mpr ⟨b, hb, hmem⟩)).symm

/-- the `time` column of the merge: present, int64, the batches' timestamps appended -/
theorem merged_times (bs : List Batch) (hwf : ∀ b ∈ bs, WFB b) (hne : bs ≠ []) :
    "time" ∈ unionNames bs ∧ (mergedCol bs "time").ty = .i64 ∧
      (mergedCol bs "time").vals.map Val.toInt = allTimes bs := by
  obtain ⟨b0, rest, rfl⟩ := List.exists_cons_of_ne_nil hne
  obtain ⟨c, hc, hty, _⟩ := (hwf b0 (by simp)).time
  have hft : firstTy (b0 :: rest) "time" = .i64 := by simp [firstTy, hc, hty]
  refine ⟨mem_unionNames.mpr ⟨b0, by simp, mem_names_of_col hc⟩, hft, ?_⟩
  simp only [mergedCol, hft, List.map_flatMap, allTimes]
  exact congrArg List.flatten (List.map_congr_left fun b hb => segVals_time (hwf b hb))

theorem mergeBatches_error {bs : List Batch} {e : MergeErr} (hnc : typeConflict bs = false)
    (h : mergeBatches bs = .error e) : bs = [] := by
  unfold mergeBatches at h
  split at h
  · rfl
  · cases h
  · simp [hnc] at h

/-- **merge preserves rows**: for well-formed batches without a type conflict, the merged batch's
rows are the concatenation of the batches' rows (absent column = NULL). -/
theorem merge_rows (bs : List Batch) (hwf : ∀ b ∈ bs, WFB b) (hnc : typeConflict bs = false)
    (m : Batch) (hm : mergeBatches bs = .ok m) :
    m.rows = bs.flatMap Batch.rows ∧ HasTime m ∧ m.times = allTimes bs := by
  unfold mergeBatches at hm
  split at hm
  · simp at hm
  · rename_i b
    simp only [Except.ok.injEq] at hm
    subst hm
    exact ⟨by simp, (hwf b (by simp)).hasTime, by simp [allTimes]⟩
  · rename_i hne _
    simp only [hnc, Bool.false_eq_true, if_false, Except.ok.injEq] at hm
    obtain ⟨htimeU, hty, htimes⟩ := merged_times bs hwf hne
    have hcol : ∀ nm, m.col nm = if nm ∈ unionNames bs then some (mergedCol bs nm) else none := by
      intro nm; subst hm; unfold Batch.col; exact lookup_map_self _ _ _
    have hmt : m.times = allTimes bs := by
      unfold Batch.times
      rw [hcol "time"]
      simp [htimeU, hty, htimes]
    refine ⟨rows_ext ?_ fun nm => ?_, ⟨mergedCol bs "time", by rw [hcol "time"]; simp [htimeU], hty⟩, hmt⟩
    · simp only [rows_time, hmt, List.map_flatMap, allTimes]
    · have hmn : m.n = totalN bs := by
        unfold Batch.n; rw [hmt]; exact length_flatMap_n (fun _ => rfl) bs
      simp only [rows_cell, List.map_flatMap, hmn, hcol nm]
      exact merged_cells bs hwf hnc nm

end Arc.C03
