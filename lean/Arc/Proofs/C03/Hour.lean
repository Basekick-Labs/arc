import Arc.Model.C03.Pure
/-! `HourBucketID` is floor division by the hour: on `Int` with Go's truncating `/` and `%`, on int64
with every intermediate result wrapped (nothing leaves the range), and on `BitVec 64` machine words. -/
namespace Arc.C03

theorem hourBucketID_floor (t : Int) : hourBucketID t = t / 3600000000 := by
  unfold hourBucketID microPerHour
  simp only [Int.tdiv_eq_ediv, Int.tmod_eq_emod]
  by_cases h0 : 0 ≤ t
  · have : ¬ (t < 0) := by omega
    simp [h0, this]
  · by_cases hd : (3600000000 : Int) ∣ t
    · have hm : t % 3600000000 = 0 := Int.emod_eq_zero_of_dvd hd
      simp [hd, hm]
    · have hm : t % 3600000000 ≠ 0 := fun h => hd (Int.dvd_of_emod_eq_zero h)
      have hs : (3600000000 : Int).sign = 1 := by decide
      have hn : ((3600000000 : Int).natAbs : Int) = 3600000000 := by decide
      simp only [h0, hd, or_self, if_false, hs, hn]
      have : t < 0 := by omega
      have h2 : t % 3600000000 - 3600000000 ≠ 0 := by omega
      simp [this, h2]

theorem hour_mono {a b : Int} (h : a ≤ b) : hourBucketID a ≤ hourBucketID b := by
  rw [hourBucketID_floor, hourBucketID_floor]; omega

theorem wrap64_id {x : Int} (h : inI64 x) : wrap64 x = x := by
  unfold wrap64 inI64 at *
  rw [Int.bmod_def]
  have : ((2 ^ 64 : Nat) : Int) = 18446744073709551616 := by decide
  simp only [this]
  omega

theorem tdiv_bounds {t : Int} (h : inI64 t) :
    inI64 (Int.tdiv t 3600000000) ∧ inI64 (Int.tmod t 3600000000) ∧
    inI64 (Int.tdiv t 3600000000 - 1) := by
  unfold inI64 at *
  rw [Int.tdiv_eq_ediv, Int.tmod_eq_emod]
  have hs : (3600000000 : Int).sign = 1 := by decide
  have hn : ((3600000000 : Int).natAbs : Int) = 3600000000 := by decide
  rw [hs]
  by_cases hc : 0 ≤ t ∨ (3600000000 : Int) ∣ t
  · simp only [hc, if_true]; omega
  · simp only [hc, if_false, hn]; omega

/-- On int64 inputs no intermediate result of `HourBucketID` leaves the int64 range: the machine
computation equals the mathematical one. -/
theorem hourBucketID64_eq {t : Int} (h : inI64 t) : hourBucketID64 t = hourBucketID t := by
  obtain ⟨h1, h2, h3⟩ := tdiv_bounds h
  unfold hourBucketID64 hourBucketID microPerHour
  simp only [wrap64_id h1, wrap64_id h2, wrap64_id h3]

theorem hourBucketID_inI64 (t : Int) (h : inI64 t) : inI64 (hourBucketID t) := by
  rw [hourBucketID_floor]; unfold inI64 at *; omega

/-- the hour start computed by `hourIDToTime` does not overflow unless `t` lies in the (partial)
lowest hour of the int64 range -/
theorem hourStart_no_wrap (t : Int) (h : inI64 t) (hlo : -(2 ^ 63) + 3600000000 ≤ t) :
    hourStartMicro64 (hourBucketID t) = hourBucketID t * 3600000000 := by
  rw [hourBucketID_floor]
  unfold inI64 at h
  exact wrap64_id (by unfold inI64 microPerHour; omega)

def mphBV : BitVec 64 := 3600000000#64

/-- `HourBucketID` on machine words: `sdiv`/`srem` are Go's int64 `/` and `%`. -/
def hourBucketBV (t : BitVec 64) : BitVec 64 :=
  let h := t.sdiv mphBV
  if t.slt 0#64 ∧ t.srem mphBV ≠ 0#64 then h - 1#64 else h

theorem mphBV_toInt : mphBV.toInt = 3600000000 := by decide

theorem toInt_inI64 (t : BitVec 64) : inI64 t.toInt := by
  have h1 := BitVec.le_toInt t
  have h2 := @BitVec.toInt_lt 64 t
  unfold inI64
  simp at h1 h2
  omega

theorem hourBucketBV_floor (t : BitVec 64) : (hourBucketBV t).toInt = t.toInt / 3600000000 := by
  have hx := toInt_inI64 t
  obtain ⟨b1, b2, b3⟩ := tdiv_bounds hx
  have hz : (0#64).toInt = 0 := by decide
  have h1 : (1#64).toInt = 1 := by decide
  have hdiv : (t.sdiv mphBV).toInt = Int.tdiv t.toInt 3600000000 := by
    rw [BitVec.toInt_sdiv, mphBV_toInt]; exact wrap64_id b1
  have hs : t.slt 0#64 = true ↔ t.toInt < 0 := by
    rw [BitVec.slt_eq_decide]; simp [hz]
  have hr : t.srem mphBV ≠ 0#64 ↔ Int.tmod t.toInt 3600000000 ≠ 0 := by
    rw [Ne, ← BitVec.toInt_inj, BitVec.toInt_srem, mphBV_toInt, hz]
  rw [← hourBucketID_floor]
  unfold hourBucketBV hourBucketID microPerHour
  simp only [hs, hr]
  split
  · rw [BitVec.toInt_sub, hdiv, h1]; exact wrap64_id b3
  · exact hdiv

end Arc.C03
