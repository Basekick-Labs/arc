import Arc.Proofs.C03.Task
/-! The conservation invariant of the ArrowBuffer LTS and its preservation. Every event takes a
buffer, task or file out of one container of the state and puts it (or what a flush makes of it)
into another: taking out of and putting into each container is proved once, and an event is one
of each. -/
namespace Arc.C03

/-- a row tagged with its buffer key `database/measurement` -/
abbrev KRow := String × Row

def krows (k : String) (b : Batch) : List KRow := b.rows.map (fun r => (k, r))
def groupRows (k : String) (l : List TBatch) : List KRow := l.flatMap (fun tb => krows k tb.b)
def taskRows (t : Task) : List KRow := groupRows t.key t.batches
def pfileRows (f : PFile) : List KRow := krows f.key f.batch

def bufRows (s : St) : List KRow := s.bufs.flatMap (fun p => groupRows p.1 p.2)
def heldRows (s : St) : List KRow := s.held.flatMap taskRows
def queueRows (s : St) : List KRow := s.queue.flatMap taskRows
def inflightRows (s : St) : List KRow := s.inflight.flatMap pfileRows
def storedRows (s : St) : List KRow := s.files.flatMap (fun q => pfileRows q.2)
def droppedRows (s : St) : List KRow := s.dropped.flatMap taskRows
def failedRows (s : St) : List KRow := s.failed.flatMap taskRows
def acceptedRows (s : St) : List KRow := s.accepted.flatMap (fun p => krows p.1 p.2)

/-- the containers of a state, by position -/
def parts (s : St) : List (List KRow) :=
  [bufRows s, heldRows s, queueRows s, inflightRows s, storedRows s, droppedRows s, failedRows s]

/-- everything the buffer still holds or has stored (or has given up on: `dropped`, C07's domain) -/
def allRows (s : St) : List KRow := (parts s).flatten

structure PFileOK (f : PFile) : Prop where
  inHour : ∀ r ∈ f.batch.rows, hourBucketID r.time = f.hour
  sorted : (f.batch.rows.map (·.time)).Pairwise (· ≤ ·)

/-- `P` is what an event has in hand between taking out and putting in; the invariant of reachable
states is `Inv []`. -/
structure Inv (P : List KRow) (s : St) : Prop where
  cons     : (acceptedRows s).Perm (P ++ allRows s)
  keys     : (s.bufs.map (·.1)).Nodup
  bufWF    : ∀ p ∈ s.bufs, GoodGroup p.2
  heldWF   : ∀ t ∈ s.held, GoodGroup t.batches
  queueWF  : ∀ t ∈ s.queue, GoodGroup t.batches
  inflOK   : ∀ f ∈ s.inflight, PFileOK f
  filesOK  : ∀ q ∈ s.files, PFileOK q.2 ∧ q.1.key = q.2.key ∧ q.1.hour = q.2.hour
  failedE  : failedRows s = []

theorem eraseKey_nodup (k : String) {m : List (String × List TBatch)} (h : (m.map (·.1)).Nodup) :
    ((eraseKey k m).map (·.1)).Nodup :=
  h.sublist (List.filter_sublist.map _)

theorem not_mem_eraseKey (k : String) (m : List (String × List TBatch)) :
    k ∉ (eraseKey k m).map (·.1) := by
  simp [eraseKey]

theorem eraseKey_of_lookup_none {k : String} {m : List (String × List TBatch)}
    (h : m.lookup k = none) : eraseKey k m = m :=
  List.filter_eq_self.mpr fun p hp => by simpa [bne_comm] using List.lookup_eq_none_iff.mp h p hp

/-- with unique keys, taking buffer `k` out removes exactly the entry `lookup` finds -/
theorem flatMap_eraseKey {β : Type} {k : String} {m : List (String × List TBatch)} {l : List TBatch}
    (g : String × List TBatch → List β) (hn : (m.map (·.1)).Nodup) (h : m.lookup k = some l) :
    (m.flatMap g).Perm (g (k, l) ++ (eraseKey k m).flatMap g) := by
  obtain ⟨l₁, l₂, rfl, h₁⟩ := List.lookup_eq_some_iff.mp h
  rw [List.map_append, List.map_cons] at hn
  have hk : k ∉ l₂.map (·.1) := (List.nodup_cons.mp (List.nodup_append.mp hn).2.1).1
  have e₁ : eraseKey k l₁ = l₁ := eraseKey_of_lookup_none (List.lookup_eq_none_iff.mpr h₁)
  have e₂ : eraseKey k l₂ = l₂ := eraseKey_of_lookup_none (lookup_none_iff.mpr hk)
  simp only [eraseKey, List.filter_append, List.filter_cons, bne_self_eq_false] at e₁ e₂ ⊢
  rw [e₁, e₂, List.flatMap_append, List.flatMap_append, List.flatMap_cons]
  exact List.perm_append_comm_assoc ..

/-- an event that changes container `k` only keeps conservation if the rows `A` it accepts, what
is in hand and that container together keep their rows -/
theorem Inv.cons_of {P P' X X' : List KRow} {s s' : St} (hI : Inv P s) (A : List KRow) (k : Nat)
    (h : ((A ++ P) ++ X).Perm (P' ++ X')) (hk : (parts s)[k]? = some X := by rfl)
    (hs : parts s' = (parts s).set k X' := by rfl)
    (hacc : (acceptedRows s').Perm (A ++ acceptedRows s) := by exact .refl _) :
    (acceptedRows s').Perm (P' ++ allRows s') := by
  have := hI.cons.append_left A
  rw [← List.append_assoc] at this
  rw [allRows, hs]
  exact hacc.trans (this.trans (flatten_set_perm hk h))

variable {s : St} {t : Task}

theorem Inv.takeBuf {k : String} {l : List TBatch} (hI : Inv [] s) (h : s.bufs.lookup k = some l) :
    Inv (groupRows k l) { s with bufs := eraseKey k s.bufs } ∧ GoodGroup l :=
  ⟨{ hI with
      cons := hI.cons_of [] 0 (flatMap_eraseKey _ hI.keys h)
      keys := eraseKey_nodup k hI.keys
      bufWF := fun p hp => hI.bufWF p (List.mem_filter.mp hp).1 },
    hI.bufWF _ (lookup_mem h)⟩

theorem Inv.takeHeld {i : Nat} (hI : Inv [] s) (h : s.held[i]? = some t) :
    Inv (taskRows t) { s with held := s.held.eraseIdx i } ∧ GoodGroup t.batches :=
  ⟨{ hI with
      cons := hI.cons_of [] 1 (flatMap_eraseIdx taskRows h)
      heldWF := fun x hx => hI.heldWF x (List.mem_of_mem_eraseIdx hx) },
    hI.heldWF t (List.mem_of_getElem? h)⟩

theorem Inv.takeQueued {i : Nat} (hI : Inv [] s) (h : s.queue[i]? = some t) :
    Inv (taskRows t) { s with queue := s.queue.eraseIdx i } ∧ GoodGroup t.batches :=
  ⟨{ hI with
      cons := hI.cons_of [] 2 (flatMap_eraseIdx taskRows h)
      queueWF := fun x hx => hI.queueWF x (List.mem_of_mem_eraseIdx hx) },
    hI.queueWF t (List.mem_of_getElem? h)⟩

theorem Inv.takeInflight {j : Nat} {f : PFile} (hI : Inv [] s) (h : s.inflight[j]? = some f) :
    Inv (pfileRows f) { s with inflight := s.inflight.eraseIdx j } ∧ PFileOK f :=
  ⟨{ hI with
      cons := hI.cons_of [] 3 (flatMap_eraseIdx pfileRows h)
      inflOK := fun x hx => hI.inflOK x (List.mem_of_mem_eraseIdx hx) },
    hI.inflOK f (List.mem_of_getElem? h)⟩

theorem Inv.toHeld (hI : Inv (taskRows t) s) (hg : GoodGroup t.batches) :
    Inv [] { s with held := s.held ++ [t] } :=
  { hI with
    cons := hI.cons_of [] 1 (perm_flatMap_snoc s.held t taskRows)
    heldWF := forall_mem_snoc hI.heldWF hg }

theorem Inv.toQueue (hI : Inv (taskRows t) s) (hg : GoodGroup t.batches) :
    Inv [] { s with queue := s.queue ++ [t] } :=
  { hI with
    cons := hI.cons_of [] 2 (perm_flatMap_snoc s.queue t taskRows)
    queueWF := forall_mem_snoc hI.queueWF hg }

theorem Inv.toDropped (hI : Inv (taskRows t) s) : Inv [] { s with dropped := s.dropped ++ [t] } :=
  { hI with cons := hI.cons_of [] 5 (perm_flatMap_snoc s.dropped t taskRows) }

/-- a file stored under a path not in use (`freshAt`) replaces nothing -/
theorem Inv.toFiles {f : PFile} {name : String} (hI : Inv (pfileRows f) s) (hf : PFileOK f)
    (hfresh : s.files.any (fun q => decide (q.1 = (⟨f.key, f.hour, name⟩ : Path))) = false) :
    Inv [] { s with files := putFile ⟨f.key, f.hour, name⟩ f s.files } := by
  have hfr : putFile ⟨f.key, f.hour, name⟩ f s.files = (⟨f.key, f.hour, name⟩, f) :: s.files :=
    congrArg _ (List.filter_eq_self.mpr fun q hq => by simpa using List.any_eq_false.mp hfresh q hq)
  rw [hfr]
  exact { hI with
    cons := hI.cons_of [] 4 (.refl _)
    filesOK := List.forall_mem_cons.mpr ⟨⟨hf, rfl, rfl⟩, hI.filesOK⟩ }

theorem goodGroup_snoc {l : List TBatch} {tb : TBatch} (h : GoodGroup l) (hw : wfBatch tb.b = true)
    (hs : sigOK l tb.b = true) : GoodGroup (l ++ [tb]) := by
  have key : ∀ x ∈ l, signature x.b = signature tb.b := by
    intro x hx
    cases l with
    | nil => simp at hx
    | cons y rest =>
      simp only [sigOK, decide_eq_true_eq] at hs
      rw [h.sig x hx y (by simp), hs]
  refine ⟨forall_mem_snoc h.wf hw, forall_mem_snoc (fun x hx => forall_mem_snoc (h.sig x hx) (key x hx)) ?_⟩
  exact forall_mem_snoc (fun y hy => (key y hy).symm) rfl

/-- a write appends to buffer `k` (taken out as `l`, empty if there was none) and is recorded -/
theorem Inv.write {k : String} {l : List TBatch} {tb : TBatch} (hI : Inv (groupRows k l) s)
    (hk : k ∉ s.bufs.map (·.1)) (hg : GoodGroup (l ++ [tb])) :
    Inv [] { s with bufs := (k, l ++ [tb]) :: s.bufs, accepted := s.accepted ++ [(k, tb.b)] } :=
  { hI with
    cons := hI.cons_of (krows k tb.b) 0 ((perm_flatMap_snoc l tb fun tb => krows k tb.b).append_right _) rfl rfl
      (perm_flatMap_snoc s.accepted (k, tb.b) fun p => krows p.1 p.2).symm
    keys := List.nodup_cons.mpr ⟨hk, hI.keys⟩
    bufWF := List.forall_mem_cons.mpr ⟨hg, hI.bufWF⟩ }

/-- the flush of the task in hand: its rows go to the new in-flight files, or it had none -/
theorem Inv.startFlush (hI : Inv (taskRows t) s) (hg : GoodGroup t.batches) :
    Inv [] (startFlush s t) := by
  obtain ⟨hok, herr⟩ := flushTask_spec hg
  have hrows : taskRows t = ((t.batches.map TBatch.b).flatMap Batch.rows).map (fun r => (t.key, r)) := by
    simp only [taskRows, groupRows, krows, List.flatMap_map, List.map_flatMap]
  unfold Arc.C03.startFlush
  cases hf : flushTask (t.batches.map TBatch.b) with
  | ok fs =>
    obtain ⟨h1, h2, _⟩ := hok fs hf
    have hnew : (fs.map fun f => (⟨t.key, f.hour, f.batch⟩ : PFile)).flatMap pfileRows =
        (fs.flatMap fun f => f.batch.rows).map fun r => (t.key, r) := by
      simp only [pfileRows, krows, List.flatMap_map, List.map_flatMap]
    have h : (taskRows t ++ inflightRows s).Perm
        ((s.inflight ++ fs.map fun f => (⟨t.key, f.hour, f.batch⟩ : PFile)).flatMap pfileRows) := by
      rw [List.flatMap_append, hnew, hrows]
      exact List.perm_append_comm.trans ((h1.map _).symm.append_left _)
    exact { hI with
      cons := hI.cons_of [] 3 h
      inflOK := List.forall_mem_append.mpr
        ⟨hI.inflOK, List.forall_mem_map.mpr fun o ho => ⟨(h2 o ho).inHour, (h2 o ho).sorted⟩⟩ }
  | error e =>
    have htz : taskRows t = [] := by rw [hrows, herr e hf]; rfl
    exact { hI with
      cons := hI.cons_of [] 6 (perm_flatMap_snoc s.failed t taskRows)
      failedE := by rw [failedRows, flatMap_snoc, htz]; simpa [failedRows] using hI.failedE }

theorem step_inv {maxBuf : Nat} {s s' : St} {e : Ev} (hI : Inv [] s)
    (hs : step maxBuf s e = some s') (hfresh : freshAt s e = true) : Inv [] s' := by
  cases e <;> simp only [step] at hs
  case write k tb =>
    split at hs
    · cases hs
    rename_i hw
    simp only [Bool.not_eq_true, Bool.not_eq_false'] at hw
    split at hs
    · rename_i hnone
      cases hs
      have h0 : Inv (groupRows k []) { s with bufs := eraseKey k s.bufs } := by
        rw [eraseKey_of_lookup_none hnone]; exact hI
      exact h0.write (not_mem_eraseKey k _) (goodGroup_snoc ⟨nofun, nofun⟩ hw rfl)
    · rename_i l hsome
      split at hs <;> cases hs
      rename_i hsig
      obtain ⟨h, hg⟩ := hI.takeBuf hsome
      exact h.write (not_mem_eraseKey k _) (goodGroup_snoc hg hw hsig)
  case extract k =>
    split at hs
    · cases hs
    rename_i l hsome
    split at hs <;> cases hs
    obtain ⟨h, hg⟩ := hI.takeBuf hsome
    exact h.toHeld (t := ⟨k, l⟩) hg
  case enqueue i =>
    split at hs <;> cases hs
    rename_i t ht
    obtain ⟨h, hg⟩ := hI.takeHeld ht
    exact h.toQueue hg
  case enqFail i =>
    split at hs <;> cases hs
    rename_i t ht
    exact (hI.takeHeld ht).1.toDropped
  case take i =>
    split at hs <;> cases hs
    rename_i t ht
    obtain ⟨h, hg⟩ := hI.takeQueued ht
    exact h.startFlush hg
  case syncFlush w k =>
    split at hs <;> cases hs
    rename_i l hsome
    obtain ⟨h, hg⟩ := hI.takeBuf hsome
    exact h.startFlush (t := ⟨k, l⟩) hg
  case store j name =>
    split at hs <;> cases hs
    rename_i f hf
    obtain ⟨h, hok⟩ := hI.takeInflight hf
    simp only [freshAt, hf, Bool.not_eq_true'] at hfresh
    exact h.toFiles hok hfresh
  case close =>
    cases hs
    exact { hI with }
  case dropQueued i =>
    split at hs
    · cases hs
    split at hs <;> cases hs
    rename_i t ht
    exact (hI.takeQueued ht).1.toDropped

theorem inv_init : Inv [] ({} : St) :=
  ⟨.refl _, .nil, by simp, by simp, by simp, by simp, by simp, rfl⟩

theorem run_inv {maxBuf : Nat} {es : List Ev} {s s' : St} (hI : Inv [] s)
    (hr : run maxBuf s es = some s') (hf : freshRun maxBuf s es = true) : Inv [] s' := by
  induction es generalizing s with
  | nil => cases hr; exact hI
  | cons e es ih =>
    simp only [run] at hr
    simp only [freshRun, Bool.and_eq_true] at hf
    cases hs : step maxBuf s e with
    | none => simp [hs] at hr
    | some s1 =>
      simp only [hs] at hr hf
      exact ih (step_inv hI hs hf.1) hr hf.2

end Arc.C03
