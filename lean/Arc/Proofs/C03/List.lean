import Arc.Base.Lists
/-! Facts about core lists that the C03 proofs share; nothing here mentions the model. Columns are
read by position with a default (`getD`), columns and buffers are found by name in association
lists (`lookup`), and every container of rows is a concatenation (`flatMap`, `flatten`) that is
compared up to permutation. -/
namespace Arc.C03

theorem getD_map_lt {α β : Type} {f : α → β} {l : List α} {j : Nat} (d : β) (h : j < l.length) :
    (l.map f).getD j d = f l[j] := by
  simp [List.getD_eq_getElem?_getD, h]

theorem getD_map {α β : Type} (f : α → β) (l : List α) (i : Nat) (d : α) :
    (l.map f).getD i (f d) = f (l.getD i d) := by
  simp [List.getD_eq_getElem?_getD]

theorem map_range_getD {α : Type} (l : List α) (d : α) : (List.range l.length).map (l.getD · d) = l := by
  apply List.ext_getElem (by simp)
  intro i h1 h2
  simp only [List.getElem_map, List.getElem_range]
  exact (List.getElem_eq_getD d).symm

theorem all_getD_true {W : List Bool} (h : W.all id = true) {g : Nat} (hg : g < W.length) :
    W.getD g false = true := by
  rw [← List.getElem_eq_getD (h := hg)]
  simpa using List.all_eq_true.mp h W[g] (List.getElem_mem _)

theorem lookup_map_self {β : Type} (names : List String) (f : String → β) (nm : String) :
    (names.map (fun x => (x, f x))).lookup nm = if nm ∈ names then some (f nm) else none := by
  induction names with
  | nil => simp
  | cons a rest ih =>
    simp only [List.map_cons, List.lookup_cons, List.mem_cons, ih]
    by_cases he : nm = a
    · simp [he]
    · simp [he, beq_eq_false_iff_ne.mpr he]

theorem flatMap_snoc {α β : Type} (l : List α) (x : α) (f : α → List β) :
    (l ++ [x]).flatMap f = l.flatMap f ++ f x := by simp

theorem perm_flatMap_snoc {α β : Type} (l : List α) (x : α) (f : α → List β) :
    (f x ++ l.flatMap f).Perm ((l ++ [x]).flatMap f) :=
  flatMap_snoc l x f ▸ List.perm_append_comm

theorem perm_flatMap_congr {α β : Type} {l : List α} {f g : α → List β}
    (h : ∀ a ∈ l, (f a).Perm (g a)) : (l.flatMap f).Perm (l.flatMap g) := by
  induction l with
  | nil => simp
  | cons a rest ih =>
    simp only [List.flatMap_cons]
    exact (h a (by simp)).append (ih (fun x hx => h x (by simp [hx])))

theorem flatMap_eraseIdx {α β : Type} {l : List α} {i : Nat} {t : α} (f : α → List β)
    (h : l[i]? = some t) : (l.flatMap f).Perm (f t ++ (l.eraseIdx i).flatMap f) := by
  induction l generalizing i with
  | nil => simp at h
  | cons a rest ih =>
    cases i with
    | zero => simp at h; subst h; simp
    | succ i =>
      simp only [List.getElem?_cons_succ] at h
      simp only [List.flatMap_cons, List.eraseIdx_cons_succ]
      exact ((ih h).append_left (f a)).trans (List.perm_append_comm_assoc ..)

/-- replacing one of several lists by another with the same elements, up to what is held aside
before (`P`) and after (`P'`) -/
theorem flatten_set_perm {α : Type} {l : List (List α)} {k : Nat} {X X' P P' : List α}
    (hk : l[k]? = some X) (h : (P ++ X).Perm (P' ++ X')) :
    (P ++ l.flatten).Perm (P' ++ (l.set k X').flatten) := by
  induction l generalizing k with
  | nil => simp at hk
  | cons Y l ih =>
    cases k with
    | zero =>
      simp only [List.getElem?_cons_zero, Option.some.injEq] at hk
      subst hk
      simp only [List.set_cons_zero, List.flatten_cons, ← List.append_assoc]
      exact h.append_right _
    | succ k =>
      simp only [List.set_cons_succ, List.flatten_cons]
      exact (List.perm_append_comm_assoc ..).trans
        (((ih hk).append_left Y).trans (List.perm_append_comm_assoc ..))

theorem zipWith_flatMap {α β γ δ : Type} (f : β → γ → δ) {A : α → List β} {B : α → List γ} {l : List α}
    (h : ∀ a ∈ l, (A a).length = (B a).length) :
    List.zipWith f (l.flatMap A) (l.flatMap B) = l.flatMap fun a => List.zipWith f (A a) (B a) := by
  induction l with
  | nil => rfl
  | cons a l ih =>
    simp only [List.flatMap_cons]
    rw [List.zipWith_append (h a (by simp)), ih fun x hx => h x (by simp [hx])]

end Arc.C03
