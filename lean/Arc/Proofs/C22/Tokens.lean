import Arc.Model.C22
import Arc.Proofs.C22.Parents
/-! Token part of the FSM (`tokens`, `tokensByName`, `tokensByPrefix`): invariant `TokInv`, its
preservation by every command at a fresh log index, and `restore` = identity on the token part. -/
namespace Arc.C22
open SMap

/-- strictly increasing id lists: the model of the `tokensByPrefix` slices -/
def SSorted (l : List Int) : Prop := l.Pairwise (· < ·)

theorem mem_msIns (a x : Int) (l : List Int) : x ∈ msIns a l ↔ x = a ∨ x ∈ l := by
  induction l with
  | nil => simp [msIns]
  | cons y t ih =>
    unfold msIns
    by_cases h : a ≤ y
    · rw [if_pos h, List.mem_cons]
    · rw [if_neg h, List.mem_cons, ih, List.mem_cons]; exact or_left_comm

theorem ssorted_msIns {a : Int} {l : List Int} (h : SSorted l) (hn : a ∉ l) : SSorted (msIns a l) := by
  induction l with
  | nil => simp [msIns, SSorted]
  | cons y t ih =>
    have ⟨hy, ht⟩ := List.pairwise_cons.mp h
    unfold msIns
    by_cases hle : a ≤ y
    · simp only [hle, if_true]
      have hne : a ≠ y := fun e => hn (by rw [e]; exact List.mem_cons_self)
      have hlt : a < y := by omega
      refine List.pairwise_cons.mpr ⟨?_, h⟩
      intro x hx
      rcases List.mem_cons.mp hx with hx | hx
      · rw [hx]; exact hlt
      · have := hy x hx; omega
    · simp only [hle, if_false]
      refine List.pairwise_cons.mpr ⟨?_, ih ht (fun hh => hn (List.mem_cons_of_mem _ hh))⟩
      intro x hx
      rcases (mem_msIns a x t).mp hx with hx | hx
      · rw [hx]; omega
      · exact hy x hx

/-- the id list stored under a prefix (empty when the key is absent) -/
def pl (m : SMap String (List Int)) (p : String) : List Int := (m.get? p).getD []

theorem pl_prefixAdd (m : SMap String (List Int)) (p q : String) (id : Int) :
    pl (prefixAdd m p id) q = if q = p then msIns id (pl m p) else pl m q := by
  unfold pl prefixAdd
  rw [get?_ins]
  by_cases h : q = p <;> simp [h]

theorem pl_prefixDel (m : SMap String (List Int)) (p q : String) (id : Int) :
    pl (prefixDel m p id) q = if q = p then (pl m p).filter (fun x => x != id) else pl m q := by
  unfold prefixDel pl
  cases hg : m.get? p with
  | none =>
    by_cases h : q = p
    · rw [if_pos h, h, hg]; rfl
    · rw [if_neg h]
  | some ids =>
    dsimp only
    by_cases hem : (ids.filter (fun x => x != id)).isEmpty = true
    · rw [if_pos hem, get?_del]
      by_cases h : q = p
      · rw [if_pos h, if_pos h]; exact (List.isEmpty_iff.mp hem).symm
      · rw [if_neg h, if_neg h]
    · rw [if_neg hem, get?_ins]
      by_cases h : q = p
      · rw [if_pos h, if_pos h]; rfl
      · rw [if_neg h, if_neg h]

/-- stored slices are never empty (a key whose slice empties is deleted) -/
def NoEmptySlice (m : SMap String (List Int)) : Prop := ∀ p l, m.get? p = some l → l ≠ []

theorem msIns_ne_nil (a : Int) (l : List Int) : msIns a l ≠ [] := by
  cases l with
  | nil => simp [msIns]
  | cons y t => unfold msIns; split <;> simp

theorem noEmpty_prefixAdd {m : SMap String (List Int)} (h : NoEmptySlice m) (p : String) (id : Int) :
    NoEmptySlice (prefixAdd m p id) :=
  forall_get?_ins (msIns_ne_nil _ _) fun q l hq _ => h q l hq

theorem noEmpty_prefixDel {m : SMap String (List Int)} (h : NoEmptySlice m) (p : String) (id : Int) :
    NoEmptySlice (prefixDel m p id) := by
  unfold prefixDel
  cases m.get? p with
  | none => exact h
  | some ids =>
    dsimp only
    by_cases hem : (ids.filter (fun x => x != id)).isEmpty = true
    · rw [if_pos hem]; exact forall_get?_del fun q l hq _ => h q l hq
    · rw [if_neg hem]; exact forall_get?_ins (fun e => hem (by rw [e]; rfl)) fun q l hq _ => h q l hq

theorem sorted_prefixDel {m : SMap String (List Int)} (h : Sorted m) (p : String) (id : Int) :
    Sorted (prefixDel m p id) := by
  unfold prefixDel
  cases m.get? p with
  | none => exact h
  | some ids =>
    simp only
    split
    · exact sorted_del h
    · exact sorted_ins h

/-- `bp` is, in canonical form, the by-prefix index of the tokens the lookup `g` finds -/
structure PfxOk (g : Int → Option TokenEntry) (bp : SMap String (List Int)) : Prop where
  sp : Sorted bp
  pne : NoEmptySlice bp
  pso : ∀ p, SSorted (pl bp p)
  pm : ∀ p id, id ∈ pl bp p ↔ ∃ e, g id = some e ∧ e.pfx = p

/-- … and `g` determines it -/
theorem PfxOk.unique {g : Int → Option TokenEntry} {b1 b2 : SMap String (List Int)} (h1 : PfxOk g b1)
    (h2 : PfxOk g b2) : b1 = b2 :=
  ext_getD h1.sp h2.sp h1.pne h2.pne fun p =>
    eq_of_pairwise_of_mem_iff Int.lt_irrefl Int.lt_trans (h1.pso p) (h2.pso p) fun x =>
      (h1.pm p x).trans (h2.pm p x).symm

/-- a token under a fresh id comes in -/
theorem PfxOk.add {g g' : Int → Option TokenEntry} {bp : SMap String (List Int)} (h : PfxOk g bp)
    {id : Int} {e : TokenEntry} (hfresh : g id = none)
    (hg' : ∀ k, g' k = if k = id then some e else g k) : PfxOk g' (prefixAdd bp e.pfx id) := by
  have hnot : ∀ p, id ∉ pl bp p := fun p hm => by
    obtain ⟨x, hx, _⟩ := (h.pm p id).mp hm; rw [hfresh] at hx; cases hx
  refine ⟨sorted_ins h.sp, noEmpty_prefixAdd h.pne _ _, fun p => ?_, fun p k => ?_⟩
  · rw [pl_prefixAdd]
    by_cases hp : p = e.pfx
    · rw [if_pos hp]; exact ssorted_msIns (h.pso _) (hnot _)
    · rw [if_neg hp]; exact h.pso p
  · rw [pl_prefixAdd, hg']
    by_cases hk : k = id <;> by_cases hp : p = e.pfx <;>
      simp only [hk, hp, if_true, if_false, mem_msIns, true_or, false_or, Option.some.injEq]
    · exact ⟨fun _ => ⟨e, rfl, rfl⟩, fun _ => trivial⟩
    · exact ⟨fun hm => absurd hm (hnot p), fun ⟨x, hx, hxp⟩ => absurd (hx ▸ hxp).symm hp⟩
    · exact h.pm _ _
    · exact h.pm _ _

/-- the token under `id` goes -/
theorem PfxOk.del {g g' : Int → Option TokenEntry} {bp : SMap String (List Int)} (h : PfxOk g bp)
    {id : Int} {e : TokenEntry} (hg : g id = some e)
    (hg' : ∀ k, g' k = if k = id then none else g k) : PfxOk g' (prefixDel bp e.pfx id) := by
  refine ⟨sorted_prefixDel h.sp _ _, noEmpty_prefixDel h.pne _ _, fun p => ?_, fun p k => ?_⟩
  · rw [pl_prefixDel]
    by_cases hp : p = e.pfx
    · rw [if_pos hp]; exact List.Pairwise.filter _ (h.pso _)
    · rw [if_neg hp]; exact h.pso p
  · rw [pl_prefixDel, hg']
    by_cases hk : k = id <;> by_cases hp : p = e.pfx <;>
      simp only [hk, hp, if_true, if_false, List.mem_filter, bne_iff_ne, ne_eq]
    · exact ⟨fun hh => absurd trivial hh.2, fun ⟨_, hx, _⟩ => nomatch hx⟩
    · refine ⟨fun hm => ?_, fun ⟨_, hx, _⟩ => nomatch hx⟩
      obtain ⟨x, hx, hxp⟩ := (h.pm p id).mp hm
      rw [hg] at hx; cases hx; exact absurd hxp.symm hp
    · exact ⟨fun hh => (h.pm _ _).mp hh.1, fun hh => ⟨(h.pm _ _).mpr hh, not_false⟩⟩
    · exact h.pm _ _

structure TokInv (a : AuthSt) (n : Int) : Prop where
  st : Sorted a.tokens
  sn : Sorted a.byName
  sp : Sorted a.byPrefix
  key : ∀ k e, a.tokens.get? k = some e → e.id = k ∧ k < n
  valid : ∀ k e, a.tokens.get? k = some e → validToken e = true
  n1 : ∀ nm id, a.byName.get? nm = some id → ∃ e, a.tokens.get? id = some e ∧ e.name = nm
  n2 : ∀ id e, a.tokens.get? id = some e → a.byName.get? e.name = some id
  pne : NoEmptySlice a.byPrefix
  pso : ∀ p, SSorted (pl a.byPrefix p)
  pm : ∀ p id, id ∈ pl a.byPrefix p ↔ ∃ e, a.tokens.get? id = some e ∧ e.pfx = p

theorem tokInv_empty (n : Int) : TokInv ({} : AuthSt) n :=
  ⟨sorted_nil, sorted_nil, sorted_nil, fun k e h => by simp at h, fun k e h => by simp at h,
   fun nm id h => by simp at h, fun id e h => by simp at h, fun p l h => by simp at h,
   fun p => by simp [pl, SSorted], fun p id => by simp [pl]⟩

theorem TokInv.mono {a : AuthSt} {n m : Int} (h : TokInv a n) (hnm : n ≤ m) : TokInv a m :=
  { h with key := fun k e hk => ⟨(h.key k e hk).1, by have := (h.key k e hk).2; omega⟩ }

theorem TokInv.congr {a b : AuthSt} {n : Int} (h : TokInv a n) (e : tokPart b = tokPart a) : TokInv b n := by
  cases a; cases b; cases e
  exact ⟨h.st, h.sn, h.sp, h.key, h.valid, h.n1, h.n2, h.pne, h.pso, h.pm⟩

theorem TokInv.pfx {a : AuthSt} {n : Int} (h : TokInv a n) : PfxOk a.tokens.get? a.byPrefix :=
  ⟨h.sp, h.pne, h.pso, h.pm⟩

theorem validToken_iff (e : TokenEntry) :
    validToken e = true ↔ validTokenName e.name = true ∧ validHashPfx e.hash e.pfx = true ∧ validPerms e.perms = true := by
  simp only [validToken, Bool.and_eq_true, and_assoc]

theorem tokInv_create {a : AuthSt} {n : Int} (h : TokInv a n) (i : Nat) (hi : n ≤ (i : Int)) (t : TokenEntry) :
    TokInv (applyCreateToken a i t).1 ((i : Int) + 1) := by
  refine applyCreateToken_elim (P := fun b => TokInv b _) i t (h.mono (by omega)) fun hv hex => ?_
  have hnone : a.byName.get? t.name = none := Option.not_isSome_iff_eq_none.mp hex
  -- the log index is fresh: every stored id is below the bound
  have hlt : ∀ k e, a.tokens.get? k = some e → k ≠ (i : Int) := fun k e hk hki => by
    have := (h.key k e hk).2; omega
  have hfresh : a.tokens.get? (i : Int) = none :=
    Option.eq_none_iff_forall_ne_some.mpr fun v hv => hlt _ v hv rfl
  have hp := h.pfx.add (e := { t with id := i, lsn := i, enabled := true }) hfresh fun k => get?_ins ..
  refine ⟨sorted_ins h.st, sorted_ins h.sn, hp.sp,
    forall_get?_ins ⟨rfl, by omega⟩ fun k e hk _ => ⟨(h.key k e hk).1, by have := (h.key k e hk).2; omega⟩,
    forall_get?_ins ((validToken_iff _).mpr ((validToken_iff t).mp hv)) fun k e hk _ => h.valid k e hk,
    forall_get?_ins ⟨_, get?_ins_self .., rfl⟩ fun nm id hnm _ => ?_,
    forall_get?_ins (get?_ins_self ..) fun id e he _ => ?_, hp.pne, hp.pso, hp.pm⟩
  · obtain ⟨e, he, hen⟩ := h.n1 nm id hnm
    exact ⟨e, (get?_ins_ne (hlt id e he)).trans he, hen⟩
  · have := h.n2 id e he
    rw [get?_ins_ne]; exact this
    intro e2; rw [e2, hnone] at this; cases this

/-- replacing the record of an existing token by one with the same id, name and prefix -/
theorem tokInv_modify {a : AuthSt} {n : Int} (h : TokInv a n) (id : Int) (e e' : TokenEntry)
    (hg : a.tokens.get? id = some e) (hid : e'.id = e.id) (hname : e'.name = e.name)
    (hpfx : e'.pfx = e.pfx) (hv : validToken e' = true) :
    TokInv { a with tokens := a.tokens.ins id e' } n :=
  ⟨sorted_ins h.st, h.sn, h.sp,
   forall_get?_ins (hid ▸ h.key id e hg) fun k x hk _ => h.key k x hk,
   forall_get?_ins hv fun k x hk _ => h.valid k x hk,
   fun nm k hnm => (exists_get?_ins_congr hg hname k nm).mpr (h.n1 nm k hnm),
   forall_get?_ins (hname ▸ h.n2 id e hg) fun k x hk _ => h.n2 k x hk,
   h.pne, h.pso, fun p k => (h.pm p k).trans (exists_get?_ins_congr hg hpfx k p).symm⟩

/-- renaming: the record at `id` is replaced by one with the same id and prefix and a new name that
no OTHER token holds; the name index moves the binding -/
theorem tokInv_rename {a : AuthSt} {n : Int} (h : TokInv a n) (id : Int) (e e' : TokenEntry)
    (hg : a.tokens.get? id = some e) (hid : e'.id = e.id) (hpfx : e'.pfx = e.pfx)
    (hv : validToken e' = true) (hfree : ∀ k, a.byName.get? e'.name = some k → k = id) :
    TokInv { a with tokens := a.tokens.ins id e', byName := (a.byName.del e.name).ins e'.name e.id } n := by
  have hkey := h.key id e hg
  refine ⟨sorted_ins h.st, sorted_ins (sorted_del h.sn), h.sp,
    forall_get?_ins (hid ▸ hkey) fun k x hk _ => h.key k x hk,
    forall_get?_ins hv fun k x hk _ => h.valid k x hk,
    forall_get?_ins ⟨e', hkey.1 ▸ get?_ins_self .., rfl⟩
      (forall_get?_del fun nm k hnm hn2 _ => ?_),
    forall_get?_ins (hkey.1 ▸ get?_ins_self ..) fun k x hk hki => ?_,
    h.pne, h.pso, fun p k => (h.pm p k).trans (exists_get?_ins_congr hg hpfx k p).symm⟩
  · obtain ⟨x, hx, hxn⟩ := h.n1 nm k hnm
    have hki : k ≠ id := fun e2 => by rw [e2, hg] at hx; cases hx; exact hn2 hxn.symm
    exact ⟨x, (get?_ins_ne hki).trans hx, hxn⟩
  · have hx := h.n2 k x hk
    have h1 : x.name ≠ e'.name := fun e2 => hki (hfree k (e2 ▸ hx))
    have h2 : x.name ≠ e.name := fun e2 => by
      rw [e2, h.n2 id e hg] at hx; exact hki (Option.some.inj hx).symm
    rw [get?_ins_ne h1, get?_del_ne h2]; exact hx

theorem tokInv_update {a : AuthSt} {n : Int} (h : TokInv a n) (i : Nat) (id : Int)
    (name desc perms : String) (expires : Int) (changed : List String) :
    TokInv (applyUpdateToken a i id name desc perms expires changed).1 n := by
  refine applyUpdateToken_elim (P := fun b => TokInv b n) i id name desc perms expires changed h
    fun e hg hnv hpv hrej => ?_
  have hve := (validToken_iff e).mp (h.valid id e hg)
  have hv' : ∀ nm, validTokenName nm = true →
      validToken (updTok e nm desc perms expires changed i) = true := by
    intro nm hnm
    refine (validToken_iff _).mpr ⟨hnm, hve.2.1, ?_⟩
    show validPerms (if changed.contains "permissions" = true then perms else e.perms) = true
    cases hc : changed.contains "permissions" with
    | true => rw [hc, Bool.true_and] at hpv; simpa using hpv
    | false => exact hve.2.2
  cases hcn : changed.contains "name" with
  | true =>
    -- the name index moves e.name ↦ name
    exact tokInv_rename h id e (updTok e name desc perms expires changed i) hg rfl rfl
      (hv' name (by rw [hcn, Bool.true_and] at hnv; simpa using hnv))
      fun k (hk : a.byName.get? name = some k) => by
        rw [hcn, Bool.true_and, nameTaken, hk] at hrej; simpa using hrej
  | false =>
    exact tokInv_modify h id e (updTok e e.name desc perms expires changed i) hg rfl rfl rfl (hv' e.name hve.1)

theorem tokInv_revoke {a : AuthSt} {n : Int} (h : TokInv a n) (i : Nat) (id : Int) :
    TokInv (applyRevokeToken a i id).1 n :=
  applyRevokeToken_elim (P := fun b => TokInv b n) i id h fun e hg =>
    tokInv_modify h id e _ hg rfl rfl rfl ((validToken_iff _).mpr ((validToken_iff e).mp (h.valid id e hg)))

theorem tokInv_rotate {a : AuthSt} {n : Int} (h : TokInv a n) (i : Nat) (id : Int) (hash pfx : String) :
    TokInv (applyRotateToken a i id hash pfx).1 n := by
  refine applyRotateToken_elim (P := fun b => TokInv b n) i id hash pfx h fun e hg hvp => ?_
  have hve := (validToken_iff e).mp (h.valid id e hg)
  have hv' : validToken { e with hash := hash, pfx := pfx, lsn := i } = true :=
    (validToken_iff _).mpr ⟨hve.1, hvp, hve.2.2⟩
  by_cases hsame : e.pfx = pfx
  · rw [if_neg (not_not_intro hsame)]
    exact tokInv_modify h id e _ hg rfl rfl hsame.symm hv'
  · rw [if_pos hsame]
    -- the token leaves the index under its old prefix and comes in again under the new one
    have hp := (h.pfx.del hg fun _ => rfl).add (e := { e with hash := hash, pfx := pfx, lsn := i })
      (g' := (a.tokens.ins id { e with hash := hash, pfx := pfx, lsn := i }).get?) (if_pos rfl) fun k => by
        rw [get?_ins]; by_cases hk : k = id <;> simp only [hk, if_true, if_false]
    exact ⟨sorted_ins h.st, h.sn, hp.sp,
      forall_get?_ins (h.key id e hg) fun k x hk _ => h.key k x hk,
      forall_get?_ins hv' fun k x hk _ => h.valid k x hk,
      fun nm k hnm => (exists_get?_ins_congr (f := TokenEntry.name)
        (v' := { e with hash := hash, pfx := pfx, lsn := i }) hg rfl k nm).mpr (h.n1 nm k hnm),
      forall_get?_ins (h.n2 id e hg) fun k x hk _ => h.n2 k x hk, hp.pne, hp.pso, hp.pm⟩

theorem tokInv_dropToken {a : AuthSt} {n : Int} (h : TokInv a n) (id : Int) (e : TokenEntry)
    (hg : a.tokens.get? id = some e) : TokInv (dropToken a id e) n := by
  unfold dropToken
  have hp := h.pfx.del hg fun k => get?_del ..
  refine ⟨sorted_del h.st, sorted_del h.sn, hp.sp,
    forall_get?_del fun k x hk _ => h.key k x hk, forall_get?_del fun k x hk _ => h.valid k x hk,
    forall_get?_del fun nm k hnm hn => ?_, forall_get?_del fun k x hk hki => ?_, hp.pne, hp.pso, hp.pm⟩
  · obtain ⟨x, hx, hxn⟩ := h.n1 nm k hnm
    have hki : k ≠ id := fun e2 => by rw [e2, hg] at hx; cases hx; exact hn hxn.symm
    exact ⟨x, (get?_del_ne hki).trans hx, hxn⟩
  · have hx := h.n2 k x hk
    rw [get?_del_ne]; exact hx
    intro e2; rw [e2, h.n2 id e hg] at hx; exact hki (Option.some.inj hx).symm

theorem tokInv_delete {a : AuthSt} {n : Int} (h : TokInv a n) (id : Int) :
    TokInv (applyDeleteToken a id).1 n :=
  applyDeleteToken_elim (P := fun b => TokInv b n) id h (fun e hg _ => tokInv_dropToken h id e hg)
    fun e _ hg _ => (tokInv_dropToken h id e hg).congr
      (foldl_frame tokPart memCascadeByToken memCascadeByToken_tok _ _)

theorem tokInv_step {a : AuthSt} {n : Int} (h : TokInv a n) (i : Nat) (hi : n ≤ (i : Int)) (c : Cmd) :
    TokInv (auStep a i c) ((i : Int) + 1) := by
  have hm : TokInv a ((i : Int) + 1) := h.mono (by omega)
  cases c with
  | createToken t => exact tokInv_create h i hi t
  | updateToken id nm d p ex ch => exact (tokInv_update h i id nm d p ex ch).mono (by omega)
  | revokeToken id => exact (tokInv_revoke h i id).mono (by omega)
  | deleteToken id => exact (tokInv_delete h id).mono (by omega)
  | rotateToken id hs p => exact (tokInv_rotate h i id hs p).mono (by omega)
  | _ => exact hm.congr ((auStep_frame a i _).1 rfl)

theorem restoreTokens_id {a : AuthSt} {n : Int} (h : TokInv a n) : restoreTokens a.tokens = a.tokens := by
  unfold restoreTokens
  apply List.filter_eq_self.mpr
  intro x hx
  obtain ⟨k, e⟩ := x
  exact h.valid k e (mem_get?_of_sorted h.st hx)

/-- The name index is rebuilt by inserting `name ↦ id` for every token. All these bindings are bindings
of `byName` (clause `n2`), so a later insert can only overwrite a binding with itself; and `byName` has
no other binding (clause `n1`). -/
theorem rebuildByName_id {a : AuthSt} {n : Int} (h : TokInv a n) : rebuildByName a.tokens = a.byName := by
  refine ext (List.foldlRecOn _ _ sorted_nil fun _ hacc _ _ => sorted_ins hacc) h.sn fun nm => ?_
  rw [rebuildByName, get?_foldl_ins_of_agree (fun p : Int × TokenEntry => p.2.name) (·.1) a.byName.get? _
    fun p hp => h.n2 p.1 p.2 (mem_get?_of_sorted h.st hp)]
  by_cases hm : nm ∈ a.tokens.map (·.2.name)
  · rw [if_pos hm]
  · rw [if_neg hm]
    refine (Option.eq_none_iff_forall_ne_some.mpr fun id hb => hm ?_).symm
    obtain ⟨e, he, rfl⟩ := h.n1 nm id hb
    exact List.mem_map.mpr ⟨(id, e), get?_some_mem he, rfl⟩

/-- the rebuild loop of `Restore`: one `PfxOk.add` per token, in key order -/
theorem PfxOk.rebuild {l : SMap Int TokenEntry} (hs : Sorted l) {g g' : Int → Option TokenEntry}
    {acc : SMap String (List Int)} (h : PfxOk g acc) (hfresh : ∀ q ∈ l, g q.1 = none)
    (hg' : ∀ k, g' k = (get? l k).or (g k)) :
    PfxOk g' (l.foldl (fun acc p => prefixAdd acc p.2.pfx p.1) acc) := by
  induction l generalizing g acc with
  | nil => obtain rfl : g' = g := funext hg'; exact h
  | cons q t ih =>
    obtain ⟨k0, e0⟩ := q
    have ⟨hall, ht⟩ := sorted_cons.mp hs
    refine ih ht (h.add (hfresh _ List.mem_cons_self) fun _ => rfl) (fun r hr => ?_) fun k => ?_
    · rw [if_neg, hfresh r (List.mem_cons_of_mem _ hr)]
      exact (ne_of_lt (hall r hr)).symm
    · rw [hg' k, get?_cons]
      by_cases hk : k = k0
      · rw [if_pos hk, if_pos hk, hk, get?_none_of_lt hall]; rfl
      · rw [if_neg hk, if_neg hk]

theorem rebuildByPrefix_id {a : AuthSt} {n : Int} (h : TokInv a n) :
    rebuildByPrefix a.tokens = a.byPrefix := by
  have r := PfxOk.rebuild (g := fun _ => none) (g' := a.tokens.get?) h.st
    ⟨sorted_nil, nofun, fun _ => List.Pairwise.nil, fun _ _ => ⟨nofun, fun ⟨_, hx, _⟩ => nomatch hx⟩⟩
    (fun _ _ => rfl) fun k => by cases get? a.tokens k <;> rfl
  exact r.unique h.pfx

theorem restoreAu_tok {s : State} {n : Int} (h : TokInv s.au n) :
    tokPart (restoreAu (snapshot s)) = tokPart s.au := by
  show (restoreTokens s.au.tokens, rebuildByName (restoreTokens s.au.tokens),
    rebuildByPrefix (restoreTokens s.au.tokens)) = _
  rw [restoreTokens_id h, rebuildByName_id h, rebuildByPrefix_id h]; rfl

theorem tokInv_runEv (s : State) (lo : Nat) (evs : List Ev) (h : TokInv s.au (lo : Int))
    (hinc : idxIncreasing lo evs = true) : TokInv (runEv s evs).au (nextIdx lo evs : Nat) :=
  runEv_inv_idx (P := fun s n => TokInv s.au (n : Int))
    (fun s _ i c h hi => apply_au s i c ▸ tokInv_step h i (Int.ofNat_le.mpr hi) c)
    (fun _ _ h => h.congr (restoreAu_tok h)) s lo evs h hinc

end Arc.C22
