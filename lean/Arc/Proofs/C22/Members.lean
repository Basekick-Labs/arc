import Arc.Proofs.C22.RestoreParents
/-! Soundness of the three membership indexes (`tokenMembershipsByPair`, `…ByToken`, `…ByTeam`):
every index entry points at a membership record that exists and carries that token / team
(index ⊆ primaries). Together with `PInv.c4` (primaries ⊆ traversal indexes) this is index agreement
for `…ByToken` / `…ByTeam`. Preserved by every command at a fresh log index, through the team,
organization and token cascades, and re-established by `Restore`. -/
namespace Arc.C22
open SMap

/-- every entry `(o, id)` of a set-valued index names a record `id` whose `f` is `o` -/
def IdxSound (f : MemberEntry → Int) (tbl : SMap Int MemberEntry) (idx : SMap Int (SSet Int)) : Prop :=
  ∀ o id, get2? idx o id = some () → ∃ e, tbl.get? id = some e ∧ f e = o

theorem IdxSound.ins {f : MemberEntry → Int} {tbl : SMap Int MemberEntry} {idx : SMap Int (SSet Int)}
    (h : IdxSound f tbl idx) {k : Int} (hfresh : tbl.get? k = none) (e : MemberEntry) :
    IdxSound f (tbl.ins k e) (idx.ins2 (f e) k ()) := by
  intro o id hq
  rw [get2?_ins2] at hq
  by_cases hc : o = f e ∧ id = k
  · exact ⟨e, hc.2 ▸ get?_ins_self .., hc.1.symm⟩
  · rw [if_neg hc] at hq
    obtain ⟨x, hx, h1⟩ := h o id hq
    exact ⟨x, (get?_ins_ne fun e2 => by rw [e2, hfresh] at hx; cases hx).trans hx, h1⟩

/-- record `mid` is dropped, and the index keeps only old entries other than `mid`'s own -/
theorem IdxSound.del {f : MemberEntry → Int} {tbl : SMap Int MemberEntry} {idx idx' : SMap Int (SSet Int)}
    (h : IdxSound f tbl idx) {mid : Int} {mem : MemberEntry} (hg : tbl.get? mid = some mem)
    (h' : ∀ o id, get2? idx' o id = some () → ¬ (o = f mem ∧ id = mid) ∧ get2? idx o id = some ()) :
    IdxSound f (tbl.del mid) idx' := by
  intro o id hq
  obtain ⟨x, hx, h1⟩ := h o id (h' o id hq).2
  refine ⟨x, (get?_del_ne fun e2 => ?_).trans hx, h1⟩
  rw [e2, hg] at hx; cases hx; exact (h' o id hq).1 ⟨h1.symm, e2⟩

structure MemInv (a : AuthSt) (n : Int) : Prop where
  sm : Sorted a.members
  kb : ∀ k e, a.members.get? k = some e → k < n
  s1 : ∀ tok tm id, get2? a.memByPair tok tm = some id →
        ∃ e, a.members.get? id = some e ∧ e.token = tok ∧ e.team = tm
  s2 : IdxSound (·.token) a.members a.memByToken
  s3 : IdxSound (·.team) a.members a.memByTeam
  /-- completeness of the pair index: every membership record is found under its (token, team) -/
  c1 : ∀ id e, a.members.get? id = some e → get2? a.memByPair e.token e.team = some id

theorem memInv_empty (n : Int) : MemInv ({} : AuthSt) n :=
  ⟨sorted_nil, fun _ _ h => (by cases h), fun _ _ _ h => (by cases h), fun _ _ h => (by cases h),
   fun _ _ h => (by cases h), fun _ _ h => (by cases h)⟩

theorem MemInv.mono {a : AuthSt} {n m : Int} (h : MemInv a n) (hnm : n ≤ m) : MemInv a m :=
  { h with kb := fun k e hk => by have := h.kb k e hk; omega }

theorem MemInv.congr {a b : AuthSt} {n : Int} (h : MemInv a n) (e : memPart b = memPart a) : MemInv b n := by
  cases a; cases b; cases e
  exact ⟨h.sm, h.kb, h.s1, h.s2, h.s3, h.c1⟩

theorem memInv_addMember {a : AuthSt} {n : Int} (h : MemInv a n) (i : Nat) (hi : n ≤ (i : Int)) (e : MemberEntry) :
    MemInv (applyAddMember a i e).1 ((i : Int) + 1) := by
  refine applyAddMember_elim (P := fun b => MemInv b _) i e (h.mono (by omega)) fun _ _ hnone => ?_
  -- the log index is fresh: every stored id is below the bound
  have hfresh : a.members.get? (i : Int) = none :=
    Option.eq_none_iff_forall_ne_some.mpr fun v hv => by have := h.kb _ v hv; omega
  refine ⟨sorted_ins h.sm, forall_get?_ins (by omega) fun k x hk _ => by have := h.kb k x hk; omega,
    fun tok tm id hq => ?_, h.s2.ins hfresh _, h.s3.ins hfresh _,
    forall_get?_ins (by rw [get2?_ins2, if_pos ⟨rfl, rfl⟩]) fun id x hx _ => ?_⟩
  · rw [get2?_ins2] at hq
    by_cases hc : tok = e.token ∧ tm = e.team
    · rw [if_pos hc] at hq; cases hq
      exact ⟨_, get?_ins_self .., hc.1.symm, hc.2.symm⟩
    · rw [if_neg hc] at hq
      obtain ⟨x, hx, h1⟩ := h.s1 tok tm id hq
      exact ⟨x, (get?_ins_ne fun e2 => by rw [e2, hfresh] at hx; cases hx).trans hx, h1⟩
  · have c := h.c1 id x hx
    rw [get2?_ins2, if_neg]; exact c
    rintro ⟨h1, h2⟩; rw [h1, h2, hnone] at c; cases c

/-- membership `mid` (record `mem`) is dropped from the primary map and the pair index; the two set
indexes keep only old entries other than `mid`'s own -/
theorem memInv_dropMember {a : AuthSt} {n : Int} (h : MemInv a n) {mid : Int} {mem : MemberEntry}
    (hg : a.members.get? mid = some mem) (byTok byTeam : SMap Int (SSet Int))
    (hk : ∀ o id, get2? byTok o id = some () → ¬ (o = mem.token ∧ id = mid) ∧ get2? a.memByToken o id = some ())
    (ht : ∀ o id, get2? byTeam o id = some () → ¬ (o = mem.team ∧ id = mid) ∧ get2? a.memByTeam o id = some ()) :
    MemInv { a with memByPair := a.memByPair.del2 mem.token mem.team, memByToken := byTok,
                    memByTeam := byTeam, members := a.members.del mid } n := by
  refine ⟨sorted_del h.sm, forall_get?_del fun k e hk _ => h.kb k e hk, fun tok tm id hq => ?_,
    h.s2.del hg hk, h.s3.del hg ht, forall_get?_del fun id e he hid => ?_⟩
  · obtain ⟨hc, hq⟩ := get2?_del2_some hq
    obtain ⟨x, hx, h1, h2⟩ := h.s1 tok tm id hq
    refine ⟨x, (get?_del_ne fun e2 => ?_).trans hx, h1, h2⟩
    rw [e2, hg] at hx; cases hx; exact hc ⟨h1.symm, h2.symm⟩
  · -- by `c1` the pair (token, team) is a key: another record sits under another pair
    have c := h.c1 id e he
    rw [get2?_del2, if_neg]; exact c
    rintro ⟨h1, h2⟩; rw [h1, h2, h.c1 mid mem hg] at c; exact hid (Option.some.inj c).symm

theorem memInv_removeMember {a : AuthSt} {n : Int} (h : MemInv a n) (token team : Int) :
    MemInv (applyRemoveMember a token team).1 n := by
  refine applyRemoveMember_elim (P := fun b => MemInv b n) token team h fun mid hg => ?_
  obtain ⟨mem, hmem, rfl, rfl⟩ := h.s1 _ _ mid hg
  exact memInv_dropMember h hmem _ _ (fun _ _ hq => get2?_del2_some hq) fun _ _ hq => get2?_del2_some hq

/-! While `cascadeDeleteTeamLocked` walks the memberships of team `T`, `memByTeam[T]` still lists the ones
already removed; it is deleted after the loop. So the loop invariant is `MemInv` of the state with that
bucket taken out, and likewise for `memByToken[K]` in `applyDeleteToken`. -/

theorem memInv_teamLoop (T : Int) (ms : List Int) {a : AuthSt} {n : Int}
    (h : MemInv { a with memByTeam := a.memByTeam.del T } n)
    (hT : ∀ mid ∈ ms, ∀ mem, a.members.get? mid = some mem → mem.team = T) :
    MemInv { ms.foldl memCascadeByTeam a with
             memByTeam := (ms.foldl memCascadeByTeam a).memByTeam.del T } n := by
  induction ms generalizing a with
  | nil => exact h
  | cons m t ih =>
    refine ih ?_ fun mid hmid mem hmem => hT mid (List.mem_cons_of_mem _ hmid) mem
      (memCascadeByTeam_members hmem).2
    exact memCascadeByTeam_elim (P := fun b => MemInv { b with memByTeam := b.memByTeam.del T } n) m
      (fun _ => h) fun mem hg =>
        memInv_dropMember h hg _ _ (fun _ _ hq => get2?_del2_some hq)
          fun o _ hq => ⟨fun hc => (get2?_del_outer_some hq).1
            (hc.1.trans (hT m List.mem_cons_self mem hg)), hq⟩

theorem memInv_tokenLoop (K : Int) (ms : List Int) {a : AuthSt} {n : Int}
    (h : MemInv { a with memByToken := a.memByToken.del K } n)
    (hK : ∀ mid ∈ ms, ∀ mem, a.members.get? mid = some mem → mem.token = K) :
    MemInv { ms.foldl memCascadeByToken a with
             memByToken := (ms.foldl memCascadeByToken a).memByToken.del K } n := by
  induction ms generalizing a with
  | nil => exact h
  | cons m t ih =>
    refine ih ?_ fun mid hmid mem hmem => hK mid (List.mem_cons_of_mem _ hmid) mem
      (memCascadeByToken_members hmem).2
    exact memCascadeByToken_elim (P := fun b => MemInv { b with memByToken := b.memByToken.del K } n) m
      (fun _ => h) fun mem hg =>
        memInv_dropMember h hg _ _
          (fun o _ hq => ⟨fun hc => (get2?_del_outer_some hq).1
            (hc.1.trans (hK m List.mem_cons_self mem hg)), hq⟩)
          fun _ _ hq => get2?_del2_some hq

theorem memInv_cascadeTeam {a : AuthSt} {n : Int} (h : MemInv a n) (T : Int) : MemInv (cascadeTeam a T) n := by
  simp only [cascadeTeam]
  have fr := foldl_frame memPart cascadeRoleAndDelete cascadeRoleAndDelete_mem (keys (a.rolesByTeam.inner T)) a
  generalize (keys (a.rolesByTeam.inner T)).foldl cascadeRoleAndDelete a = b1 at fr
  have hb : MemInv { b1 with rolesByTeam := b1.rolesByTeam.del T } n := h.congr fr
  refine memInv_teamLoop T _ ⟨hb.sm, hb.kb, hb.s1, hb.s2,
    fun o id hq => hb.s3 o id (get2?_del_outer_some hq).2, hb.c1⟩ ?_
  intro mid hmid mem hmem
  obtain ⟨v, hv⟩ := mem_keys.mp hmid
  obtain ⟨x, hx, h1⟩ := hb.s3 T mid ((get2?_def ..).trans hv)
  rw [hmem] at hx; cases hx; exact h1

theorem memInv_cascadeOrg {a : AuthSt} {n : Int} (h : MemInv a n) (o : Int) : MemInv (cascadeOrg a o) n :=
  List.foldlRecOn (motive := fun b => MemInv b n) _ cascadeTeamAndDelete h fun _ hb t _ =>
    (memInv_cascadeTeam hb t).congr (by simp only [cascadeTeamAndDelete, memPart])

theorem memInv_deleteToken {a : AuthSt} {n : Int} (h : MemInv a n) (id : Int) :
    MemInv (applyDeleteToken a id).1 n := by
  refine applyDeleteToken_elim (P := fun b => MemInv b n) id h (fun e _ _ => h.congr rfl)
    fun e set _ hm => ?_
  have hs : MemInv (dropToken a id e) n := h.congr rfl
  refine memInv_tokenLoop id _ ⟨hs.sm, hs.kb, hs.s1,
    fun o i hq => hs.s2 o i (get2?_del_outer_some hq).2, hs.s3, hs.c1⟩ ?_
  intro mid hmid mem hmem
  obtain ⟨v, hv⟩ := mem_keys.mp hmid
  obtain ⟨x, hx, h1⟩ := h.s2 id mid (by rw [get2?, hm]; exact hv)
  rw [show a.members.get? mid = some mem from hmem] at hx; cases hx; exact h1

theorem memInv_step {a : AuthSt} {n : Int} (h : MemInv a n) (i : Nat) (hi : n ≤ (i : Int)) (c : Cmd) :
    MemInv (auStep a i c) ((i : Int) + 1) := by
  have hm : MemInv a ((i : Int) + 1) := h.mono (by omega)
  cases c with
  | deleteToken id => exact (memInv_deleteToken h id).mono (by omega)
  | deleteOrg id =>
    exact applyDeleteOrg_elim (P := fun b => MemInv b _) id hm fun _ _ =>
      ((memInv_cascadeOrg h id).mono (by omega)).congr (by simp only [memPart])
  | deleteTeam id =>
    exact applyDeleteTeam_elim (P := fun b => MemInv b _) id hm fun _ _ =>
      ((memInv_cascadeTeam h id).mono (by omega)).congr (by simp only [memPart])
  | addMember e => exact memInv_addMember h i hi e
  | removeMember t tm => exact (memInv_removeMember h t tm).mono (by omega)
  | _ => exact hm.congr ((auStep_frame a i _).2 rfl)

theorem memInv_restoreAu {s : State} {n : Int} (h : MemInv s.au n) : MemInv (restoreAu (snapshot s)) n := by
  have ⟨hsub, _, hd⟩ := restoreMembers_spec (restoreTokens s.au.tokens)
    (restoreTeams (restoreOrgs s.au.orgs) s.au.teams) s.au.members
  have hs : Sorted (restoreAu (snapshot s)).members := List.Pairwise.sublist hsub h.sm
  refine ⟨hs, fun k e hk => h.kb k e (mem_get?_of_sorted h.sm (hsub.subset (get?_some_mem hk))),
    fun tok tm id hq => ?_, fun _ _ => foldl_ins2_listed_sound _ hs, fun _ _ => foldl_ins2_listed_sound _ hs,
    fun id e he => foldl_ins2_mem (fun p : Int × MemberEntry => p.2.token) (·.2.team) (·.1) _ []
      (hd.imp fun h h1 h2 => absurd (Prod.ext h1 h2) h) (id, e) (get?_some_mem he)⟩
  rcases foldl_ins2_sound (fun p : Int × MemberEntry => p.2.token) (·.2.team) (·.1) _ [] hq
    with h1 | ⟨p, hp, h1, h2, h3⟩
  · cases h1
  · exact ⟨p.2, h3 ▸ mem_get?_of_sorted hs hp, h1, h2⟩

theorem memInv_runEv (s : State) (lo : Nat) (evs : List Ev) (h : MemInv s.au (lo : Int))
    (hinc : idxIncreasing lo evs = true) : MemInv (runEv s evs).au (nextIdx lo evs : Nat) :=
  runEv_inv_idx (P := fun s n => MemInv s.au (n : Int))
    (fun s _ i c h hi => apply_au s i c ▸ memInv_step h i (Int.ofNat_le.mpr hi) c)
    (fun _ _ h => memInv_restoreAu h) s lo evs h hinc

end Arc.C22
