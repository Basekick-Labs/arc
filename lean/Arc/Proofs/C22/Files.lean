import Arc.Model.C22
import Arc.Proofs.C22.Nested
/-! File-manifest part of the FSM: invariant (`FileInv`), its preservation by every manifest command,
batch all-or-nothing, and `restoreFs` = identity. -/
namespace Arc.C22
open SMap

/-- what `filesByDB[db]` must say about path `p`, given the primary record of `p` -/
def fdbSpec (o : Option FileEntry) (db : String) : Option Unit :=
  match o with
  | some e => if e.db = db then some () else none
  | none => none

structure FileInv (f : FileSt) : Prop where
  sortedFiles : Sorted f.files
  nested : NestedOk f.filesByDB
  keyOk : ∀ p e, f.files.get? p = some e → e.path = p ∧ validPath p = true
  agree : ∀ db p, get2? f.filesByDB db p = fdbSpec (f.files.get? p) db

theorem fileInv_empty : FileInv ({} : FileSt) :=
  ⟨sorted_nil, nestedOk_nil, fun p e h => by simp at h, fun db p => rfl⟩

theorem get2?_dropOldIdx {s : FileSt} (h : FileInv s) (e : FileEntry) (db p : String) :
    get2? (dropOldIdx s e) db p =
      if p = e.path ∧ db ≠ e.db then none else get2? s.filesByDB db p := by
  unfold dropOldIdx
  cases hg : s.files.get? e.path with
  | none =>
    simp only
    by_cases hc : p = e.path ∧ db ≠ e.db
    · rw [if_pos hc, h.agree, hc.1, hg]; rfl
    · rw [if_neg hc]
  | some old =>
    simp only
    have hop : old.path = e.path := (h.keyOk _ _ hg).1
    by_cases hdb : old.db ≠ e.db
    · rw [if_pos hdb, get2?_del2, hop]
      by_cases hp : p = e.path
      · subst hp
        by_cases hd : db = old.db
        · subst hd; simp [hdb]
        · have : ¬ (db = old.db ∧ e.path = e.path) := fun hh => hd hh.1
          rw [if_neg this, h.agree, hg]
          by_cases hde : db = e.db
          · subst hde; simp [fdbSpec, hdb]
          · simp [hde, fdbSpec, Ne.symm hd]
      · have h1 : ¬ (db = old.db ∧ p = e.path) := fun hh => hp hh.2
        have h2 : ¬ (p = e.path ∧ db ≠ e.db) := fun hh => hp hh.1
        rw [if_neg h1, if_neg h2]
    · rw [if_neg hdb]
      have hdb' : old.db = e.db := Decidable.of_not_not hdb
      by_cases hc : p = e.path ∧ db ≠ e.db
      · rw [if_pos hc, h.agree, hc.1, hg]
        simp only [fdbSpec, hdb']
        rw [if_neg (fun hh => hc.2 hh.symm)]
      · rw [if_neg hc]

theorem nestedOk_dropOldIdx {s : FileSt} (h : FileInv s) (e : FileEntry) : NestedOk (dropOldIdx s e) := by
  unfold dropOldIdx
  cases hg : s.files.get? e.path with
  | none => exact h.nested
  | some old =>
    simp only
    by_cases hdb : old.db ≠ e.db
    · rw [if_pos hdb]; exact nestedOk_del2 h.nested _ _
    · rw [if_neg hdb]; exact h.nested

/-- the state change of Register and Update: insert, and move the index entry to the entry's database -/
theorem fileInv_put {s : FileSt} (h : FileInv s) (e : FileEntry) (hv : validPath e.path = true) :
    FileInv { s with files := s.files.ins e.path e,
                     filesByDB := (dropOldIdx s e).ins2 e.db e.path () } := by
  refine ⟨sorted_ins h.sortedFiles, nestedOk_ins2 (nestedOk_dropOldIdx h e) _ _ _,
    forall_get?_ins ⟨rfl, hv⟩ fun p x hx _ => h.keyOk p x hx, fun db p => ?_⟩
  · simp only [get2?_ins2, get?_ins, get2?_dropOldIdx h]
    by_cases hp : p = e.path
    · subst hp
      by_cases hd : db = e.db
      · subst hd; simp [fdbSpec]
      · simp [hd, fdbSpec, Ne.symm hd]
    · simp [hp, h.agree]

theorem fileInv_register {s : FileSt} (h : FileInv s) (i : Nat) (f : FileEntry) :
    FileInv (applyRegister s i f).1 := by
  unfold applyRegister
  by_cases hok : fileOk f = true
  · simp only [hok, Bool.not_true, Bool.false_eq_true, if_false]
    apply fileInv_put h { f with lsn := i }
    unfold fileOk at hok
    simp only [Bool.and_eq_true] at hok
    exact hok.1
  · simp only [hok, Bool.not_false, if_true]
    exact h

/-- `applyUpdateFileStruct` makes the same state change as `applyRegisterFileStruct` -/
theorem applyUpdateFile_eq : applyUpdateFile = applyRegister := rfl

theorem fileInv_update {s : FileSt} (h : FileInv s) (i : Nat) (f : FileEntry) :
    FileInv (applyUpdateFile s i f).1 := applyUpdateFile_eq ▸ fileInv_register h i f

theorem fileInv_delete {s : FileSt} (h : FileInv s) (path : String) :
    FileInv (applyDeleteFile s path).1 := by
  unfold applyDeleteFile
  by_cases hp : path = ""
  · simp only [hp, if_true]; exact h
  · simp only [hp, if_false]
    cases hg : s.files.get? path with
    | none => exact h
    | some ex =>
      simp only
      refine ⟨sorted_del h.sortedFiles, nestedOk_del2 h.nested _ _,
        forall_get?_del fun p x hx _ => h.keyOk p x hx, fun db p => ?_⟩
      · simp only [get2?_del2, get?_del]
        by_cases hpp : p = path
        · subst hpp
          by_cases hd : db = ex.db
          · simp [hd, fdbSpec]
          · simp only [hd, false_and, if_false, if_true, h.agree, hg, fdbSpec]
            rw [if_neg (fun hh => hd hh.symm)]
        · simp [hpp, h.agree]

theorem fileInv_batchOp {s : FileSt} (h : FileInv s) (i : Nat) (op : BatchOp) :
    FileInv (applyBatchOp s i op).1 := by
  cases op with
  | register f => exact fileInv_register h i f
  | delete p => exact fileInv_delete h p
  | update f => exact fileInv_update h i f
  | malformed | unsupported => exact h

theorem fileInv_applyOps {s : FileSt} (h : FileInv s) (i : Nat) (ops : List BatchOp) :
    FileInv (applyOps s i ops).1 := by
  induction ops generalizing s with
  | nil => exact h
  | cons op rest ih =>
    unfold applyOps
    by_cases hr : (applyBatchOp s i op).2 = .ok
    · rw [if_pos hr]; exact ih (fileInv_batchOp h i op)
    · rw [if_neg hr]; exact fileInv_batchOp h i op

theorem fileInv_batch {s : FileSt} (h : FileInv s) (i : Nat) (ops : List BatchOp) :
    FileInv (applyBatch s i ops).1 := by
  unfold applyBatch
  by_cases hp : prevalidate ops = .ok
  · rw [if_pos hp]; exact fileInv_applyOps h i ops
  · rw [if_neg hp]; exact h

/-- effect of any command on the manifest part -/
def fsStep (s : FileSt) (i : Nat) : Cmd → FileSt
  | .registerFile f => (applyRegister s i f).1
  | .deleteFile p => (applyDeleteFile s p).1
  | .batch ops => (applyBatch s i ops).1
  | .updateFile f => (applyUpdateFile s i f).1
  | _ => s

theorem apply_fs (s : State) (i : Nat) (c : Cmd) : (apply s i c).1.fs = fsStep s.fs i c := by
  cases c <;> rfl

theorem fileInv_step {s : FileSt} (h : FileInv s) (i : Nat) (c : Cmd) : FileInv (fsStep s i c) := by
  cases c with
  | registerFile f => exact fileInv_register h i f
  | deleteFile p => exact fileInv_delete h p
  | batch ops => exact fileInv_batch h i ops
  | updateFile f => exact fileInv_update h i f
  | _ => exact h

/-- single command corresponding to a batch op -/
def opCmd : BatchOp → Cmd
  | .register f => .registerFile f
  | .update f => .updateFile f
  | .delete p => .deleteFile p
  | .malformed => .malformed
  | .unsupported => .unknown

theorem batchOp_ok_of_pre (s : FileSt) (i : Nat) (op : BatchOp) (rest : List BatchOp)
    (h : prevalidate (op :: rest) = .ok) :
    (applyBatchOp s i op).2 = .ok ∧ prevalidate rest = .ok := by
  cases op with
  | register f | update f =>
    simp only [prevalidate] at h
    by_cases hok : fileOk f = true
    · simp only [hok, if_true] at h
      exact ⟨by simp [applyBatchOp, applyRegister, applyUpdateFile, hok], h⟩
    · simp [hok] at h
  | delete p =>
    simp only [prevalidate] at h
    by_cases hp : p = ""
    · simp [hp] at h
    · simp only [hp, if_false] at h
      refine ⟨?_, h⟩
      simp only [applyBatchOp, applyDeleteFile, hp, if_false]
      cases s.files.get? p <;> rfl
  | malformed | unsupported => simp [prevalidate] at h

/-- when the pre-validation pass accepts, the apply loop cannot fail midway and equals the
left-to-right application of the individual ops -/
theorem applyOps_of_pre (s : FileSt) (i : Nat) (ops : List BatchOp) (h : prevalidate ops = .ok) :
    applyOps s i ops = (ops.foldl (fun st op => (applyBatchOp st i op).1) s, .ok) := by
  induction ops generalizing s with
  | nil => rfl
  | cons op rest ih =>
    have ⟨h1, h2⟩ := batchOp_ok_of_pre s i op rest h
    unfold applyOps
    rw [if_pos h1, ih _ h2]
    rfl

theorem batchOp_eq_cmd (s : State) (i : Nat) (op : BatchOp) :
    (apply s i (opCmd op)).1 = { s with fs := (applyBatchOp s.fs i op).1 } := by
  cases op <;> rfl

theorem foldl_batch_eq_cmds (s : State) (i : Nat) (ops : List BatchOp) :
    (ops.map opCmd).foldl (fun st c => (apply st i c).1) s =
      { s with fs := ops.foldl (fun st op => (applyBatchOp st i op).1) s.fs } := by
  induction ops generalizing s with
  | nil => rfl
  | cons op rest ih =>
    simp only [List.map_cons, List.foldl_cons]
    rw [batchOp_eq_cmd, ih]

theorem restoreFiles_id {s : FileSt} (h : FileInv s) : restoreFiles s.files = s.files := by
  unfold restoreFiles
  apply List.filter_eq_self.mpr
  intro x hx
  obtain ⟨p, e⟩ := x
  exact (h.keyOk p e (mem_get?_of_sorted h.sortedFiles hx)).2

theorem rebuildFilesByDB_id {s : FileSt} (h : FileInv s) : rebuildFilesByDB s.files = s.filesByDB := by
  refine ext2 (List.foldlRecOn _ _ nestedOk_nil fun _ hacc _ _ => nestedOk_ins2 hacc _ _ _) h.nested fun db p => ?_
  rw [h.agree]
  cases hr : get2? (rebuildFilesByDB s.files) db p with
  | some u =>
    obtain ⟨e, he, hdb⟩ := foldl_ins2_listed_sound FileEntry.db h.sortedFiles hr
    rw [he, fdbSpec, if_pos hdb]
  | none =>
    cases hg : s.files.get? p with
    | none => rfl
    | some e =>
      refine (if_neg fun hdb => ?_).symm
      have : get2? (rebuildFilesByDB s.files) e.db p = some () := foldl_ins2_listed FileEntry.db hg
      rw [hdb, hr] at this; cases this

theorem restoreFs_id {s : FileSt} (h : FileInv s) : restoreFs s.files = s := by
  unfold restoreFs
  simp only [restoreFiles_id h, rebuildFilesByDB_id h]

end Arc.C22
