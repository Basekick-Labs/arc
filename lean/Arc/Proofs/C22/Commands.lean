import Arc.Model.C23
import Arc.Proofs.C22.Nested
/-! What each token / RBAC command does to `AuthSt`, stated once: a command either leaves the state as
it is or, under the guards it has passed, rewrites a few named fields. The invariants of the token
part (`Tokens`), of the RBAC hierarchy (`Parents`) and of the membership indexes (`Members`) are all
proved from these elimination rules, and the fields a command does not name are its frame.
An invariant of one part of the state reaches `runEv` through the projections `apply_au` / `apply_cl`
and one of the two inductions over histories, `runEv_inv` and (with log indexes) `runEv_inv_idx`. -/
namespace Arc.C22
open SMap

/-- effect of any command on the token/RBAC part -/
def auStep (a : AuthSt) (i : Nat) : Cmd → AuthSt
  | .createToken t => (applyCreateToken a i t).1
  | .updateToken id n d p e ch => (applyUpdateToken a i id n d p e ch).1
  | .revokeToken id => (applyRevokeToken a i id).1
  | .deleteToken id => (applyDeleteToken a id).1
  | .rotateToken id h p => (applyRotateToken a i id h p).1
  | .createOrg e => (applyCreateOrg a i e).1
  | .updateOrg id n d en u ch => (applyUpdateOrg a i id n d en u ch).1
  | .deleteOrg id => (applyDeleteOrg a id).1
  | .createTeam e => (applyCreateTeam a i e).1
  | .updateTeam id n d en u ch => (applyUpdateTeam a i id n d en u ch).1
  | .deleteTeam id => (applyDeleteTeam a id).1
  | .createRole e => (applyCreateRole a i e).1
  | .updateRole id pt pm ch => (applyUpdateRole a i id pt pm ch).1
  | .deleteRole id => (applyDeleteRole a id).1
  | .createMPerm e => (applyCreateMPerm a i e).1
  | .deleteMPerm id => (applyDeleteMPerm a id).1
  | .addMember e => (applyAddMember a i e).1
  | .removeMember t tm => (applyRemoveMember a t tm).1
  | _ => a

theorem apply_au (s : State) (i : Nat) (c : Cmd) : (apply s i c).1.au = auStep s.au i c := by
  cases c <;> rfl

theorem apply_cl (s : State) (i : Nat) (c : Cmd) : (apply s i c).1.cl = Arc.C23.clStep s.cl c := by
  cases c <;> rfl

theorem runEv_inv {P : State → Prop} (hc : ∀ s i c, P s → P (apply s i c).1)
    (hr : ∀ s, P s → P (restore (snapshot s))) (s : State) (evs : List Ev) (h : P s) :
    P (runEv s evs) := by
  induction evs generalizing s with
  | nil => exact h
  | cons e es ih =>
    cases e with
    | cmd i c => exact ih _ (hc s i c h)
    | restore => exact ih _ (hr s h)

/-- the bound after a history: one more than the last command index (or the initial bound) -/
def nextIdx (lo : Nat) : List Ev → Nat
  | [] => lo
  | .cmd i _ :: es => nextIdx (i + 1) es
  | .restore :: es => nextIdx lo es

theorem runEv_inv_idx {P : State → Nat → Prop}
    (hc : ∀ s lo i c, P s lo → lo ≤ i → P (apply s i c).1 (i + 1))
    (hr : ∀ s lo, P s lo → P (restore (snapshot s)) lo) (s : State) (lo : Nat) (evs : List Ev)
    (h : P s lo) (hinc : idxIncreasing lo evs = true) : P (runEv s evs) (nextIdx lo evs) := by
  induction evs generalizing s lo with
  | nil => exact h
  | cons e es ih =>
    cases e with
    | cmd i c =>
      simp only [idxIncreasing, Bool.and_eq_true, decide_eq_true_eq] at hinc
      exact ih _ _ (hc s lo i c h hinc.1) hinc.2
    | restore => exact ih _ _ (hr s lo h) hinc

/-! One elimination rule per command: to prove `P` of the state a command leaves, prove it of the old state (the command was refused, or
found nothing to do) and of the old state with the named fields rewritten, under the guards passed. -/

theorem guard {P : AuthSt → Prop} {c : Prop} [Decidable c] {a : AuthSt} {r : Res} {y : AuthSt × Res}
    (h0 : P a) (hy : ¬ c → P y.1) : P (if c then (a, r) else y).1 := by
  by_cases h : c
  · rw [if_pos h]; exact h0
  · rw [if_neg h]; exact hy h

theorem guardNot {P : AuthSt → Prop} {b : Bool} {a : AuthSt} {r : Res} {y : AuthSt × Res}
    (h0 : P a) (hy : b = true → P y.1) : P (if (!b) = true then (a, r) else y).1 := by
  cases b
  · exact h0
  · exact hy rfl

section
variable {P : AuthSt → Prop} {a : AuthSt}

theorem applyCreateToken_elim (i : Nat) (t : TokenEntry) (h0 : P a)
    (h1 : validToken t = true → ¬ a.byName.has t.name = true →
      P { a with tokens := a.tokens.ins i { t with id := i, lsn := i, enabled := true },
                 byPrefix := prefixAdd a.byPrefix t.pfx i, byName := a.byName.ins t.name i }) :
    P (applyCreateToken a i t).1 := by
  unfold applyCreateToken
  exact guardNot h0 fun hv => guard h0 fun _ => guard h0 fun hn => h1 hv hn

/-- the record `applyUpdateToken` writes, for a given resulting name -/
def updTok (e : TokenEntry) (nm desc perms : String) (expires : Int) (changed : List String) (i : Nat) :
    TokenEntry :=
  { e with name := nm,
           desc := if changed.contains "description" then desc else e.desc,
           perms := if changed.contains "permissions" then perms else e.perms,
           expires := if changed.contains "expires_at" then expires else e.expires,
           lsn := i }

theorem applyUpdateToken_elim (i : Nat) (id : Int) (name desc perms : String) (expires : Int)
    (changed : List String) (h0 : P a)
    (h1 : ∀ e, a.tokens.get? id = some e →
      ¬ (changed.contains "name" && !validTokenName name) = true →
      ¬ (changed.contains "permissions" && !validPerms perms) = true →
      ¬ (changed.contains "name" && nameTaken a.byName name id) = true →
      P { a with tokens := a.tokens.ins id (updTok e (if changed.contains "name" then name else e.name)
                             desc perms expires changed i),
                 byName := if changed.contains "name" then (a.byName.del e.name).ins name e.id
                           else a.byName }) :
    P (applyUpdateToken a i id name desc perms expires changed).1 := by
  unfold applyUpdateToken
  refine guard h0 fun _ => guard h0 fun g1 => guard h0 fun g2 => ?_
  cases hg : a.tokens.get? id with
  | none => exact h0
  | some e => exact guard h0 fun g3 => h1 e hg g1 g2 g3

theorem applyRevokeToken_elim (i : Nat) (id : Int) (h0 : P a)
    (h1 : ∀ e, a.tokens.get? id = some e →
      P { a with tokens := a.tokens.ins id { e with enabled := false, lsn := i } }) :
    P (applyRevokeToken a i id).1 := by
  unfold applyRevokeToken
  refine guard h0 fun _ => ?_
  cases hg : a.tokens.get? id with
  | none => exact h0
  | some e => exact h1 e hg

theorem applyRotateToken_elim (i : Nat) (id : Int) (hash pfx : String) (h0 : P a)
    (h1 : ∀ e, a.tokens.get? id = some e → validHashPfx hash pfx = true →
      P { a with tokens := a.tokens.ins id { e with hash := hash, pfx := pfx, lsn := i },
                 byPrefix := if e.pfx ≠ pfx then prefixAdd (prefixDel a.byPrefix e.pfx id) pfx id
                             else a.byPrefix }) :
    P (applyRotateToken a i id hash pfx).1 := by
  unfold applyRotateToken
  refine guard h0 fun _ => guardNot h0 fun hv => ?_
  cases hg : a.tokens.get? id with
  | none => exact h0
  | some e => exact h1 e hg hv

/-- `applyDeleteToken` before its membership cascade: the token and its two index entries are gone -/
def dropToken (a : AuthSt) (id : Int) (e : TokenEntry) : AuthSt :=
  { a with tokens := a.tokens.del id, byPrefix := prefixDel a.byPrefix e.pfx id,
           byName := a.byName.del e.name }

theorem applyDeleteToken_elim (id : Int) (h0 : P a)
    (h1 : ∀ e, a.tokens.get? id = some e → a.memByToken.get? id = none → P (dropToken a id e))
    (h2 : ∀ e set, a.tokens.get? id = some e → a.memByToken.get? id = some set →
      P { (keys set).foldl memCascadeByToken (dropToken a id e) with
          memByToken := ((keys set).foldl memCascadeByToken (dropToken a id e)).memByToken.del id }) :
    P (applyDeleteToken a id).1 := by
  unfold applyDeleteToken
  refine guard h0 fun _ => ?_
  cases hg : a.tokens.get? id with
  | none => exact h0
  | some e =>
    cases hm : a.memByToken.get? id with
    | none => simp only [hm]; exact h1 e hg hm
    | some set => simp only [hm]; exact h2 e set hg hm

theorem applyCreateOrg_elim (i : Nat) (e : OrgEntry) (h0 : P a)
    (h1 : ∀ e' n', P { a with orgs := a.orgs.ins i e', orgsByName := n' }) :
    P (applyCreateOrg a i e).1 := by
  unfold applyCreateOrg
  exact guard h0 fun _ => guard h0 fun _ => guard h0 fun _ => h1 _ _

theorem applyUpdateOrg_elim (i : Nat) (id : Int) (name desc : String) (enabled : Bool) (updated : Int)
    (changed : List String) (h0 : P a)
    (h1 : ∀ e' n', P { a with orgs := a.orgs.ins id e', orgsByName := n' }) :
    P (applyUpdateOrg a i id name desc enabled updated changed).1 := by
  unfold applyUpdateOrg
  refine guard h0 fun _ => guard h0 fun _ => guard h0 fun _ => ?_
  cases a.orgs.get? id with
  | none => exact h0
  | some ex => exact guard h0 fun _ => h1 _ _

theorem applyDeleteOrg_elim (id : Int) (h0 : P a)
    (h1 : ∀ ex, a.orgs.get? id = some ex →
      P { cascadeOrg a id with orgs := (cascadeOrg a id).orgs.del id,
                               orgsByName := (cascadeOrg a id).orgsByName.del ex.name,
                               teamsByOrg := (cascadeOrg a id).teamsByOrg.del id }) :
    P (applyDeleteOrg a id).1 := by
  unfold applyDeleteOrg
  refine guard h0 fun _ => ?_
  cases hg : a.orgs.get? id with
  | none => exact h0
  | some ex => exact h1 ex hg

theorem applyCreateTeam_elim (i : Nat) (e : TeamEntry) (h0 : P a)
    (h1 : ∀ e', e'.org = e.org → e'.name = e.name → a.orgs.has e.org = true →
      a.teamsByOrg.get2? e.org e.name = none →
      P { a with teams := a.teams.ins i e', teamsByOrg := a.teamsByOrg.ins2 e.org e.name i }) :
    P (applyCreateTeam a i e).1 := by
  unfold applyCreateTeam
  refine guard h0 fun _ => guard h0 fun _ => guardNot h0 fun ho => ?_
  cases hx : a.teamsByOrg.get2? e.org e.name with
  | some k => exact h0
  | none => exact h1 _ rfl rfl ho hx

/-- an update either keeps the team's name (and the index), or moves the index entry to a name that
was free -/
theorem applyUpdateTeam_elim (i : Nat) (id : Int) (name desc : String) (enabled : Bool) (updated : Int)
    (changed : List String) (h0 : P a)
    (h1 : ∀ ex e', a.teams.get? id = some ex → e'.org = ex.org → e'.name = ex.name →
      P { a with teams := a.teams.ins id e' })
    (h2 : ∀ ex e', a.teams.get? id = some ex → e'.org = ex.org → e'.name = name → name ≠ ex.name →
      a.teamsByOrg.get2? ex.org name = none →
      P { a with teams := a.teams.ins id e',
                 teamsByOrg := a.teamsByOrg.ins ex.org
                   (((a.teamsByOrg.inner ex.org).del ex.name).ins name id) }) :
    P (applyUpdateTeam a i id name desc enabled updated changed).1 := by
  unfold applyUpdateTeam
  refine guard h0 fun _ => guard h0 fun _ => guard h0 fun _ => ?_
  cases hg : a.teams.get? id with
  | none => exact h0
  | some ex =>
    dsimp only
    cases hc : changed.contains "name" with
    | false => exact h1 ex _ hg rfl rfl
    | true =>
      by_cases hn : name = ex.name
      · rw [show (name != ex.name) = false by simp [hn]]
        exact h1 ex _ hg rfl (by rw [if_pos rfl]; exact hn)
      · rw [show (name != ex.name) = true by simp [hn]]
        cases hx : a.teamsByOrg.get2? ex.org name with
        | some k => exact h0
        | none => exact h2 ex _ hg rfl rfl hn hx

theorem applyDeleteTeam_elim (id : Int) (h0 : P a)
    (h1 : ∀ ex, a.teams.get? id = some ex →
      P { cascadeTeam a id with teams := (cascadeTeam a id).teams.del id,
                                teamsByOrg := (cascadeTeam a id).teamsByOrg.del2 ex.org ex.name }) :
    P (applyDeleteTeam a id).1 := by
  unfold applyDeleteTeam
  refine guard h0 fun _ => ?_
  cases hg : a.teams.get? id with
  | none => exact h0
  | some ex => exact h1 ex hg

theorem applyCreateRole_elim (i : Nat) (e : RoleEntry) (h0 : P a)
    (h1 : ∀ e', e'.team = e.team → a.teams.has e.team = true →
      P { a with roles := a.roles.ins i e', rolesByTeam := a.rolesByTeam.ins2 e.team i () }) :
    P (applyCreateRole a i e).1 := by
  unfold applyCreateRole
  exact guard h0 fun _ => guard h0 fun _ => guardNot h0 fun ht => h1 _ rfl ht

theorem applyUpdateRole_elim (i : Nat) (id : Int) (pattern perms : String) (changed : List String)
    (h0 : P a)
    (h1 : ∀ ex e', a.roles.get? id = some ex → e'.team = ex.team → P { a with roles := a.roles.ins id e' }) :
    P (applyUpdateRole a i id pattern perms changed).1 := by
  unfold applyUpdateRole
  refine guard h0 fun _ => guard h0 fun _ => guard h0 fun _ => ?_
  cases hg : a.roles.get? id with
  | none => exact h0
  | some ex => exact h1 ex _ hg rfl

theorem applyDeleteRole_elim (id : Int) (h0 : P a)
    (h1 : ∀ ex, a.roles.get? id = some ex →
      P { cascadeRoleAndDelete a id with rolesByTeam := a.rolesByTeam.del2 ex.team id }) :
    P (applyDeleteRole a id).1 := by
  unfold applyDeleteRole
  refine guard h0 fun _ => ?_
  cases hg : a.roles.get? id with
  | none => exact h0
  | some ex => exact h1 ex hg

theorem applyCreateMPerm_elim (i : Nat) (e : MPermEntry) (h0 : P a)
    (h1 : ∀ e', e'.role = e.role → a.roles.has e.role = true →
      P { a with mperms := a.mperms.ins i e', mpermsByRole := a.mpermsByRole.ins2 e.role i () }) :
    P (applyCreateMPerm a i e).1 := by
  unfold applyCreateMPerm
  exact guard h0 fun _ => guard h0 fun _ => guardNot h0 fun hr => h1 _ rfl hr

theorem applyDeleteMPerm_elim (id : Int) (h0 : P a)
    (h1 : ∀ ex, a.mperms.get? id = some ex →
      P { a with mperms := a.mperms.del id, mpermsByRole := a.mpermsByRole.del2 ex.role id }) :
    P (applyDeleteMPerm a id).1 := by
  unfold applyDeleteMPerm
  refine guard h0 fun _ => ?_
  cases hg : a.mperms.get? id with
  | none => exact h0
  | some ex => exact h1 ex hg

theorem applyAddMember_elim (i : Nat) (e : MemberEntry) (h0 : P a)
    (h1 : a.tokens.has e.token = true → a.teams.has e.team = true →
      a.memByPair.get2? e.token e.team = none →
      P { a with members := a.members.ins i { e with id := i, lsn := i },
                 memByPair := a.memByPair.ins2 e.token e.team i,
                 memByToken := a.memByToken.ins2 e.token i (),
                 memByTeam := a.memByTeam.ins2 e.team i () }) :
    P (applyAddMember a i e).1 := by
  unfold applyAddMember
  refine guard h0 fun _ => guard h0 fun _ => guardNot h0 fun hk => guardNot h0 fun ht => ?_
  cases hx : a.memByPair.get2? e.token e.team with
  | some k => exact h0
  | none => exact h1 hk ht hx

theorem applyRemoveMember_elim (token team : Int) (h0 : P a)
    (h1 : ∀ mid, a.memByPair.get2? token team = some mid →
      P { a with memByPair := a.memByPair.del2 token team, memByToken := a.memByToken.del2 token mid,
                 memByTeam := a.memByTeam.del2 team mid, members := a.members.del mid }) :
    P (applyRemoveMember a token team).1 := by
  unfold applyRemoveMember
  refine guard h0 fun _ => ?_
  cases hg : a.memByPair.get2? token team with
  | none => exact h0
  | some mid => exact h1 mid hg

/-- the bodies of the two membership cascade loops: nothing when the id names no record -/
theorem memCascadeByTeam_elim (mid : Int) (h0 : a.members.get? mid = none → P a)
    (h1 : ∀ mem, a.members.get? mid = some mem →
      P { a with memByPair := a.memByPair.del2 mem.token mem.team,
                 memByToken := a.memByToken.del2 mem.token mid, members := a.members.del mid }) :
    P (memCascadeByTeam a mid) := by
  unfold memCascadeByTeam
  cases hg : a.members.get? mid with
  | none => exact h0 hg
  | some mem => exact h1 mem hg

theorem memCascadeByToken_elim (mid : Int) (h0 : a.members.get? mid = none → P a)
    (h1 : ∀ mem, a.members.get? mid = some mem →
      P { a with memByPair := a.memByPair.del2 mem.token mem.team,
                 memByTeam := a.memByTeam.del2 mem.team mid, members := a.members.del mid }) :
    P (memCascadeByToken a mid) := by
  unfold memCascadeByToken
  cases hg : a.members.get? mid with
  | none => exact h0 hg
  | some mem => exact h1 mem hg

end

/-- the fields the token invariant reads -/
def tokPart (a : AuthSt) := (a.tokens, a.byName, a.byPrefix)

/-- the fields the membership invariant reads -/
def memPart (a : AuthSt) := (a.members, a.memByPair, a.memByToken, a.memByTeam)

theorem foldl_frame {α β : Type} (π : AuthSt → β) (f : AuthSt → α → AuthSt)
    (hf : ∀ x r, π (f x r) = π x) (l : List α) (x : AuthSt) : π (l.foldl f x) = π x :=
  List.foldlRecOn (motive := fun y => π y = π x) l f rfl fun y hy r _ => (hf y r).trans hy

theorem cascadeRoleAndDelete_tok (x : AuthSt) (r : Int) : tokPart (cascadeRoleAndDelete x r) = tokPart x := by
  simp only [tokPart, cascadeRoleAndDelete, cascadeRole]

theorem cascadeRoleAndDelete_mem (x : AuthSt) (r : Int) : memPart (cascadeRoleAndDelete x r) = memPart x := by
  simp only [memPart, cascadeRoleAndDelete, cascadeRole]

theorem memCascadeByTeam_tok (x : AuthSt) (m : Int) : tokPart (memCascadeByTeam x m) = tokPart x :=
  memCascadeByTeam_elim (P := fun b => tokPart b = tokPart x) m (fun _ => rfl) fun _ _ => rfl

theorem memCascadeByToken_tok (x : AuthSt) (m : Int) : tokPart (memCascadeByToken x m) = tokPart x :=
  memCascadeByToken_elim (P := fun b => tokPart b = tokPart x) m (fun _ => rfl) fun _ _ => rfl

-- The cascades are unfolded and the projections reduced by `simp only` first: left to the
-- unifier, `tokPart { f x with .. } =?= tokPart x` is decided by comparing the two states field by
-- field before `tokPart` is looked at, which costs a hundred times more.
theorem cascadeTeam_tok (x : AuthSt) (t : Int) : tokPart (cascadeTeam x t) = tokPart x := by
  simp only [cascadeTeam, tokPart]
  exact (foldl_frame tokPart memCascadeByTeam memCascadeByTeam_tok _ _).trans
    (foldl_frame tokPart cascadeRoleAndDelete cascadeRoleAndDelete_tok _ x)

theorem cascadeTeamAndDelete_tok (x : AuthSt) (t : Int) : tokPart (cascadeTeamAndDelete x t) = tokPart x := by
  simp only [cascadeTeamAndDelete, tokPart]; exact cascadeTeam_tok x t

theorem cascadeOrg_tok (x : AuthSt) (o : Int) : tokPart (cascadeOrg x o) = tokPart x :=
  foldl_frame tokPart cascadeTeamAndDelete cascadeTeamAndDelete_tok _ x

/-- commands that write the token maps -/
def Cmd.onTokens : Cmd → Bool
  | .createToken _ | .updateToken .. | .revokeToken _ | .deleteToken _ | .rotateToken .. => true
  | _ => false

/-- commands that write the membership maps, directly or through a cascade -/
def Cmd.onMembers : Cmd → Bool
  | .deleteToken _ | .deleteOrg _ | .deleteTeam _ | .addMember _ | .removeMember .. => true
  | _ => false

/-- `b` has the token maps of `a` unless `c` writes them, and likewise the membership maps -/
def Frame (c : Cmd) (a b : AuthSt) : Prop :=
  (c.onTokens = false → tokPart b = tokPart a) ∧ (c.onMembers = false → memPart b = memPart a)

theorem Frame.refl (c : Cmd) (a : AuthSt) : Frame c a a := ⟨fun _ => rfl, fun _ => rfl⟩

theorem auStep_frame (a : AuthSt) (i : Nat) (c : Cmd) : Frame c a (auStep a i c) := by
  have h0 := Frame.refl c a
  cases c with
  | createToken t => exact applyCreateToken_elim i t h0 fun _ _ => ⟨nofun, fun _ => rfl⟩
  | updateToken id n d p e ch => exact applyUpdateToken_elim i id n d p e ch h0 fun _ _ _ _ _ => ⟨nofun, fun _ => rfl⟩
  | revokeToken id => exact applyRevokeToken_elim i id h0 fun _ _ => ⟨nofun, fun _ => rfl⟩
  | rotateToken id hs p => exact applyRotateToken_elim i id hs p h0 fun _ _ _ => ⟨nofun, fun _ => rfl⟩
  | deleteToken id => exact ⟨nofun, nofun⟩
  | createOrg e => exact applyCreateOrg_elim i e h0 fun _ _ => ⟨fun _ => rfl, fun _ => rfl⟩
  | updateOrg id n d en u ch => exact applyUpdateOrg_elim i id n d en u ch h0 fun _ _ => ⟨fun _ => rfl, fun _ => rfl⟩
  | deleteOrg id =>
    exact applyDeleteOrg_elim id h0 fun _ _ => ⟨fun _ => by simp only [tokPart]; exact cascadeOrg_tok a id, nofun⟩
  | createTeam e => exact applyCreateTeam_elim i e h0 fun _ _ _ _ _ => ⟨fun _ => rfl, fun _ => rfl⟩
  | updateTeam id n d en u ch =>
    exact applyUpdateTeam_elim i id n d en u ch h0 (fun _ _ _ _ _ => ⟨fun _ => rfl, fun _ => rfl⟩)
      fun _ _ _ _ _ _ _ => ⟨fun _ => rfl, fun _ => rfl⟩
  | deleteTeam id =>
    exact applyDeleteTeam_elim id h0 fun _ _ => ⟨fun _ => by simp only [tokPart]; exact cascadeTeam_tok a id, nofun⟩
  | createRole e => exact applyCreateRole_elim i e h0 fun _ _ _ => ⟨fun _ => rfl, fun _ => rfl⟩
  | updateRole id pt pm ch => exact applyUpdateRole_elim i id pt pm ch h0 fun _ _ _ _ => ⟨fun _ => rfl, fun _ => rfl⟩
  | deleteRole id =>
    exact applyDeleteRole_elim id h0 fun _ _ =>
      ⟨fun _ => by simp only [tokPart]; exact cascadeRoleAndDelete_tok a id,
       fun _ => by simp only [memPart]; exact cascadeRoleAndDelete_mem a id⟩
  | createMPerm e => exact applyCreateMPerm_elim i e h0 fun _ _ _ => ⟨fun _ => rfl, fun _ => rfl⟩
  | deleteMPerm id => exact applyDeleteMPerm_elim id h0 fun _ _ => ⟨fun _ => rfl, fun _ => rfl⟩
  | addMember e => exact applyAddMember_elim i e h0 fun _ _ _ => ⟨fun _ => rfl, nofun⟩
  | removeMember t tm => exact applyRemoveMember_elim t tm h0 fun _ _ => ⟨fun _ => rfl, nofun⟩
  | _ => exact h0

end Arc.C22
