import Arc.Proofs.C22.Parents
/-! `Restore` re-establishes `PInv` for ANY snapshot (its own orphan/duplicate quarantine + index
rebuild), so restore steps can appear anywhere in a history. -/
namespace Arc.C22
open SMap Arc.C23

/-- `restoreTeamsAux` and `restoreMembersAux` keep an entry when it passes a test and its key has not
been seen; both are instances of this filter. -/
def filterSeen {α κ : Type} [BEq κ] (ok : α → Bool) (key : α → κ) : List α → List κ → List α
  | [], _ => []
  | x :: t, seen =>
    if ok x && !seen.contains (key x) then x :: filterSeen ok key t (key x :: seen)
    else filterSeen ok key t seen

theorem filterSeen_spec {α κ : Type} [BEq κ] [LawfulBEq κ] (ok : α → Bool) (key : α → κ) (l : List α)
    (seen : List κ) :
    List.Sublist (filterSeen ok key l seen) l ∧
    (∀ p ∈ filterSeen ok key l seen, ok p = true ∧ key p ∉ seen) ∧
    (filterSeen ok key l seen).Pairwise (fun p q => key q ≠ key p) := by
  induction l generalizing seen with
  | nil => exact ⟨.slnil, nofun, .nil⟩
  | cons x t ih =>
    unfold filterSeen
    by_cases hc : (ok x && !seen.contains (key x)) = true
    · rw [if_pos hc]
      rw [Bool.and_eq_true, Bool.not_eq_true', List.contains_eq_mem, decide_eq_false_iff_not] at hc
      have ⟨i0, i1, i2⟩ := ih (key x :: seen)
      refine ⟨i0.cons_cons x, fun p hp => ?_, List.pairwise_cons.mpr ⟨fun q hq hh => ?_, i2⟩⟩
      · rcases List.mem_cons.mp hp with rfl | hp
        · exact hc
        · exact ⟨(i1 p hp).1, fun hh => (i1 p hp).2 (List.mem_cons_of_mem _ hh)⟩
      · exact (i1 q hq).2 (hh ▸ List.mem_cons_self)
    · rw [if_neg hc]
      have ⟨i0, i1, i2⟩ := ih seen
      exact ⟨i0.cons x, i1, i2⟩

theorem restoreTeams_spec (orgs : SMap Int OrgEntry) (l : SMap Int TeamEntry) :
    (∀ p ∈ restoreTeams orgs l, orgs.has p.2.org = true) ∧
    (restoreTeams orgs l).Pairwise (fun p q => (q.2.org, q.2.name) ≠ (p.2.org, p.2.name)) := by
  have e : ∀ l seen, restoreTeamsAux orgs l seen =
      filterSeen (fun p => validTeam p.2 && orgs.has p.2.org) (fun p => (p.2.org, p.2.name)) l seen := by
    intro l
    induction l with
    | nil => intro _; rfl
    | cons q t ih => intro _; obtain ⟨id, e⟩ := q; simp only [restoreTeamsAux, filterSeen, ih]
  have ⟨_, h1, h2⟩ := filterSeen_spec (fun p : Int × TeamEntry => validTeam p.2 && orgs.has p.2.org)
    (fun p => (p.2.org, p.2.name)) l []
  rw [restoreTeams, e]
  exact ⟨fun p hp => ((Bool.and_eq_true _ _).mp (h1 p hp).1).2, h2⟩

theorem restoreMembers_spec (tokens : SMap Int TokenEntry) (teams : SMap Int TeamEntry)
    (l : SMap Int MemberEntry) :
    List.Sublist (restoreMembers tokens teams l) l ∧
    (∀ p ∈ restoreMembers tokens teams l, tokens.has p.2.token = true ∧ teams.has p.2.team = true) ∧
    (restoreMembers tokens teams l).Pairwise (fun p q => (q.2.token, q.2.team) ≠ (p.2.token, p.2.team)) := by
  have e : ∀ l seen, restoreMembersAux tokens teams l seen =
      filterSeen (fun p => validMember p.2 && tokens.has p.2.token && teams.has p.2.team)
        (fun p => (p.2.token, p.2.team)) l seen := by
    intro l
    induction l with
    | nil => intro _; rfl
    | cons q t ih => intro _; obtain ⟨id, e⟩ := q; simp only [restoreMembersAux, filterSeen, ih]
  have ⟨h0, h1, h2⟩ := filterSeen_spec
    (fun p : Int × MemberEntry => validMember p.2 && tokens.has p.2.token && teams.has p.2.team)
    (fun p => (p.2.token, p.2.team)) l []
  rw [restoreMembers, e]
  refine ⟨h0, fun p hp => ?_, h2⟩
  have := (h1 p hp).1
  rw [Bool.and_eq_true, Bool.and_eq_true] at this
  exact ⟨this.1.2, this.2⟩

theorem pinv_restoreAu (sn : Snapshot) : PInv (restoreAu sn) := by
  unfold restoreAu
  exact ⟨fun k e hk => (restoreTeams_spec _ _).1 _ (get?_some_mem hk),
    fun k e hk => ((Bool.and_eq_true _ _).mp (List.mem_filter.mp (get?_some_mem hk)).2).2,
    fun k e hk => ((Bool.and_eq_true _ _).mp (List.mem_filter.mp (get?_some_mem hk)).2).2,
    fun k e hk => (restoreMembers_spec _ _ _).2.1 _ (get?_some_mem hk),
    fun k e hk => foldl_ins2_mem (fun p : Int × TeamEntry => p.2.org) (·.2.name) (·.1) _ []
      ((restoreTeams_spec _ _).2.imp fun h h1 h2 => absurd (Prod.ext h1 h2) h) (k, e) (get?_some_mem hk),
    fun k e hk => foldl_ins2_listed RoleEntry.team hk, fun k e hk => foldl_ins2_listed MPermEntry.role hk,
    fun k e hk => ⟨foldl_ins2_listed MemberEntry.token hk, foldl_ins2_listed MemberEntry.team hk⟩⟩

theorem pinv_runEv (s : State) (evs : List Ev) (h : PInv s.au) : PInv (runEv s evs).au :=
  runEv_inv (P := fun s => PInv s.au) (fun s i c h => apply_au s i c ▸ pinv_step h i c)
    (fun _ _ => pinv_restoreAu _) s evs h

end Arc.C22
