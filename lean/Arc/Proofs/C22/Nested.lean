import Arc.Proofs.C22.SMapLemmas
/-! Nested maps `K1 → K2 → V` under the code's discipline "create the inner map on first insert, drop
the outer key when the inner map becomes empty" (`ins2` / `del2`): lookup equations for `get2?`,
preservation of `NestedOk`, canonical form (`ext2`), and what an index rebuilt by folding `ins2` over
a table contains (`foldl_ins2_*`). -/
set_option linter.unusedSectionVars false
namespace Arc.C22
namespace SMap
variable {K1 K2 V : Type} [DecidableEq K1] [LOrd K1] [DecidableEq K2] [LOrd K2]

/-- outer map sorted, every inner map sorted and non-empty -/
def NestedOk (m : SMap K1 (SMap K2 V)) : Prop :=
  Sorted m ∧ ∀ o inner, get? m o = some inner → Sorted inner ∧ inner ≠ []

theorem nestedOk_nil : NestedOk ([] : SMap K1 (SMap K2 V)) :=
  ⟨sorted_nil, fun o inner h => by simp at h⟩

theorem get2?_def (m : SMap K1 (SMap K2 V)) (o : K1) (i : K2) :
    get2? m o i = (inner m o).get? i := by
  unfold get2? inner
  cases get? m o <;> rfl

theorem inner_ins (m : SMap K1 (SMap K2 V)) (o o' : K1) (x : SMap K2 V) :
    inner (m.ins o x) o' = if o' = o then x else inner m o' := by
  unfold inner; rw [get?_ins]; exact apply_ite (Option.getD · []) ..

theorem inner_del (m : SMap K1 (SMap K2 V)) (o o' : K1) :
    inner (m.del o) o' = if o' = o then [] else inner m o' := by
  unfold inner; rw [get?_del]; exact apply_ite (Option.getD · []) ..

theorem get2?_ins_outer (m : SMap K1 (SMap K2 V)) (o o' : K1) (x : SMap K2 V) (i : K2) :
    get2? (m.ins o x) o' i = if o' = o then x.get? i else get2? m o' i := by
  rw [get2?_def, inner_ins, get2?_def]; exact apply_ite (get? · i) ..

theorem get2?_del_outer (m : SMap K1 (SMap K2 V)) (o o' : K1) (i : K2) :
    get2? (m.del o) o' i = if o' = o then none else get2? m o' i := by
  rw [get2?_def, inner_del, get2?_def]; exact apply_ite (get? · i) ..

theorem get2?_ins2 (m : SMap K1 (SMap K2 V)) (o o' : K1) (i i' : K2) (v : V) :
    get2? (ins2 o i v m) o' i' = if o' = o ∧ i' = i then some v else get2? m o' i' := by
  simp only [get2?_def]
  unfold ins2
  rw [inner_ins]
  by_cases ho : o' = o
  · subst ho
    simp only [if_true, true_and, get?_ins]
  · simp [ho]

theorem inner_del2 (m : SMap K1 (SMap K2 V)) (o o' : K1) (i : K2) :
    inner (del2 o i m) o' = if o' = o then (inner m o).del i else inner m o' := by
  unfold del2
  cases hg : get? m o with
  | none =>
    by_cases ho : o' = o
    · rw [if_pos ho, ho, inner, hg]; rfl
    · rw [if_neg ho]
  | some inn =>
    have hinn : inner m o = inn := congrArg (Option.getD · []) hg
    rw [hinn]
    dsimp only
    by_cases hem : (inn.del i).isEmpty = true
    · rw [if_pos hem, inner_del, ← List.isEmpty_iff.mp hem]
    · rw [if_neg hem, inner_ins]

theorem get2?_del2 (m : SMap K1 (SMap K2 V)) (o o' : K1) (i i' : K2) :
    get2? (del2 o i m) o' i' = if o' = o ∧ i' = i then none else get2? m o' i' := by
  simp only [get2?_def, inner_del2]
  by_cases ho : o' = o
  · subst ho; simp only [if_true, true_and, get?_del]
  · simp only [ho, if_false, false_and]

theorem get2?_del_outer_some {m : SMap K1 (SMap K2 V)} {o o' : K1} {i : K2} {v : V}
    (h : get2? (m.del o) o' i = some v) : o' ≠ o ∧ get2? m o' i = some v :=
  Option.ite_none_left_eq_some.mp (get2?_del_outer m o o' i ▸ h)

theorem get2?_del2_some {m : SMap K1 (SMap K2 V)} {o o' : K1} {i i' : K2} {v : V}
    (h : get2? (del2 o i m) o' i' = some v) : ¬ (o' = o ∧ i' = i) ∧ get2? m o' i' = some v :=
  Option.ite_none_left_eq_some.mp (get2?_del2 m o o' i i' ▸ h)

theorem get2?_del2_of_ne {m : SMap K1 (SMap K2 V)} {o o' : K1} {i i' : K2} {v : Option V} (hne : i' ≠ i)
    (h : get2? m o' i' = v) : get2? (del2 o i m) o' i' = v := by
  rw [get2?_del2, if_neg fun hh => hne hh.2]; exact h

theorem sorted_inner {m : SMap K1 (SMap K2 V)} (h : NestedOk m) (o : K1) : Sorted (inner m o) := by
  unfold inner
  cases hg : get? m o with
  | none => exact sorted_nil
  | some y => exact (h.2 o y hg).1

theorem nestedOk_ins2 {m : SMap K1 (SMap K2 V)} (h : NestedOk m) (o : K1) (i : K2) (v : V) :
    NestedOk (ins2 o i v m) :=
  ⟨sorted_ins h.1, forall_get?_ins
    ⟨sorted_ins (sorted_inner h o), fun e => nomatch e ▸ get?_ins_self i v (inner m o)⟩
    fun o' x hx _ => h.2 o' x hx⟩

theorem nestedOk_del {m : SMap K1 (SMap K2 V)} (h : NestedOk m) (o : K1) : NestedOk (m.del o) :=
  ⟨sorted_del h.1, forall_get?_del fun o' x hx _ => h.2 o' x hx⟩

theorem nestedOk_del2 {m : SMap K1 (SMap K2 V)} (h : NestedOk m) (o : K1) (i : K2) :
    NestedOk (del2 o i m) := by
  unfold del2
  cases hg : get? m o with
  | none => exact h
  | some inn =>
    dsimp only
    by_cases hem : (inn.del i).isEmpty = true
    · rw [if_pos hem]; exact nestedOk_del h o
    · rw [if_neg hem]
      exact ⟨sorted_ins h.1, forall_get?_ins ⟨sorted_del (h.2 o inn hg).1, fun e => hem (e ▸ rfl)⟩
        fun o' x hx _ => h.2 o' x hx⟩

theorem ext2 {m1 m2 : SMap K1 (SMap K2 V)} (h1 : NestedOk m1) (h2 : NestedOk m2)
    (h : ∀ o i, get2? m1 o i = get2? m2 o i) : m1 = m2 :=
  ext_getD h1.1 h2.1 (fun o x hx => (h1.2 o x hx).2) (fun o x hx => (h2.2 o x hx).2) fun o =>
    ext (sorted_inner h1 o) (sorted_inner h2 o) fun i => (get2?_def m1 o i).symm.trans ((h o i).trans (get2?_def m2 o i))

theorem mem_keys_of_get2? {m : SMap K1 (SMap K2 V)} {o : K1} {i : K2} {v : V} (h : get2? m o i = some v) :
    i ∈ keys (inner m o) :=
  mem_keys.mpr ⟨v, (get2?_def m o i).symm.trans h⟩

theorem mem_vals_of_get2? {m : SMap K1 (SMap K2 V)} {o : K1} {i : K2} {v : V} (h : get2? m o i = some v) :
    v ∈ (inner m o).map (·.2) :=
  List.mem_map.mpr ⟨(i, v), get?_some_mem ((get2?_def m o i).symm.trans h), rfl⟩

section
variable {E : Type} (f : E → K1) (g : E → K2) (v : E → V) (l : List E) (acc : SMap K1 (SMap K2 V))

theorem foldl_ins2_sound {o : K1} {i : K2} {x : V}
    (h : get2? (l.foldl (fun acc p => acc.ins2 (f p) (g p) (v p)) acc) o i = some x) :
    get2? acc o i = some x ∨ ∃ p ∈ l, f p = o ∧ g p = i ∧ v p = x := by
  induction l generalizing acc with
  | nil => exact .inl h
  | cons q t ih =>
    rcases ih _ h with h1 | ⟨p, hp, h2⟩
    · rw [get2?_ins2] at h1
      by_cases hc : o = f q ∧ i = g q
      · rw [if_pos hc] at h1
        exact .inr ⟨q, List.mem_cons_self, hc.1.symm, hc.2.symm, Option.some.inj h1⟩
      · rw [if_neg hc] at h1; exact .inl h1
    · exact .inr ⟨p, List.mem_cons_of_mem _ hp, h2⟩

theorem foldl_ins2_keep {o : K1} {i : K2} {x : V} (h : get2? acc o i = some x)
    (hsame : ∀ p ∈ l, f p = o → g p = i → v p = x) :
    get2? (l.foldl (fun acc p => acc.ins2 (f p) (g p) (v p)) acc) o i = some x := by
  induction l generalizing acc with
  | nil => exact h
  | cons q t ih =>
    refine ih _ ?_ fun p hp => hsame p (List.mem_cons_of_mem _ hp)
    rw [get2?_ins2]
    by_cases hc : o = f q ∧ i = g q
    · rw [if_pos hc, hsame q List.mem_cons_self hc.1.symm hc.2.symm]
    · rw [if_neg hc]; exact h

/-- `hd`: a later element with the same two keys carries the same value, so it overwrites nothing. True of
every list when the values are `()`, and of any values when the key pairs are pairwise distinct. -/
theorem foldl_ins2_mem (hd : l.Pairwise (fun p q => f q = f p → g q = g p → v q = v p)) (p : E) (hp : p ∈ l) :
    get2? (l.foldl (fun acc p => acc.ins2 (f p) (g p) (v p)) acc) (f p) (g p) = some (v p) := by
  induction l generalizing acc with
  | nil => cases hp
  | cons q t ih =>
    have ⟨hq, ht⟩ := List.pairwise_cons.mp hd
    rcases List.mem_cons.mp hp with hp | hp
    · subst hp
      exact foldl_ins2_keep f g v t _ (by rw [get2?_ins2, if_pos ⟨rfl, rfl⟩]) hq
    · exact ih _ ht hp

end

/-- a set-valued index rebuilt from a table lists every record of the table under its `f` -/
theorem foldl_ins2_listed {E : Type} (f : E → K1) {l : SMap K2 E} {k : K2} {e : E} (h : get? l k = some e) :
    get2? (l.foldl (fun acc p => acc.ins2 (f p.2) p.1 ()) []) (f e) k = some () :=
  foldl_ins2_mem (fun p : K2 × E => f p.2) Prod.fst (fun _ => ()) l [] (List.pairwise_of_forall fun _ _ _ _ => rfl)
    (k, e) (get?_some_mem h)

/-- … and, the table being sorted, nothing else -/
theorem foldl_ins2_listed_sound {E : Type} (f : E → K1) {l : SMap K2 E} (hs : Sorted l) {o : K1} {k : K2}
    (h : get2? (l.foldl (fun acc p => acc.ins2 (f p.2) p.1 ()) []) o k = some ()) :
    ∃ e, get? l k = some e ∧ f e = o := by
  rcases foldl_ins2_sound (fun p : K2 × E => f p.2) Prod.fst (fun _ => ()) l [] h with h1 | ⟨p, hp, h1, h2, _⟩
  · cases h1
  · exact ⟨p.2, h2 ▸ mem_get?_of_sorted hs hp, h1⟩

end SMap
end Arc.C22
