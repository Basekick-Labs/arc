import Arc.Proofs.C22.Commands
/-! RBAC parent existence: the inductive invariant `PInv` (parents exist + every child is listed in
the traversal index its parent's cascade walks) and its preservation by every command, including the
three nested cascades. Needs neither sortedness nor fresh ids. -/
namespace Arc.C22
open SMap Arc.C23

theorem has_of_get? {K V : Type} [DecidableEq K] [LOrd K] {m : SMap K V} {k : K} {v : V}
    (h : get? m k = some v) : has m k = true :=
  congrArg Option.isSome h

structure PInv (a : AuthSt) : Prop where
  p1 : ∀ k e, a.teams.get? k = some e → a.orgs.has e.org = true
  p2 : ∀ k e, a.roles.get? k = some e → a.teams.has e.team = true
  p3 : ∀ k e, a.mperms.get? k = some e → a.roles.has e.role = true
  p4 : ∀ k e, a.members.get? k = some e → a.tokens.has e.token = true ∧ a.teams.has e.team = true
  /-- every team is listed under (its org, its name) — what `cascadeDeleteOrgLocked` walks -/
  c1 : ∀ k e, a.teams.get? k = some e → get2? a.teamsByOrg e.org e.name = some k
  c2 : ∀ k e, a.roles.get? k = some e → get2? a.rolesByTeam e.team k = some ()
  c3 : ∀ k e, a.mperms.get? k = some e → get2? a.mpermsByRole e.role k = some ()
  c4 : ∀ k e, a.members.get? k = some e →
        get2? a.memByToken e.token k = some () ∧ get2? a.memByTeam e.team k = some ()

theorem pinv_empty : PInv ({} : AuthSt) := by
  constructor <;> (intro _ _ h; cases h)

theorem PInv.parents {a : AuthSt} (h : PInv a) : ParentsExist a := ⟨h.p1, h.p2, h.p3, h.p4⟩

theorem pinv_tokens_ins {a : AuthSt} (h : PInv a) (id : Int) (e : TokenEntry) (bn : SMap String Int)
    (bp : SMap String (List Int)) :
    PInv { a with tokens := a.tokens.ins id e, byName := bn, byPrefix := bp } :=
  ⟨h.p1, h.p2, h.p3, fun k x hk => ⟨has_ins_of_has (h.p4 k x hk).1, (h.p4 k x hk).2⟩,
   h.c1, h.c2, h.c3, h.c4⟩

theorem pinv_orgs_ins {a : AuthSt} (h : PInv a) (id : Int) (e : OrgEntry) (bn : SMap String Int) :
    PInv { a with orgs := a.orgs.ins id e, orgsByName := bn } :=
  ⟨fun k x hk => has_ins_of_has (h.p1 k x hk), h.p2, h.p3, h.p4, h.c1, h.c2, h.c3, h.c4⟩

/-- a team is added or replaced under key `id`, with its parent present; the `teamsByOrg` clause for
the new binding and for the old ones is the caller's -/
theorem pinv_teams_ins {a : AuthSt} (h : PInv a) (id : Int) (e : TeamEntry) (idx : SMap Int (SMap String Int))
    (ho : a.orgs.has e.org = true) (hnew : get2? idx e.org e.name = some id)
    (hold : ∀ k x, a.teams.get? k = some x → k ≠ id → get2? idx x.org x.name = some k) :
    PInv { a with teams := a.teams.ins id e, teamsByOrg := idx } :=
  ⟨forall_get?_ins ho fun k x hk _ => h.p1 k x hk, fun k x hk => has_ins_of_has (h.p2 k x hk), h.p3,
   fun k x hk => ⟨(h.p4 k x hk).1, has_ins_of_has (h.p4 k x hk).2⟩,
   forall_get?_ins hnew hold, h.c2, h.c3, h.c4⟩

theorem pinv_createTeam {a : AuthSt} (h : PInv a) (i : Nat) (e : TeamEntry) :
    PInv (applyCreateTeam a i e).1 := by
  refine applyCreateTeam_elim i e h fun e' ho hn hhas hfree =>
    pinv_teams_ins h i e' _ (ho ▸ hhas) (by rw [ho, hn, get2?_ins2, if_pos ⟨rfl, rfl⟩]) fun k x hk _ => ?_
  rw [get2?_ins2, if_neg]; exact h.c1 k x hk
  rintro ⟨h1, h2⟩
  have c := h.c1 k x hk
  rw [h1, h2, hfree] at c; cases c

theorem pinv_updateTeam {a : AuthSt} (h : PInv a) (i : Nat) (id : Int) (name desc : String)
    (enabled : Bool) (updated : Int) (changed : List String) :
    PInv (applyUpdateTeam a i id name desc enabled updated changed).1 := by
  refine applyUpdateTeam_elim i id name desc enabled updated changed h
    (fun ex e' hg ho hn => pinv_teams_ins h id e' _ (ho ▸ h.p1 id ex hg) (by rw [ho, hn]; exact h.c1 id ex hg)
      fun k x hk _ => h.c1 k x hk)
    fun ex e' hg ho hn hne hfree => pinv_teams_ins h id e' _ (ho ▸ h.p1 id ex hg)
      (by rw [ho, hn, get2?_ins_outer, if_pos rfl, get?_ins_self]) fun k x hk hki => ?_
  -- the index moves (ex.org, ex.name) ↦ (ex.org, name); `name` was free, `ex.name` was `id`'s alone
  have c := h.c1 k x hk
  rw [get2?_ins_outer]
  by_cases hxo : x.org = ex.org
  · have h1 : x.name ≠ name := by
      intro hh; rw [hxo, hh, hfree] at c; cases c
    have h2 : x.name ≠ ex.name := by
      intro hh; rw [hxo, hh, h.c1 id ex hg] at c; exact hki (Option.some.inj c).symm
    rw [if_pos hxo, get?_ins, if_neg h1, get?_del, if_neg h2, ← get2?_def, ← hxo]; exact c
  · rw [if_neg hxo]; exact c

theorem pinv_createRole {a : AuthSt} (h : PInv a) (i : Nat) (e : RoleEntry) :
    PInv (applyCreateRole a i e).1 := by
  refine applyCreateRole_elim i e h fun e' ht hhas =>
    ⟨h.p1, forall_get?_ins (ht ▸ hhas) fun k x hk _ => h.p2 k x hk,
      fun k x hk => has_ins_of_has (h.p3 k x hk), h.p4, h.c1,
      forall_get?_ins (by rw [ht, get2?_ins2, if_pos ⟨rfl, rfl⟩]) fun k x hk _ => ?_, h.c3, h.c4⟩
  rw [get2?_ins2]; split
  · rfl
  · exact h.c2 k x hk

theorem pinv_updateRole {a : AuthSt} (h : PInv a) (i : Nat) (id : Int) (pattern perms : String)
    (changed : List String) : PInv (applyUpdateRole a i id pattern perms changed).1 :=
  applyUpdateRole_elim i id pattern perms changed h fun ex _ hg ht =>
    ⟨h.p1, forall_get?_ins (ht ▸ h.p2 id ex hg) fun k x hk _ => h.p2 k x hk,
      fun k x hk => has_ins_of_has (h.p3 k x hk), h.p4, h.c1,
      forall_get?_ins (ht ▸ h.c2 id ex hg) fun k x hk _ => h.c2 k x hk, h.c3, h.c4⟩

theorem pinv_createMPerm {a : AuthSt} (h : PInv a) (i : Nat) (e : MPermEntry) :
    PInv (applyCreateMPerm a i e).1 := by
  refine applyCreateMPerm_elim i e h fun e' hr hhas =>
    ⟨h.p1, h.p2, forall_get?_ins (hr ▸ hhas) fun k x hk _ => h.p3 k x hk, h.p4, h.c1, h.c2,
      forall_get?_ins (by rw [hr, get2?_ins2, if_pos ⟨rfl, rfl⟩]) fun k x hk _ => ?_, h.c4⟩
  rw [get2?_ins2]; split
  · rfl
  · exact h.c3 k x hk

theorem pinv_addMember {a : AuthSt} (h : PInv a) (i : Nat) (e : MemberEntry) :
    PInv (applyAddMember a i e).1 := by
  refine applyAddMember_elim i e h fun htk htm _ =>
    ⟨h.p1, h.p2, h.p3, forall_get?_ins ⟨htk, htm⟩ fun k x hk _ => h.p4 k x hk, h.c1, h.c2, h.c3,
      forall_get?_ins ⟨by rw [get2?_ins2, if_pos ⟨rfl, rfl⟩], by rw [get2?_ins2, if_pos ⟨rfl, rfl⟩]⟩
        fun k x hk _ => ?_⟩
  refine ⟨?_, ?_⟩ <;> (rw [get2?_ins2]; split)
  · rfl
  · exact (h.c4 k x hk).1
  · rfl
  · exact (h.c4 k x hk).2

/-- membership `mid` is dropped from the primary map; the two traversal indexes may lose `mid`'s own
entries and nothing else (the pair index is not read by `PInv`) -/
theorem pinv_dropMember {a : AuthSt} (h : PInv a) (mid : Int) (bp : SMap Int (SMap Int Int))
    (byTok byTeam : SMap Int (SSet Int))
    (hk : ∀ tok k, k ≠ mid → get2? a.memByToken tok k = some () → get2? byTok tok k = some ())
    (ht : ∀ tm k, k ≠ mid → get2? a.memByTeam tm k = some () → get2? byTeam tm k = some ()) :
    PInv { a with memByPair := bp, memByToken := byTok, memByTeam := byTeam,
                  members := a.members.del mid } :=
  ⟨h.p1, h.p2, h.p3, forall_get?_del fun k x hx _ => h.p4 k x hx, h.c1, h.c2, h.c3,
   forall_get?_del fun k x hx hne => ⟨hk _ k hne (h.c4 k x hx).1, ht _ k hne (h.c4 k x hx).2⟩⟩

theorem pinv_memCascadeByTeam {a : AuthSt} (h : PInv a) (mid : Int) : PInv (memCascadeByTeam a mid) :=
  memCascadeByTeam_elim mid (fun _ => h) fun _ _ =>
    pinv_dropMember h mid _ _ _ (fun _ _ hne => get2?_del2_of_ne hne) fun _ _ _ => id

theorem pinv_memCascadeByToken {a : AuthSt} (h : PInv a) (mid : Int) : PInv (memCascadeByToken a mid) :=
  memCascadeByToken_elim mid (fun _ => h) fun _ _ =>
    pinv_dropMember h mid _ _ _ (fun _ _ _ => id) fun _ _ hne => get2?_del2_of_ne hne

theorem pinv_removeMember {a : AuthSt} (h : PInv a) (token team : Int) :
    PInv (applyRemoveMember a token team).1 :=
  applyRemoveMember_elim token team h fun mid _ =>
    pinv_dropMember h mid _ _ _ (fun _ _ hne => get2?_del2_of_ne hne) fun _ _ hne => get2?_del2_of_ne hne

theorem memCascadeByTeam_members {a : AuthSt} {mid k : Int} {e : MemberEntry} :
    (memCascadeByTeam a mid).members.get? k = some e → k ≠ mid ∧ a.members.get? k = some e :=
  memCascadeByTeam_elim (P := fun b => b.members.get? k = some e → _) mid
    (fun hn hk => ⟨fun e2 => (nomatch (e2 ▸ hk).symm.trans hn), hk⟩) fun _ _ => get?_del_some

theorem memCascadeByToken_members {a : AuthSt} {mid k : Int} {e : MemberEntry} :
    (memCascadeByToken a mid).members.get? k = some e → k ≠ mid ∧ a.members.get? k = some e :=
  memCascadeByToken_elim (P := fun b => b.members.get? k = some e → _) mid
    (fun hn hk => ⟨fun e2 => (nomatch (e2 ▸ hk).symm.trans hn), hk⟩) fun _ _ => get?_del_some

theorem pinv_deleteMPerm {a : AuthSt} (h : PInv a) (id : Int) : PInv (applyDeleteMPerm a id).1 :=
  applyDeleteMPerm_elim id h fun _ _ =>
    ⟨h.p1, h.p2, forall_get?_del fun k x hk _ => h.p3 k x hk, h.p4, h.c1, h.c2,
      forall_get?_del fun k x hk hne => get2?_del2_of_ne hne (h.c3 k x hk), h.c4⟩

/-- `cascadeDeleteRoleLocked` followed by `delete(f.roles, roleID)`: the measurement permissions listed
under the role go, and by `c3` these are all that refer to it -/
theorem pinv_cascadeRoleAndDelete {a : AuthSt} (h : PInv a) (r : Int) :
    PInv (cascadeRoleAndDelete a r) := by
  unfold cascadeRoleAndDelete cascadeRole
  have hm : ∀ k e, ((keys (a.mpermsByRole.inner r)).foldl (fun m k => m.del k) a.mperms).get? k = some e →
      a.mperms.get? k = some e ∧ e.role ≠ r := by
    intro k e hk
    obtain ⟨hin, hk⟩ := get?_foldl_del_some hk
    exact ⟨hk, fun he => hin (mem_keys_of_get2? (he ▸ h.c3 k e hk))⟩
  exact ⟨h.p1, forall_get?_del fun k x hk _ => h.p2 k x hk,
    fun k e hk => has_del_of_ne (h.p3 k e (hm k e hk).1) (hm k e hk).2, h.p4, h.c1,
    forall_get?_del fun k x hk _ => h.c2 k x hk,
    fun k e hk => by rw [get2?_del_outer, if_neg (hm k e hk).2]; exact h.c3 k e (hm k e hk).1, h.c4⟩

theorem pinv_deleteRole {a : AuthSt} (h : PInv a) (id : Int) : PInv (applyDeleteRole a id).1 := by
  refine applyDeleteRole_elim id h fun ex _ => ?_
  have g := pinv_cascadeRoleAndDelete h id
  refine ⟨g.p1, g.p2, g.p3, g.p4, g.c1, ?_, g.c3, g.c4⟩
  exact forall_get?_del (m := a.roles) fun k x hk hne => get2?_del2_of_ne hne (h.c2 k x hk)

/-- a cascade loop `f` that removes key `r` from the map `g` at step `r`: what is left in `g` after the
loop over `rs` was there before, under a key outside `rs` -/
theorem fold_cascade {V : Type} (f : AuthSt → Int → AuthSt) (g : AuthSt → SMap Int V)
    (hp : ∀ a r, PInv a → PInv (f a r))
    (hg : ∀ {a r k v}, (g (f a r)).get? k = some v → k ≠ r ∧ (g a).get? k = some v)
    (rs : List Int) (a : AuthSt) (h : PInv a) :
    PInv (rs.foldl f a) ∧ ∀ {k v}, (g (rs.foldl f a)).get? k = some v → k ∉ rs ∧ (g a).get? k = some v := by
  induction rs generalizing a with
  | nil => exact ⟨h, fun hk => ⟨List.not_mem_nil, hk⟩⟩
  | cons r t ih =>
    obtain ⟨i1, i2⟩ := ih (f a r) (hp a r h)
    refine ⟨i1, fun hk => ?_⟩
    obtain ⟨ht, hk⟩ := i2 hk
    obtain ⟨hr, hk⟩ := hg hk
    exact ⟨fun hm => (List.mem_cons.mp hm).elim hr ht, hk⟩

theorem cascadeTeam_teams (a : AuthSt) (t : Int) : (cascadeTeam a t).teams = a.teams := by
  simp only [cascadeTeam]
  exact (foldl_frame (·.teams) memCascadeByTeam
      (fun x m => memCascadeByTeam_elim (P := fun b => b.teams = x.teams) m (fun _ => rfl) fun _ _ => rfl) _ _).trans
    (foldl_frame (·.teams) cascadeRoleAndDelete
      (fun x r => by simp only [cascadeRoleAndDelete, cascadeRole]) _ a)

/-- `cascadeDeleteTeamLocked` followed by `delete(f.teams, teamID)`: the roles and memberships listed
under the team go, and by `c2`/`c4` these are all that refer to it -/
theorem pinv_cascadeTeamAndDelete {a : AuthSt} (h : PInv a) (t : Int) :
    PInv (cascadeTeamAndDelete a t) := by
  simp only [cascadeTeamAndDelete, cascadeTeam]
  obtain ⟨q1, q2⟩ := fold_cascade cascadeRoleAndDelete (·.roles) (fun _ r hx => pinv_cascadeRoleAndDelete hx r)
    (fun hk => get?_del_some (by simpa only [cascadeRoleAndDelete, cascadeRole] using hk))
    (keys (a.rolesByTeam.inner t)) a h
  generalize (keys (a.rolesByTeam.inner t)).foldl cascadeRoleAndDelete a = b1 at q1 q2
  have noRole : ∀ k e, b1.roles.get? k = some e → e.team ≠ t := by
    intro k e hk het
    obtain ⟨hin, hk⟩ := q2 hk
    exact hin (mem_keys_of_get2? (het ▸ h.c2 k e hk))
  have pb2 : PInv { b1 with rolesByTeam := b1.rolesByTeam.del t } :=
    ⟨q1.p1, q1.p2, q1.p3, q1.p4, q1.c1,
     fun k e hk => by rw [get2?_del_outer, if_neg (noRole k e hk)]; exact q1.c2 k e hk, q1.c3, q1.c4⟩
  obtain ⟨r1, r2⟩ := fold_cascade memCascadeByTeam (·.members) (fun _ m hx => pinv_memCascadeByTeam hx m)
    memCascadeByTeam_members (keys (b1.memByTeam.inner t)) _ pb2
  have rr := foldl_frame (·.roles) memCascadeByTeam
    (fun x m => memCascadeByTeam_elim (P := fun b => b.roles = x.roles) m (fun _ => rfl) fun _ _ => rfl)
    (keys (b1.memByTeam.inner t)) { b1 with rolesByTeam := b1.rolesByTeam.del t }
  generalize (keys (b1.memByTeam.inner t)).foldl memCascadeByTeam
    { b1 with rolesByTeam := b1.rolesByTeam.del t } = b3 at r1 r2 rr
  have noMem : ∀ k e, b3.members.get? k = some e → e.team ≠ t := by
    intro k e hk het
    obtain ⟨hin, hk⟩ := r2 hk
    exact hin (mem_keys_of_get2? (het ▸ (pb2.c4 k e hk).2))
  exact ⟨forall_get?_del fun k x hk _ => r1.p1 k x hk,
    fun k e hk => has_del_of_ne (r1.p2 k e hk) (noRole k e (rr ▸ hk)), r1.p3,
    fun k e hk => ⟨(r1.p4 k e hk).1, has_del_of_ne (r1.p4 k e hk).2 (noMem k e hk)⟩,
    forall_get?_del fun k x hk _ => r1.c1 k x hk, r1.c2, r1.c3,
    fun k e hk => ⟨(r1.c4 k e hk).1, by rw [get2?_del_outer, if_neg (noMem k e hk)]; exact (r1.c4 k e hk).2⟩⟩

theorem cascadeTeamAndDelete_teams {a : AuthSt} {t k : Int} {e : TeamEntry}
    (h : (cascadeTeamAndDelete a t).teams.get? k = some e) : k ≠ t ∧ a.teams.get? k = some e :=
  cascadeTeam_teams a t ▸ get?_del_some (m := (cascadeTeam a t).teams) h

theorem pinv_deleteTeam {a : AuthSt} (h : PInv a) (id : Int) : PInv (applyDeleteTeam a id).1 := by
  refine applyDeleteTeam_elim id h fun ex hg => ?_
  have g := pinv_cascadeTeamAndDelete h id
  have ht := cascadeTeam_teams a id
  simp only [cascadeTeamAndDelete] at g
  generalize cascadeTeam a id = b at g ht ⊢
  refine ⟨g.p1, g.p2, g.p3, g.p4, forall_get?_del fun k e hk hki => ?_, g.c2, g.c3, g.c4⟩
  -- a surviving team is listed elsewhere than the deleted one: `c1` makes (org, name) a key
  rw [get2?_del2, if_neg]; exact g.c1 k e (by rw [get?_del, if_neg hki]; exact hk)
  rintro ⟨h1, h2⟩
  have c := h.c1 k e (ht ▸ hk)
  rw [h1, h2, h.c1 id ex hg] at c
  exact hki (Option.some.inj c).symm

theorem pinv_deleteOrg {a : AuthSt} (h : PInv a) (id : Int) : PInv (applyDeleteOrg a id).1 := by
  refine applyDeleteOrg_elim id h fun ex _ => ?_
  unfold cascadeOrg
  obtain ⟨i1, i2⟩ := fold_cascade cascadeTeamAndDelete (·.teams) (fun _ t hx => pinv_cascadeTeamAndDelete hx t)
    cascadeTeamAndDelete_teams ((a.teamsByOrg.inner id).map (·.2)) a h
  generalize ((a.teamsByOrg.inner id).map (·.2)).foldl cascadeTeamAndDelete a = b at i1 i2
  -- by `c1` the loop has removed every team of the organisation
  have noTeam : ∀ k e, b.teams.get? k = some e → e.org ≠ id := by
    intro k e hk he
    obtain ⟨hin, hk⟩ := i2 hk
    exact hin (mem_vals_of_get2? (he ▸ h.c1 k e hk))
  exact ⟨fun k e hk => has_del_of_ne (i1.p1 k e hk) (noTeam k e hk), i1.p2, i1.p3, i1.p4,
    fun k e hk => by rw [get2?_del_outer, if_neg (noTeam k e hk)]; exact i1.c1 k e hk,
    i1.c2, i1.c3, i1.c4⟩

theorem pinv_deleteToken {a : AuthSt} (h : PInv a) (id : Int) : PInv (applyDeleteToken a id).1 := by
  refine applyDeleteToken_elim id h (fun ex _ hm => ?_) fun ex set _ hm => ?_
  · -- no membership names the token: `c4` would list it under `memByToken[id]`
    refine ⟨h.p1, h.p2, h.p3, fun k e hk => ⟨has_del_of_ne (h.p4 k e hk).1 ?_, (h.p4 k e hk).2⟩,
      h.c1, h.c2, h.c3, h.c4⟩
    intro he
    have c := (h.c4 k e hk).1
    rw [he, get2?, hm] at c; cases c
  · -- the cascade does not read what `dropToken` changes, so it is run on `a` and `dropToken` applied after
    rw [List.foldl_hom (fun x => dropToken x id ex) (g₁ := memCascadeByToken) fun x m => by
      unfold memCascadeByToken dropToken; cases x.members.get? m <;> rfl]
    obtain ⟨i1, i2⟩ := fold_cascade memCascadeByToken (·.members) (fun _ m hx => pinv_memCascadeByToken hx m)
      memCascadeByToken_members (keys set) a h
    generalize (keys set).foldl memCascadeByToken a = b at i1 i2
    unfold dropToken
    have noMem : ∀ k e, b.members.get? k = some e → e.token ≠ id := by
      intro k e hk he
      obtain ⟨hin, hk⟩ := i2 hk
      have hk2 := mem_keys_of_get2? (he ▸ (h.c4 k e hk).1)
      rw [inner, hm] at hk2
      exact hin hk2
    exact ⟨i1.p1, i1.p2, i1.p3,
      fun k e hk => ⟨has_del_of_ne (i1.p4 k e hk).1 (noMem k e hk), (i1.p4 k e hk).2⟩, i1.c1, i1.c2, i1.c3,
      fun k e hk => ⟨by rw [get2?_del_outer, if_neg (noMem k e hk)]; exact (i1.c4 k e hk).1, (i1.c4 k e hk).2⟩⟩

theorem pinv_step {a : AuthSt} (h : PInv a) (i : Nat) (c : Cmd) : PInv (auStep a i c) := by
  cases c with
  | createToken t =>
    exact applyCreateToken_elim i t h fun _ _ => pinv_tokens_ins h _ _ _ _
  | updateToken id n d p e ch =>
    exact applyUpdateToken_elim i id n d p e ch h fun _ _ _ _ _ => pinv_tokens_ins h _ _ _ _
  | revokeToken id =>
    exact applyRevokeToken_elim i id h fun _ _ => pinv_tokens_ins h _ _ a.byName a.byPrefix
  | rotateToken id hs p =>
    exact applyRotateToken_elim i id hs p h fun _ _ _ => pinv_tokens_ins h _ _ a.byName _
  | deleteToken id => exact pinv_deleteToken h id
  | createOrg e =>
    exact applyCreateOrg_elim i e h fun _ _ => pinv_orgs_ins h _ _ _
  | updateOrg id n d en u ch =>
    exact applyUpdateOrg_elim i id n d en u ch h fun _ _ => pinv_orgs_ins h _ _ _
  | deleteOrg id => exact pinv_deleteOrg h id
  | createTeam e => exact pinv_createTeam h i e
  | updateTeam id n d en u ch => exact pinv_updateTeam h i id n d en u ch
  | deleteTeam id => exact pinv_deleteTeam h id
  | createRole e => exact pinv_createRole h i e
  | updateRole id pt pm ch => exact pinv_updateRole h i id pt pm ch
  | deleteRole id => exact pinv_deleteRole h id
  | createMPerm e => exact pinv_createMPerm h i e
  | deleteMPerm id => exact pinv_deleteMPerm h id
  | addMember e => exact pinv_addMember h i e
  | removeMember t tm => exact pinv_removeMember h t tm
  | _ => exact h

theorem pinv_runIdx (s : State) (l : List (Nat × Cmd)) (h : PInv s.au) : PInv (runIdx s l).au := by
  induction l generalizing s with
  | nil => exact h
  | cons p t ih =>
    obtain ⟨i, c⟩ := p
    simp only [runIdx]
    apply ih
    rw [apply_au]; exact pinv_step h i c

end Arc.C22
