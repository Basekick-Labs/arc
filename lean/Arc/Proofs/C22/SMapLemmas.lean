import Arc.Model.C22.SMap
/-! Sorted association lists are used through two things only: the lookup equations of `ins` and `del`
(`get?_ins`, `get?_del`, and their forms for a property of all bindings), and canonical form (`ext`:
sorted maps with the same lookups are equal). -/
set_option linter.unusedSectionVars false
namespace Arc.C22

theorem eq_of_pairwise_of_mem_iff {α : Type} {r : α → α → Prop} (irr : ∀ a, ¬ r a a)
    (tr : ∀ {a b c}, r a b → r b c → r a c) {l1 l2 : List α} (h1 : l1.Pairwise r) (h2 : l2.Pairwise r)
    (h : ∀ a, a ∈ l1 ↔ a ∈ l2) : l1 = l2 :=
  have nodup {l : List α} (hl : l.Pairwise r) : l.Nodup :=
    hl.imp fun {a b} (hab : r a b) (e : a = b) => irr b (e ▸ hab)
  List.Perm.eq_of_pairwise (fun a _ _ _ hab hba => absurd (tr hab hba) (irr a)) h1 h2
    ((List.perm_ext_iff_of_nodup (nodup h1) (nodup h2)).mpr h)

namespace SMap
variable {K V : Type} [DecidableEq K] [LOrd K]

@[simp] theorem get?_nil (k : K) : get? ([] : SMap K V) k = none := rfl

theorem get?_cons (a : K) (b : V) (t : SMap K V) (k : K) :
    get? ((a, b) :: t) k = if k = a then some b else get? t k := rfl

theorem get?_ins (k k' : K) (v : V) (m : SMap K V) :
    get? (ins k v m) k' = if k' = k then some v else get? m k' := by
  induction m with
  | nil => rfl
  | cons p t ih =>
    obtain ⟨a, b⟩ := p
    unfold ins
    by_cases h1 : LOrd.lt k a = true
    · rw [if_pos h1]; rfl
    · rw [if_neg h1]
      by_cases h2 : k = a
      · subst h2
        rw [if_pos rfl]; simp only [get?]
        by_cases h3 : k' = k <;> simp only [h3, if_true, if_false]
      · rw [if_neg h2]; simp only [get?, ih]
        by_cases h3 : k' = a
        · subst h3; rw [if_pos rfl, if_neg (Ne.symm h2), if_pos rfl]
        · simp only [h3, if_false]

theorem get?_ins_self (k : K) (v : V) (m : SMap K V) : get? (ins k v m) k = some v := by
  rw [get?_ins, if_pos rfl]

theorem get?_ins_ne {k k' : K} {v : V} {m : SMap K V} (h : k' ≠ k) :
    get? (ins k v m) k' = get? m k' := by
  rw [get?_ins, if_neg h]

theorem get?_del (k k' : K) (m : SMap K V) :
    get? (del k m) k' = if k' = k then none else get? m k' := by
  induction m with
  | nil => by_cases h : k' = k <;> simp only [h, if_true, if_false] <;> rfl
  | cons p t ih =>
    obtain ⟨a, b⟩ := p
    unfold del
    by_cases h1 : k = a
    · subst h1
      rw [if_pos rfl, ih]; simp only [get?]
      by_cases h3 : k' = k <;> simp only [h3, if_true, if_false]
    · rw [if_neg h1]; simp only [get?, ih]
      by_cases h3 : k' = a
      · subst h3; rw [if_pos rfl, if_neg (Ne.symm h1), if_pos rfl]
      · simp only [h3, if_false]

theorem get?_del_ne {k k' : K} {m : SMap K V} (h : k' ≠ k) : get? (del k m) k' = get? m k' := by
  rw [get?_del, if_neg h]

theorem get?_del_some {k k' : K} {m : SMap K V} {v : V} (h : get? (del k m) k' = some v) :
    k' ≠ k ∧ get? m k' = some v :=
  Option.ite_none_left_eq_some.mp (get?_del k k' m ▸ h)

theorem has_ins_of_has {m : SMap K V} {k k' : K} {v : V} (h : has m k' = true) :
    has (m.ins k v) k' = true := by
  unfold has at h ⊢
  rw [get?_ins]
  by_cases hk : k' = k
  · rw [if_pos hk]; rfl
  · rw [if_neg hk]; exact h

theorem has_del_of_ne {m : SMap K V} {k k' : K} (h : has m k' = true) (hne : k' ≠ k) :
    has (m.del k) k' = true := by
  unfold has; rw [get?_del_ne hne]; exact h

theorem forall_get?_ins {Q : K → V → Prop} {m : SMap K V} {k : K} {v : V} (hnew : Q k v)
    (hold : ∀ k' x, get? m k' = some x → k' ≠ k → Q k' x) :
    ∀ k' x, get? (ins k v m) k' = some x → Q k' x := by
  intro k' x hx
  rw [get?_ins] at hx
  by_cases hk : k' = k
  · rw [if_pos hk] at hx; cases hx; exact hk ▸ hnew
  · rw [if_neg hk] at hx; exact hold k' x hx hk

theorem forall_get?_del {Q : K → V → Prop} {m : SMap K V} {k : K}
    (hold : ∀ k' x, get? m k' = some x → k' ≠ k → Q k' x) :
    ∀ k' x, get? (del k m) k' = some x → Q k' x :=
  fun k' x hx => hold k' x (get?_del_some hx).2 (get?_del_some hx).1

theorem exists_get?_ins_congr {β : Type} {f : V → β} {m : SMap K V} {k : K} {v v' : V}
    (hg : get? m k = some v) (hf : f v' = f v) (k' : K) (b : β) :
    (∃ x, get? (ins k v' m) k' = some x ∧ f x = b) ↔ ∃ x, get? m k' = some x ∧ f x = b := by
  rw [get?_ins]
  by_cases hk : k' = k
  · rw [if_pos hk, hk, hg]
    exact ⟨fun ⟨x, hx, hb⟩ => ⟨v, rfl, by cases hx; rw [← hf]; exact hb⟩,
      fun ⟨x, hx, hb⟩ => ⟨v', rfl, by cases hx; rw [hf]; exact hb⟩⟩
  · rw [if_neg hk]

theorem get?_foldl_del_some {ks : List K} {m : SMap K V} {x : K} {v : V}
    (h : (ks.foldl (fun m k => m.del k) m).get? x = some v) : x ∉ ks ∧ m.get? x = some v := by
  induction ks generalizing m with
  | nil => exact ⟨List.not_mem_nil, h⟩
  | cons k t ih =>
    obtain ⟨ht, h⟩ := ih h
    obtain ⟨hk, h⟩ := get?_del_some h
    exact ⟨fun hm => (List.mem_cons.mp hm).elim hk ht, h⟩

theorem get?_foldl_ins_of_agree {E : Type} (f : E → K) (v : E → V) (b : K → Option V) (l : List E)
    (hl : ∀ p ∈ l, b (f p) = some (v p)) (acc : SMap K V) (k : K) :
    (l.foldl (fun acc p => acc.ins (f p) (v p)) acc).get? k = if k ∈ l.map f then b k else acc.get? k := by
  induction l generalizing acc with
  | nil => rfl
  | cons q t ih =>
    rw [List.foldl_cons, ih (fun p hp => hl p (List.mem_cons_of_mem _ hp)), get?_ins, List.map_cons]
    by_cases ht : k ∈ t.map f
    · rw [if_pos ht, if_pos (List.mem_cons_of_mem _ ht)]
    · by_cases hq : k = f q
      · rw [if_neg ht, if_pos hq, if_pos (hq ▸ List.mem_cons_self), hq, hl q List.mem_cons_self]
      · rw [if_neg ht, if_neg hq, if_neg fun hm => (List.mem_cons.mp hm).elim hq ht]

theorem mem_ins {k : K} {v : V} {m : SMap K V} {p : K × V} (h : p ∈ ins k v m) :
    p = (k, v) ∨ p ∈ m := by
  induction m with
  | nil => simp [ins] at h; exact Or.inl h
  | cons q t ih =>
    obtain ⟨a, b⟩ := q
    unfold ins at h
    by_cases h1 : LOrd.lt k a = true
    · simp only [h1, if_true] at h
      exact List.mem_cons.mp h
    · by_cases h2 : k = a
      · subst h2
        simp only [LOrd.irrefl, if_true, if_false, Bool.false_eq_true] at h
        rcases List.mem_cons.mp h with h | h
        · exact Or.inl h
        · exact Or.inr (List.mem_cons_of_mem _ h)
      · simp only [h1, h2, if_false, Bool.false_eq_true] at h
        rcases List.mem_cons.mp h with h | h
        · exact Or.inr (by rw [h]; exact List.mem_cons_self)
        · rcases ih h with h | h
          · exact Or.inl h
          · exact Or.inr (List.mem_cons_of_mem _ h)

theorem mem_del {k : K} {m : SMap K V} {p : K × V} (h : p ∈ del k m) : p ∈ m ∧ p.1 ≠ k := by
  induction m with
  | nil => simp [del] at h
  | cons q t ih =>
    obtain ⟨a, b⟩ := q
    unfold del at h
    by_cases h1 : k = a
    · simp only [h1, if_true] at h
      have := ih (by rw [h1]; exact h)
      exact ⟨List.mem_cons_of_mem _ this.1, this.2⟩
    · simp only [h1, if_false] at h
      rcases List.mem_cons.mp h with h | h
      · rw [h]; exact ⟨List.mem_cons_self, fun hh => h1 hh.symm⟩
      · have := ih h
        exact ⟨List.mem_cons_of_mem _ this.1, this.2⟩

theorem get?_some_mem {m : SMap K V} {k : K} {v : V} (h : get? m k = some v) : (k, v) ∈ m := by
  induction m with
  | nil => simp at h
  | cons q t ih =>
    obtain ⟨a, b⟩ := q
    rw [get?_cons] at h
    by_cases h1 : k = a
    · simp [h1] at h; subst h1; subst h; exact List.mem_cons_self
    · simp [h1] at h; exact List.mem_cons_of_mem _ (ih h)

theorem mem_keys {m : SMap K V} {k : K} : k ∈ keys m ↔ ∃ v, get? m k = some v := by
  refine ⟨fun h => ?_, fun ⟨v, h⟩ => List.mem_map.mpr ⟨(k, v), get?_some_mem h, rfl⟩⟩
  induction m with
  | nil => cases h
  | cons q t ih =>
    obtain ⟨a, b⟩ := q
    rw [get?_cons]
    by_cases hk : k = a
    · exact ⟨b, if_pos hk⟩
    · rw [if_neg hk]; exact ih ((List.mem_cons.mp h).resolve_left hk)

theorem sorted_nil : Sorted ([] : SMap K V) := List.Pairwise.nil

theorem sorted_cons {a : K} {b : V} {t : SMap K V} :
    Sorted ((a, b) :: t) ↔ (∀ p ∈ t, LOrd.lt a p.1 = true) ∧ Sorted t := by
  unfold Sorted; exact List.pairwise_cons

theorem ne_of_lt {a b : K} (h : LOrd.lt a b = true) : a ≠ b :=
  fun e => Bool.false_ne_true ((LOrd.irrefl b).symm.trans (e ▸ h))

theorem get?_none_of_lt {t : SMap K V} {a : K} (hall : ∀ p ∈ t, LOrd.lt a p.1 = true) : get? t a = none :=
  Option.eq_none_iff_forall_ne_some.mpr fun _ hv => ne_of_lt (hall _ (get?_some_mem hv)) rfl

theorem sorted_ins {k : K} {v : V} {m : SMap K V} (h : Sorted m) : Sorted (ins k v m) := by
  induction m with
  | nil => unfold ins Sorted; simp
  | cons q t ih =>
    obtain ⟨a, b⟩ := q
    have ⟨hall, ht⟩ := sorted_cons.mp h
    unfold ins
    by_cases h1 : LOrd.lt k a = true
    · simp only [h1, if_true]
      refine sorted_cons.mpr ⟨?_, h⟩
      intro p hp
      rcases List.mem_cons.mp hp with hp | hp
      · rw [hp]; exact h1
      · exact LOrd.trans _ _ _ h1 (hall p hp)
    · by_cases h2 : k = a
      · subst h2
        simp only [LOrd.irrefl, if_true, if_false, Bool.false_eq_true]
        exact sorted_cons.mpr ⟨hall, ht⟩
      · simp only [h1, h2, if_false, Bool.false_eq_true]
        refine sorted_cons.mpr ⟨?_, ih ht⟩
        intro p hp
        rcases mem_ins hp with hp | hp
        · rw [hp]
          rcases LOrd.tri k a with h3 | h3 | h3
          · exact absurd h3 h1
          · exact absurd h3 h2
          · exact h3
        · exact hall p hp

theorem sorted_del {k : K} {m : SMap K V} (h : Sorted m) : Sorted (del k m) := by
  induction m with
  | nil => exact sorted_nil
  | cons q t ih =>
    obtain ⟨a, b⟩ := q
    have ⟨hall, ht⟩ := sorted_cons.mp h
    unfold del
    by_cases h1 : k = a
    · simp only [h1, if_true]; rw [← h1]; exact ih ht
    · simp only [h1, if_false]
      exact sorted_cons.mpr ⟨fun p hp => hall p (mem_del hp).1, ih ht⟩

theorem sorted_filter {m : SMap K V} (f : K × V → Bool) (h : Sorted m) : Sorted (m.filter f) :=
  List.Pairwise.filter f h

theorem mem_get?_of_sorted {m : SMap K V} (h : Sorted m) {k : K} {v : V} (hm : (k, v) ∈ m) :
    get? m k = some v := by
  induction m with
  | nil => cases hm
  | cons q t ih =>
    obtain ⟨a, b⟩ := q
    have ⟨hall, ht⟩ := sorted_cons.mp h
    rw [get?_cons]
    rcases List.mem_cons.mp hm with hm | hm
    · cases hm; exact if_pos rfl
    · rw [if_neg (ne_of_lt (hall _ hm)).symm]; exact ih ht hm

theorem ext {m1 m2 : SMap K V} (h1 : Sorted m1) (h2 : Sorted m2)
    (h : ∀ k, get? m1 k = get? m2 k) : m1 = m2 :=
  eq_of_pairwise_of_mem_iff (r := fun a b : K × V => LOrd.lt a.1 b.1 = true)
    (fun _ ha => ne_of_lt ha rfl) (LOrd.trans _ _ _) h1 h2 fun (k, _) =>
    ⟨fun hm => get?_some_mem ((h k).symm.trans (mem_get?_of_sorted h1 hm)),
     fun hm => get?_some_mem ((h k).trans (mem_get?_of_sorted h2 hm))⟩

/-- When no empty list is stored, `(get? m k).getD []` loses nothing: an absent key and an empty list
cannot both occur. Canonical form for maps kept under "drop the key when its list becomes empty". -/
theorem get?_of_getD {α : Type} {m : SMap K (List α)} (n : ∀ k l, get? m k = some l → l ≠ []) (k : K) :
    get? m k = if (get? m k).getD [] = [] then none else some ((get? m k).getD []) := by
  cases hg : get? m k with
  | none => rfl
  | some l => exact (if_neg (n k l hg)).symm

theorem ext_getD {α : Type} {m1 m2 : SMap K (List α)} (s1 : Sorted m1) (s2 : Sorted m2)
    (n1 : ∀ k l, get? m1 k = some l → l ≠ []) (n2 : ∀ k l, get? m2 k = some l → l ≠ [])
    (h : ∀ k, (get? m1 k).getD [] = (get? m2 k).getD []) : m1 = m2 :=
  ext s1 s2 fun k => by rw [get?_of_getD n1, get?_of_getD n2, h k]

end SMap
end Arc.C22
