import Arc.Model.C14.Str
/-!
# C14 — the validator with its tables decoded, for evaluation by the kernel

The kernel gets the characters of a `String` literal by decoding its UTF-8 bytes by well-founded recursion, some
10⁴ heartbeats a character. The model's tables (`denylist`, `terminators`, the statement kinds, keyword literals) are
such literals under `String.toList`, so every closed fact that runs `validate` or `acceptedTok` pays for them again
(the denylist alone costs more than the run).

Each definition below pairs a model function `f` with a copy `g` and the proof `f = g`. The copy is not written out:
it is what `delta f` shows, with every table and every function below it replaced by its own copy and every literal
`"…".toList` by its characters (`String.toList_ofList`; a literal is `String.ofList` of them by definition); the
closing `rfl` fills it in for `_`. A test vector rewrites with `validateE.2` / `acceptedTokE.2` and evaluates `.1`.
The copies are proof devices and not compiled.
-/
namespace Arc.C14
open Arc.Generated.C14

def denyChars : { l : List Str // denylist = l } :=
  ⟨_, by simp only [denylist, Generated.C14.denylist, List.map]; repeat rewrite [String.toList_ofList]
         rfl⟩

def termChars : { l : List Str // terminators = l } :=
  ⟨_, by simp only [terminators, fromClauseTerminators, List.map]; repeat rewrite [String.toList_ofList]
         rfl⟩

noncomputable def deniedCallE : { f // deniedCall = f } :=
  ⟨_, by delta deniedCall deniedCall._f; rewrite [denyChars.2]; rfl⟩

noncomputable def hasDeniedCallE : { f // hasDeniedCall = f } :=
  ⟨_, by delta hasDeniedCall hasDeniedCall._f; rewrite [denyChars.2]; rfl⟩

def armsLikeFromE : { f // armsLikeFrom = f } :=
  ⟨_, by delta armsLikeFrom; simp only [stmtStartsAfter, stmtKinds, statementStartsAfter, tableRefStatementKind, List.map]
         repeat rewrite [String.toList_ofList]
         rfl⟩

noncomputable def tablePosGoE : { f // tablePosGo = f } :=
  ⟨_, by delta tablePosGo tablePosGo._f; rewrite [armsLikeFromE.2, termChars.2]; repeat rewrite [String.toList_ofList]
         rfl⟩

noncomputable def tablePosFirstE : { f // tablePosFirst = f } :=
  ⟨_, by delta tablePosFirst; rewrite [tablePosGoE.2]; rfl⟩

noncomputable def badInTablePosE : { f // badInTablePos = f } :=
  ⟨_, by delta badInTablePos badInTablePos._f; rewrite [armsLikeFromE.2, termChars.2]; rfl⟩

noncomputable def acceptedTokE : { f // acceptedTok = f } :=
  ⟨_, by delta acceptedTok; rewrite [hasDeniedCallE.2, badInTablePosE.2]; rfl⟩

noncomputable def validateE : { f // validate = f } :=
  ⟨_, by delta validate tablePos; rewrite [deniedCallE.2, tablePosFirstE.2]; repeat rewrite [String.toList_ofList]
         rfl⟩

end Arc.C14
