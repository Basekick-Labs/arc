/-
C18 — helper lemmas: the path loop emits exactly the hours it should, extraction only returns bounds that come from
atoms of the text, list-level lemma for dropping files that hold no qualifying row.
-/
import Arc.Model.C18
namespace Arc.C18
open Arc.Generated.C18

/-- from an hour boundary the loop emits exactly the hours that start before `e`, as far as the fuel goes -/
theorem mem_loop (h e : Int) : ∀ (n : Nat) (k : Int),
    h ∈ loop n (k * HOUR) e ↔ k ≤ h ∧ h < k + n ∧ h * HOUR < e
  | 0, k => by simp only [loop, List.not_mem_nil, false_iff]; omega
  | n + 1, k => by
    have ih := mem_loop h e n (k + 1)
    rw [Int.add_mul, Int.one_mul] at ih
    simp only [loop, hourOf, Int.mul_ediv_cancel k (by decide : HOUR ≠ 0)]
    split
    · rw [List.mem_cons, ih]; simp only [HOUR] at *; omega
    · simp only [List.not_mem_nil, false_iff, HOUR] at *; omega

theorem lt_loopEnd {x e : Int} {incl : Bool} : x < loopEnd e incl ↔ x < e ∨ incl = true ∧ x ≤ e := by
  cases incl <;> simp [loopEnd] <;> omega

theorem mem_dedupAdj (x : Int) : ∀ l : List Int, x ∈ dedupAdj l ↔ x ∈ l
  | [] | [_] => Iff.rfl
  | a :: b :: l => by
    have ih := mem_dedupAdj x (b :: l)
    unfold dedupAdj
    split
    · next h => simp only [ih, h, List.mem_cons, or_self_left]
    · simp only [ih, List.mem_cons]

theorem startOf_aligned (hmin : minPartitionDateNs % HOUR = 0) (s : Int) : startOf s % HOUR = 0 := by
  unfold startOf truncHour
  simp only []
  split
  · exact hmin
  · exact Int.mul_emod_left ..

theorem startOf_le_trunc (hmin : minPartitionDateNs % HOUR = 0) {s t : Int} (hs : s ≤ t)
    (hm : minPartitionDateNs ≤ t) : startOf s ≤ t / HOUR * HOUR := by
  rw [← Int.ediv_mul_cancel_of_emod_eq_zero (startOf_aligned hmin s)]
  refine Int.mul_le_mul_of_nonneg_right (Int.ediv_le_ediv (by decide) ?_) (by decide)
  unfold startOf truncHour
  simp only []
  split
  · exact hm
  · exact Int.le_trans (Int.ediv_mul_le s (by decide)) hs

theorem trunc_lt {t x : Int} (h : t < x) : t / HOUR * HOUR < x :=
  Int.lt_of_le_of_lt (Int.ediv_mul_le t (by decide)) h

theorem generatePaths_some {s e : Int} {incl : Bool} {ps : Paths} (h : generatePaths s e incl = some ps) :
    ps.hours = loop (fuelFor (startOf s) (loopEnd e incl)) (startOf s) (loopEnd e incl) ∧
      ps.days = dedupAdj (ps.hours.map (· / 24)) := by
  unfold generatePaths at h
  simp only [] at h
  split at h
  · cases h
  · cases h; exact ⟨rfl, rfl⟩

/-- the generated hour paths are exactly the hours that start in `[startOf s, loopEnd e incl)`: `fuelFor` is enough -/
theorem mem_hours (hmin : minPartitionDateNs % HOUR = 0) {s e : Int} {incl : Bool} {ps : Paths}
    (hg : generatePaths s e incl = some ps) {h : Int} :
    h ∈ ps.hours ↔ startOf s ≤ h * HOUR ∧ h * HOUR < loopEnd e incl := by
  rw [(generatePaths_some hg).1, ← Int.ediv_mul_cancel_of_emod_eq_zero (startOf_aligned hmin s), mem_loop, fuelFor]
  generalize startOf s / HOUR = k
  simp only [HOUR]
  omega

/-- cover: what matters for the end bound is that the row's HOUR starts before the loop's end. -/
theorem paths_cover (hmin : minPartitionDateNs % HOUR = 0) {s e t : Int} {incl : Bool} {ps : Paths}
    (hg : generatePaths s e incl = some ps) (hs : s ≤ t) (he : t / HOUR * HOUR < loopEnd e incl)
    (hm : minPartitionDateNs ≤ t) : hourOf t ∈ ps.hours ∧ dayOf t ∈ ps.days := by
  have hh : hourOf t ∈ ps.hours := (mem_hours hmin hg).2 ⟨startOf_le_trunc hmin hs hm, he⟩
  exact ⟨hh, by rw [(generatePaths_some hg).2, mem_dedupAdj]; exact List.mem_map.2 ⟨_, hh, rfl⟩⟩

theorem firstSome_some : ∀ {l : List (Option Int)} {x : Int}, firstSome l = some x → some x ∈ l
  | some _ :: _, _, h => h ▸ .head _
  | none :: _, _, h => .tail _ (firstSome_some h)

theorem firstSomeP_some : ∀ {l : List (Option Int × Bool)} {x : Int} {b : Bool},
    firstSomeP l = some (x, b) → (some x, b) ∈ l
  | (some _, _) :: _, _, _, h => by cases h; exact .head _
  | (none, _) :: _, _, _, h => .tail _ (firstSomeP_some h)

theorem absPat_some {now : Int} {suffix : Col → Bool} {op : Cmp} {txt : List BAtom} {s : Int}
    (h : absPat now suffix op txt = some s) :
    ∃ c r, BAtom.cmp c op r ∈ txt ∧ suffix c = true ∧ r.go now = some s := by
  unfold absPat at h
  split at h
  · next c o r hf =>
    have hp := List.find?_some hf
    cases r <;> simp only [isAbs, Bool.and_eq_true, decide_eq_true_eq, Bool.false_eq_true] at hp
    exact ⟨c, _, hp.2 ▸ List.mem_of_find?_eq_some hf, hp.1, h⟩
  · cases h

/-- the model has no column literally named `timestamp`: the two `\btimestamp` patterns never match -/
theorem absPat_timestamp (now : Int) (op : Cmp) (txt : List BAtom) :
    absPat now Col.endsInTimestamp op txt = none := by
  unfold absPat
  rw [List.find?_eq_none.2 fun b _ => by unfold isAbs; split <;> simp [Col.endsInTimestamp]]

theorem relPat_some {now : Int} {start plus : Bool} {txt : List BAtom} {s : Int}
    (h : relPat now start plus txt = some s) :
    ∃ c o n u cs, BAtom.cmp c o (.rel plus n u cs) ∈ txt ∧ c.endsInTime = true ∧
      (if start then o = Cmp.ge ∨ o = Cmp.gt else o = Cmp.lt ∨ o = Cmp.le) ∧
      (Rhs.rel plus n u cs).go now = some s := by
  unfold relPat at h
  split at h
  · next c o r hf =>
    have hp := List.find?_some hf
    cases r <;> simp only [isRel, Bool.and_eq_true, decide_eq_true_eq, Bool.false_eq_true] at hp
    obtain ⟨⟨hc, rfl⟩, ho⟩ := hp
    exact ⟨c, o, _, _, _, List.mem_of_find?_eq_some hf, hc, by cases start <;> simpa using ho, h⟩
  · cases h

theorem betweenPat_some {now : Int} {txt : List BAtom} {a b : Int}
    (h : betweenPat now txt = some (a, b)) :
    ∃ c l1 l2, BAtom.between c (.lit l1) (.lit l2) ∈ txt ∧ c.endsInTime = true ∧
      l1.go = some a ∧ l2.go = some b := by
  unfold betweenPat at h
  split at h
  · next c lo hi hf =>
    have hp := List.find?_some hf
    cases lo <;> cases hi <;> simp only [isBetween, Bool.false_eq_true] at hp
    simp only [Rhs.go] at h
    split at h <;> cases h
    exact ⟨c, _, _, List.mem_of_find?_eq_some hf, hp, ‹_›, ‹_›⟩
  · cases h

theorem rowsOf_cons (f : File) (ds : Dataset) : rowsOf (f :: ds) = f.rows ++ rowsOf ds :=
  List.flatMap_cons

theorem filter_rows_drop {ds : Dataset} {keep : File → Bool} {P : Row → Bool}
    (h : ∀ f ∈ ds, keep f = false → ∀ r ∈ f.rows, P r = false) :
    (rowsOf (ds.filter keep)).filter P = (rowsOf ds).filter P := by
  induction ds with
  | nil => rfl
  | cons f fs ih =>
    rw [List.filter_cons, rowsOf_cons, List.filter_append, ← ih fun g hg => h g (.tail _ hg)]
    cases hk : keep f with
    | true => rw [if_pos rfl, rowsOf_cons, List.filter_append]
    | false =>
      rw [if_neg Bool.false_ne_true,
        List.filter_eq_nil_iff.2 fun r hr => Bool.eq_false_iff.1 (h f (.head _) hk r hr), List.nil_append]

theorem mem_rowsOf {r : Row} {ds : Dataset} : r ∈ rowsOf ds ↔ ∃ f ∈ ds, r ∈ f.rows :=
  List.mem_flatMap

theorem mem_partsOfPaths (ps : Paths) (p : Part) : p ∈ partsOfPaths ps ↔ p.inPaths ps = true := by
  cases p <;> simp [partsOfPaths, Part.inPaths]

end Arc.C18
