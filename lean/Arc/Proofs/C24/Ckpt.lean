import Arc.Proofs.C24.Inv
/-! Gap-freedom at a verified checkpoint.  The verified HMAC names a sender-side record (`KInv`: the
bytes of a prefix of `sent`), collision-freedom makes those the bytes the reader fed, and what the
reader fed is a sorted selection of `sent` (`RInv`) below the record's last number, hence a
sublist of that prefix; a sublist with the same bytes is the whole prefix, since no payload is empty. -/
namespace Arc.C24
variable {α : Type} [DecidableEq α]

/-- a sublist with the same concatenated bytes, when no payload is empty, is the whole list: each
entry left out costs at least one byte. -/
theorem sublist_flat_eq {l₁ l₂ : List Entry} (h : l₁.Sublist l₂)
    (hne : ∀ x ∈ l₂, x.payload ≠ []) (hf : flat l₁ = flat l₂) : l₁ = l₂ := by
  refine h.eq_of_length_le ?_
  have key : (flat l₁).length + l₂.length ≤ (flat l₂).length + l₁.length := by
    clear hf
    induction h with
    | slnil => exact Nat.le_refl _
    | cons a _ ih | cons_cons a _ ih =>
      have hpos := List.length_pos_iff.mpr (hne a (List.mem_cons_self ..))
      have ih := ih fun x hx => hne x (List.mem_cons_of_mem _ hx)
      simp only [flat, List.flatMap_cons, List.length_append, List.length_cons] at ih ⊢
      omega
  rw [hf] at key
  omega

theorem sorted_subset_sublist {l₁ l₂ : List Entry} (h₁ : l₁.Pairwise ltE) (h₂ : l₂.Pairwise ltE)
    (hs : ∀ x ∈ l₁, x ∈ l₂) : l₁.Sublist l₂ := by
  induction l₂ generalizing l₁ with
  | nil => exact List.eq_nil_iff_forall_not_mem.mpr (fun x hx => nomatch hs x hx) ▸ .slnil
  | cons b t ih =>
    cases l₁ with
    | nil => exact List.nil_sublist _
    | cons a r =>
      rw [List.pairwise_cons] at h₁ h₂
      -- an element of `b :: t` above `b` lies in `t`
      have tail : ∀ x, x ∈ b :: t → b.seq < x.seq → x ∈ t := fun x hx hlt =>
        (List.mem_cons.mp hx).resolve_left fun h => absurd (h ▸ hlt) (Nat.lt_irrefl _)
      rcases List.mem_cons.mp (hs a (List.mem_cons_self ..)) with rfl | ha
      · exact .cons_cons _ (ih h₁.2 h₂.2 fun x hx =>
          tail x (hs x (List.mem_cons_of_mem _ hx)) (h₁.1 x hx))
      · have hba : b.seq < a.seq := h₂.1 a ha
        refine .cons _ (ih (List.pairwise_cons.mpr h₁) h₂.2 fun x hx => tail x (hs x hx) ?_)
        rcases List.mem_cons.mp hx with rfl | hx
        · exact hba
        · exact Nat.lt_trans hba (h₁.1 x hx)

/-- What the ghost checkpoint records say.  A record of the current session is the hash pre-image
and last number of a non-empty prefix of `sent` (`kcur`); a record of an earlier session lies below
everything sent now (`kold`) — which is kept because every record carries the number of an entry
already distributed (`kdist`) and the channel is sorted.  Payloads are non-empty, so no pre-image is. -/
structure KInv (s : State) : Prop where
  neq : ∀ e ∈ s.queued, e.payload ≠ []
  neh : ∀ x ∈ s.holding, x.2.payload ≠ []
  kpre : ∀ c ∈ s.ckpts, c.pre ≠ []
  ksess : ∀ c ∈ s.ckpts, c.session ≤ s.session
  kcur : ∀ c ∈ s.ckpts, c.session = s.session → ∃ n, 0 < n ∧ n ≤ s.sent.length ∧
    c.pre = flat (s.sent.take n) ∧ ((s.sent.take n).map (·.seq)).getLast? = some c.lastSeq
  kold : ∀ c ∈ s.ckpts, c.session < s.session → ∀ e ∈ s.sent, c.lastSeq < e.seq
  kdist : ∀ c ∈ s.ckpts, ∃ d ∈ s.dist, d.seq = c.lastSeq

/-- The reader's side of a session without apply failures: what it fed to the hash is what it
applied, a sorted selection of `sent` ending in `lastSeq`. -/
structure RInv (s : State) : Prop where
  fa : s.fed = s.appliedS
  asub : ∀ x ∈ s.appliedS, x ∈ s.sent
  asorted : s.appliedS.Pairwise ltE
  ale : ∀ x ∈ s.appliedS, x.seq ≤ s.lastSeq
  alast : s.appliedS = [] ∨ (s.appliedS.map (·.seq)).getLast? = some s.lastSeq

section
variable {cfg : Cfg} {hashFn : Bytes → α} {s s' : State} {e : Ev α}

theorem kinv_init : KInv init := ⟨nofun, nofun, nofun, nofun, nofun, nofun, nofun⟩

theorem kinv_step (I : Struct s) (O : Ordered cfg s) (K : KInv s) (hc : Carve cfg e)
    (h : step cfg hashFn s e = some s') : KInv s' := by
  obtain ⟨neq, neh, kpre, ksess, kcur, kold, kdist⟩ := K
  have kdist' (x : Entry) : ∀ c ∈ s.ckpts, ∃ d ∈ s.dist ++ [x], d.seq = c.lastSeq := fun c hc =>
    (kdist c hc).imp fun _ hd => hd.imp_left (List.mem_append_left _)
  revert hc
  apply step_elim (h := h)
  case assign =>
    intro t p _ _ hc
    refine ⟨neq, fun x hx => ?_, kpre, ksess, kcur, kold, kdist⟩
    rcases List.mem_cons.mp hx with rfl | hx
    · exact hc.2
    · exact neh x hx
  case enqueue =>
    intro t x hx _
    exact ⟨forall_mem_snoc neq (neh _ (holds_mem hx)), fun y hy => neh y (unhold_sub hy), kpre, ksess,
      kcur, kold, kdist⟩
  case drop =>
    intro t x _ _
    exact ⟨neq, fun y hy => neh y (unhold_sub hy), kpre, ksess, kcur, kold, kdist⟩
  case idle =>
    intro x rest _ _ _
    exact ⟨neq, neh, kpre, ksess, kcur, kold, kdist' x⟩
  case send =>
    intro x rest n ck hq _ hck _
    obtain ⟨hx, hbehind⟩ := queue_head I O hq
    -- a record in `ck` is an old one, or (`rfl`) the one just emitted
    have hck : ∀ k ∈ ck, k ∈ s.ckpts ∨ k = ⟨x.seq, flat (s.sent ++ [x]), s.session⟩ := by
      intro k hk
      rcases hck with rfl | rfl
      · exact .inl hk
      · exact (List.mem_append.mp hk).imp_right List.mem_singleton.mp
    refine ⟨neq, neh, fun k hk => ?kpre, fun k hk => ?ksess, fun k hk hs => ?kcur,
      fun k hk hs => ?kold, fun k hk => ?kdist⟩ <;> rcases hck k hk with hk | rfl
    case kpre.inl => exact kpre k hk
    case kpre.inr =>
      exact fun h0 => neq x hx (List.flatMap_eq_nil_iff.mp h0 x (by simp))
    case ksess.inl => exact ksess k hk
    case ksess.inr => exact Nat.le_refl _
    case kcur.inl =>
      obtain ⟨m, h0, hm, hp, hl⟩ := kcur k hk hs
      refine ⟨m, h0, by rw [List.length_append]; exact Nat.le_add_right_of_le hm, ?_, ?_⟩ <;>
        rw [List.take_append_of_le_length hm] <;> assumption
    case kcur.inr =>
      exact ⟨(s.sent ++ [x]).length, by simp, Nat.le_refl _, by rw [List.take_length],
        by rw [List.take_length]; simp⟩
    case kold.inl =>
      obtain ⟨d, hd, hds⟩ := kdist k hk
      exact forall_mem_snoc (kold k hk hs) (hds ▸ hbehind d hd)
    case kold.inr => exact absurd hs (Nat.lt_irrefl _)
    case kdist.inl => exact kdist' x k hk
    case kdist.inr => exact ⟨x, by simp, rfl⟩
  case connect =>
    intro _
    refine ⟨neq, neh, kpre, fun k hk => Nat.le_succ_of_le (ksess k hk), fun k hk hs => ?_,
      fun _ _ _ => nofun, kdist⟩
    exact absurd (ksess k hk) (Nat.not_le_of_lt (hs ▸ Nat.lt_succ_self _))
  all_goals intros; exact ⟨neq, neh, kpre, ksess, kcur, kold, kdist⟩

theorem rinv_init : RInv init := ⟨rfl, nofun, .nil, nofun, .inl rfl⟩

theorem rinv_step (R : RInv s) (hu : Unforgeable hashFn s e) (hcl : Clean e)
    (h : step cfg hashFn s e = some s') : RInv s' := by
  obtain ⟨fa, asub, asorted, ale, alast⟩ := R
  revert hu hcl
  apply step_elim (h := h)
  case send =>
    intros
    exact ⟨fa, fun x hx => List.mem_append_left _ (asub x hx), asorted, ale, alast⟩
  case connect => intros; exact ⟨rfl, nofun, .nil, nofun, .inl rfl⟩
  case feed => intro _ _ _ hcl; cases hcl
  case apply =>
    intro seq p hlt hu _
    have hlt : ∀ x ∈ s.appliedS, x.seq < seq := fun x hx => Nat.lt_of_le_of_lt (ale x hx) hlt
    exact ⟨by rw [fa], forall_mem_snoc asub (hu rfl), pairwise_snoc asorted hlt,
      forall_mem_snoc (fun x hx => Nat.le_of_lt (hlt x hx)) (Nat.le_refl _), .inr (by simp)⟩
  all_goals intros; exact ⟨fa, asub, asorted, ale, alast⟩

theorem invariants_reach (h : Reach cfg hashFn (fun st ev => Unforgeable hashFn st ev ∧ Carve cfg ev ∧ Clean ev) s) :
    Struct s ∧ Ordered cfg s ∧ KInv s ∧ RInv s := by
  induction h with
  | init => exact ⟨struct_init, ordered_init cfg, kinv_init, rinv_init⟩
  | @step _ _ e _ hp hst ih =>
    obtain ⟨I, O, K, R⟩ := ih
    obtain ⟨hu, hc, hcl⟩ := hp
    have hok : OrdOK cfg e := by
      cases e <;> first | trivial | exact hc.1
    exact ⟨struct_step I hst, ordered_step I O hok hst, kinv_step I O K hc hst, rinv_step R hu hcl hst⟩

end

theorem checkpoint (cfg : Cfg) (hashFn : Bytes → α) (hcf : CollisionFree hashFn) (s s' : State)
    (h : Reach cfg hashFn (fun st ev => Unforgeable hashFn st ev ∧ Carve cfg ev ∧ Clean ev) s)
    (l : Nat) (hv : α) (c f m : Bool)
    (hu : Unforgeable hashFn s (.deliverC l hv c f m))
    (hstep : step cfg hashFn s (.deliverC l hv c f m) = some s') (hok : s'.conn = true) :
    ∃ n, 0 < n ∧ s.appliedS = s.sent.take n ∧ (s.appliedS.map (·.seq)).getLast? = some l := by
  obtain ⟨I, O, K, R⟩ := invariants_reach h
  obtain ⟨_, rfl⟩ := Option.ite_some_none_eq_some.mp hstep
  -- the connection is still up, so every check passed
  obtain ⟨rfl, h3, h5⟩ : l = s.lastSeq ∧ hv = hashFn (flat s.fed) ∧ m = true := by
    rcases recvCkpt_cases hashFn s l hv c f m with ⟨d, hd⟩ | ⟨-, h⟩
    · rw [hd] at hok; cases hok
    · exact h
  obtain ⟨k, hk, hkl, hkh⟩ := hu h5
  -- the record behind the verified HMAC has the reader's running hash
  have hpre : k.pre = flat s.appliedS := R.fa ▸ hcf _ _ (hkh.trans h3)
  have hsorted : s.sent.Pairwise ltE := O.sorted.sublist (sent_sublist_queued I)
  have hlast : (s.appliedS.map (·.seq)).getLast? = some s.lastSeq :=
    R.alast.resolve_left fun hnil => K.kpre k hk (by simpa [flat, hnil] using hpre)
  rcases Nat.lt_or_eq_of_le (K.ksess k hk) with hlt | heq
  · -- a record of an earlier session is below everything sent in this one
    obtain ⟨x, hx, hxs⟩ := List.mem_map.mp (List.mem_of_getLast? hlast)
    have h1 : k.lastSeq < s.lastSeq := hxs ▸ K.kold k hk hlt x (R.asub x hx)
    exact absurd (hkl ▸ h1 : s.lastSeq < s.lastSeq) (Nat.lt_irrefl _)
  · obtain ⟨n, h0, hn, hp, hl⟩ := K.kcur k hk heq
    refine ⟨n, h0, ?_, hlast⟩
    obtain ⟨y, hy, hys⟩ := List.mem_map.mp (List.mem_of_getLast? hl)
    -- what was applied lies in the first `n` frames, since the stream is sorted
    have hsubset : ∀ x ∈ s.appliedS, x ∈ s.sent.take n := by
      intro x hx
      have hxs := R.asub x hx
      rw [← List.take_append_drop n s.sent] at hxs hsorted
      rcases List.mem_append.mp hxs with hxs | hxs
      · exact hxs
      · have hyx : y.seq < x.seq := (List.pairwise_append.mp hsorted).2.2 y hy x hxs
        exact absurd (Nat.lt_of_lt_of_le hyx
          (Nat.le_trans (R.ale x hx) (Nat.le_of_eq (hkl.symm.trans hys.symm)))) (Nat.lt_irrefl _)
    refine sublist_flat_eq
      (sorted_subset_sublist R.asorted (hsorted.sublist (List.take_sublist ..)) hsubset)
      (fun x hx => K.neq x ((sent_sublist_queued I).subset ((List.take_sublist n _).subset hx)))
      (by rw [← hpre, hp])

instance (hashFn : Bytes → α) (s : State) (e : Ev α) : Decidable (Unforgeable hashFn s e) := by
  cases e <;> unfold Unforgeable <;> infer_instance

instance (cfg : Cfg) (e : Ev α) : Decidable (Carve cfg e) := by
  cases e <;> unfold Carve <;> infer_instance

instance (e : Ev α) : Decidable (Clean e) := by
  cases e <;> unfold Clean <;> infer_instance

/-- `run` that also checks the side condition `P` at every step, so that a successful run of a
concrete trace is a `Reach` derivation (`reach_runChk`); the examples of `Props/C24` exhibit their
reachable states this way. -/
def runChk (cfg : Cfg) (hashFn : Bytes → α) (P : State → Ev α → Prop) [∀ s e, Decidable (P s e)]
    (s : State) : List (Ev α) → Option State
  | [] => some s
  | e :: es =>
    if P s e then
      match step cfg hashFn s e with
      | some s' => runChk cfg hashFn P s' es
      | none => none
    else none

theorem reach_runChk {cfg : Cfg} {hashFn : Bytes → α} {P : State → Ev α → Prop}
    [∀ s e, Decidable (P s e)] (tr : List (Ev α)) (s₀ s : State) (h₀ : Reach cfg hashFn P s₀)
    (h : runChk cfg hashFn P s₀ tr = some s) : Reach cfg hashFn P s := by
  fun_induction runChk cfg hashFn P s₀ tr with
  | case1 s₀ => cases h; exact h₀
  | case2 s₀ e es hp s' hs ih => exact ih (.step h₀ hp hs) h
  | case3 => cases h
  | case4 => cases h

end Arc.C24
