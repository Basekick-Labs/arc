import Arc.Proofs.C24.Inv
/-! With an honest wire (`hrun`) the reader stays in step with the sender: `Synced`, carried along
together with `Struct` and `Ordered`, which say that the frame `honestDist` hands over is above
`lastSeq`, so it is applied and a checkpoint behind it compares equal hashes. -/
namespace Arc.C24
variable {α : Type} [DecidableEq α]

/-- what an honest wire keeps true of the sender/reader pair: nothing was ever dropped, the reader
is connected exactly while the sender serves it, has then applied everything sent in the session,
and its `lastSeq` is the number of an entry the distribution loop popped. -/
structure Synced (s : State) : Prop where
  nodrop : s.lastDrop = none
  ca : s.conn = s.active
  sync : s.conn = true → s.fed = s.sent ∧ s.appliedS = s.sent
  last : s.lastSeq = 0 ∨ ∃ d ∈ s.dist, d.seq = s.lastSeq

structure HInv (cfg : Cfg) (s : State) : Prop where
  st : Struct s
  ord : Ordered cfg s
  wire : Synced s

theorem hinv_init (cfg : Cfg) : HInv cfg init :=
  ⟨struct_init, ordered_init cfg, rfl, rfl, nofun, .inl rfl⟩

section
variable {cfg : Cfg} {hashFn : Bytes → α} {s s' : State}

theorem hinv_dist (H : HInv cfg s) (h : honestDist cfg hashFn s = some s') : HInv cfg s' := by
  obtain ⟨I, O, nodrop, ca, sync, last⟩ := H
  unfold honestDist at h
  split at h
  · cases h
  · rename_i x rest hq
    have hst : step cfg hashFn s (Ev.dist (α := α)) = some (doDist cfg s x rest) := by
      simp [step, hq]
    have I1 := struct_step I hst
    have O1 := ordered_step I O (e := .dist) trivial hst
    -- `x` is above everything popped before it, hence above `lastSeq`
    have hgt : s.lastSeq < x.seq := by
      obtain ⟨hx, hbehind⟩ := queue_head I O hq
      rcases last with h0 | ⟨d, hd, hds⟩
      · exact h0 ▸ (I.qbound x hx).1
      · exact hds ▸ hbehind d hd
    dsimp only at h
    rcases doDist_cases cfg s x rest with ⟨ha, hd⟩ | ⟨ha, n, ck, hck, hd⟩ <;> rw [hd] at h I1 O1
    · rw [if_pos (by simp [ha])] at h
      cases h
      refine ⟨I1, O1, nodrop, ca, fun hc => by simp [ca, ha] at hc, last.imp_right ?_⟩
      exact fun ⟨d, hd, hds⟩ => ⟨d, List.mem_append_left _ hd, hds⟩
    · have hc : s.conn = true := ca ▸ ha
      obtain ⟨hfed, happ⟩ := sync hc
      -- the frame is above `lastSeq`, so it is fed and applied; a checkpoint behind it compares
      -- the hashes of `sent ++ [x]` and `fed ++ [x]`, which agree, so it changes nothing
      have h1 : (!(s.active && s.conn)) = false := by simp [ha, hc]
      have h2 : (!s.conn) = false := by simp [hc]
      simp [recvEntry, recvCkpt, Nat.not_le.mpr hgt, h1, h2, hfed] at h
      subst h
      -- `Struct` and `Ordered` do not mention the reader's fields
      exact ⟨⟨I1.fifo, I1.seg, I1.qbound, I1.hbound, I1.hkeys, I1.acct⟩,
        ⟨O1.one, O1.zero, O1.sorted, O1.above⟩, nodrop, ca, fun _ => ⟨rfl, by rw [happ]⟩,
        .inr ⟨x, by simp, rfl⟩⟩

theorem hinv_hstep {e : HEv}
    (H : HInv cfg s) (hok : cfg.atomic = true ∨ fromZero e = true)
    (h : hstep cfg hashFn s e = some s') : HInv cfg s' := by
  obtain ⟨I, O, W⟩ := H
  cases e with
  | assign t p =>
    have hok : OrdOK (α := α) cfg (.assign t p) := hok.imp_right (by simpa [fromZero] using ·)
    have h : step cfg hashFn s (.assign t p) = some s' := h
    have I1 := struct_step I h
    have O1 := ordered_step I O hok h
    obtain ⟨_, rfl⟩ := Option.ite_some_none_eq_some.mp h
    exact ⟨I1, O1, W.nodrop, W.ca, W.sync, W.last⟩
  | enqueue t =>
    have h : step cfg hashFn s (.enqueue t) = some s' := h
    have I1 := struct_step I h
    have O1 := ordered_step I O (e := .enqueue t) trivial h
    obtain ⟨x, -, rfl⟩ := step_enqueue h
    refine ⟨I1, O1, ?_⟩
    unfold doEnqueue
    split <;> exact ⟨W.nodrop, W.ca, W.sync, W.last⟩
  | dist => exact hinv_dist ⟨I, O, W⟩ h
  | connect =>
    obtain ⟨_, h⟩ := Option.ite_none_left_eq_some.mp h
    cases h
    have hst : step cfg hashFn s (Ev.connect (α := α)) = some (doConnect s) := rfl
    exact ⟨struct_step I hst, ordered_step I O (e := .connect) trivial hst, rfl, rfl, fun _ => ⟨rfl, rfl⟩,
      W.last⟩

theorem hinv_hrun {tr : List HEv}
    (H : HInv cfg s) (hc : HCarve cfg tr = true) (h : hrun cfg hashFn s tr = some s') :
    HInv cfg s' := by
  fun_induction hrun cfg hashFn s tr with
  | case1 s => cases h; exact H
  | case2 s e es s1 hs1 ih =>
    simp only [HCarve, Bool.or_eq_true, List.all_cons, Bool.and_eq_true] at hc ih
    exact ih (hinv_hstep H (hc.imp_right (·.1)) hs1) (hc.imp_right (·.2)) h
  | case3 => cases h

end

theorem healthy (cfg : Cfg) (hashFn : Bytes → α) (_hint : 1 ≤ cfg.interval)
    (tr : List HEv) (s : State)
    (hc : HCarve cfg tr = true) (hr : hrun cfg hashFn init tr = some s) :
    s.lastDrop = none ∧ (s.conn = true → s.appliedS = s.sent) :=
  have H := hinv_hrun (hinv_init cfg) hc hr
  ⟨H.wire.nodrop, fun h => (H.wire.sync h).2⟩

end Arc.C24
