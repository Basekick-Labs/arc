import Arc.Model.C24
import Arc.Base.Lists
/-! Reachability, the hypotheses and carve-outs of the C24 theorems, and the invariants that need no
hypothesis on the wire: the applied log is sorted, the writer side accounts for every number
(`Struct`), and the channel is sorted when there is effectively one producer (`Ordered`).  Every
invariant is proved through one case analysis of `step` (`step_elim`), whose arms present the
successor as an explicit update of the state. -/
namespace Arc.C24

variable {α : Type} [DecidableEq α]

/-- States reachable from `init` by enabled steps whose events satisfy the side condition `P`
(used to state oracle hypotheses such as `Unforgeable` per step). -/
inductive Reach (cfg : Cfg) (hashFn : Bytes → α) (P : State → Ev α → Prop) : State → Prop
  | init : Reach cfg hashFn P init
  | step {s s' : State} {e : Ev α} : Reach cfg hashFn P s → P s e →
      step cfg hashFn s e = some s' → Reach cfg hashFn P s'

/-- HYPOTHESIS (MAC security): an entry tag verifies only for a (seq, payload) the sender emitted in
this session; a checkpoint HMAC verifies only for a (lastSeq, hash) the sender produced. -/
def Unforgeable (hashFn : Bytes → α) (s : State) : Ev α → Prop
  | .deliverE seq p tagOk _ => tagOk = true → (⟨seq, p⟩ : Entry) ∈ s.sent
  | .deliverC l h _ _ macOk => macOk = true → ∃ c ∈ s.ckpts, c.lastSeq = l ∧ hashFn c.pre = h
  | _ => True

/-- HYPOTHESIS (hash security). -/
def CollisionFree (hashFn : Bytes → α) : Prop := ∀ a b, hashFn a = hashFn b → a = b

/-- ordered-channel carve-out per event (+ payloads are non-empty: the running hash is over the
concatenation of payloads, so an empty payload is invisible to it). -/
def Carve (cfg : Cfg) : Ev α → Prop
  | .assign t p => (cfg.atomic = true ∨ t = 0) ∧ p ≠ []
  | _ => True

/-- no local apply failure on the reader. -/
def Clean : Ev α → Prop
  | .deliverE _ _ _ applyOk => applyOk = true
  | _ => True

/-- decidable carve-out of the healthy-connection theorem. -/
def fromZero : HEv → Bool
  | .assign t _ => t == 0
  | _ => true

def HCarve (cfg : Cfg) (tr : List HEv) : Bool := cfg.atomic || tr.all fromZero

theorem reach_mono {cfg : Cfg} {hashFn : Bytes → α} {P Q : State → Ev α → Prop}
    (hpq : ∀ s e, P s e → Q s e) {s : State} (h : Reach cfg hashFn P s) : Reach cfg hashFn Q s := by
  induction h with
  | init => exact .init
  | step _ hp hst ih => exact .step ih (hpq _ _ hp) hst

theorem pairwise_snoc {β : Type} {R : β → β → Prop} {l : List β} {a : β} (hl : l.Pairwise R)
    (ha : ∀ b ∈ l, R b a) : (l ++ [a]).Pairwise R :=
  List.pairwise_append.mpr ⟨hl, List.pairwise_singleton .., fun b hb c hc => by
    cases List.mem_singleton.mp hc; exact ha b hb⟩

section
variable {cfg : Cfg} {hashFn : Bytes → α} {s s' : State} {e : Ev α}

/-- `doDist` written out: the reader is detached, or the entry is emitted, with or without a
checkpoint behind it. -/
theorem doDist_cases (cfg : Cfg) (s : State) (x : Entry) (rest : List Entry) :
    (s.active = false ∧ doDist cfg s x rest = { s with queue := rest, dist := s.dist ++ [x] }) ∨
    (s.active = true ∧ ∃ n ck,
      (ck = s.ckpts ∨ ck = s.ckpts ++ [⟨x.seq, flat (s.sent ++ [x]), s.session⟩]) ∧
      doDist cfg s x rest = { s with queue := rest, dist := s.dist ++ [x], sent := s.sent ++ [x],
                                     since := n, ckpts := ck }) := by
  unfold doDist
  cases ha : s.active with
  | false => exact .inl ⟨rfl, by simp [← ha]⟩
  | true =>
    refine .inr ⟨rfl, ?_⟩
    by_cases hck : s.since + 1 ≥ cfg.interval
    · exact ⟨0, _, .inr rfl, by simp [hck, ← ha]⟩
    · exact ⟨s.since + 1, _, .inl rfl, by simp [hck, ← ha]⟩

/-- a checkpoint drops the connection, or passes every check and changes nothing. -/
theorem recvCkpt_cases (hashFn : Bytes → α) (s : State) (l : Nat) (hv : α) (c f m : Bool) :
    (∃ d, recvCkpt hashFn s l hv c f m = dropConn s d) ∨
    (recvCkpt hashFn s l hv c f m = s ∧ l = s.lastSeq ∧ hv = hashFn (flat s.fed) ∧ m = true) := by
  unfold recvCkpt
  by_cases h1 : (!c) = true; · rw [if_pos h1]; exact .inl ⟨_, rfl⟩
  by_cases h2 : l ≠ s.lastSeq; · rw [if_neg h1, if_pos h2]; exact .inl ⟨_, rfl⟩
  by_cases h3 : hv ≠ hashFn (flat s.fed); · rw [if_neg h1, if_neg h2, if_pos h3]; exact .inl ⟨_, rfl⟩
  by_cases h4 : (!f) = true; · rw [if_neg h1, if_neg h2, if_neg h3, if_pos h4]; exact .inl ⟨_, rfl⟩
  by_cases h5 : (!m) = true
  · rw [if_neg h1, if_neg h2, if_neg h3, if_neg h4, if_pos h5]; exact .inl ⟨_, rfl⟩
  · rw [if_neg h1, if_neg h2, if_neg h3, if_neg h4, if_neg h5]
    exact .inr ⟨rfl, Decidable.not_not.mp h2, Decidable.not_not.mp h3, by simpa using h5⟩

theorem step_enqueue {t : Nat}
    (h : step cfg hashFn s (.enqueue t) = some s') :
    ∃ x, holds s t = some x ∧ s' = doEnqueue cfg s t x := by
  cases hx : holds s t with
  | none => simp [step, hx] at h
  | some x => exact ⟨x, rfl, by simpa [step, hx] using h.symm⟩

/-- Case analysis on an enabled step, the successor written out as an update of `s`.  `frame` is
everything that leaves the stream alone: `detach`, a dropped connection, a verified checkpoint;
`feed` is an entry whose local apply failed (fed to the running hash only). -/
theorem step_elim {motive : Ev α → State → Prop}
    (assign : ∀ t p, holds s t = none → (cfg.atomic = true → s.holding = []) →
      motive (.assign t p) (doAssign s t p))
    (enqueue : ∀ t x, holds s t = some x → motive (.enqueue t)
      { s with holding := unhold s t, queue := s.queue ++ [x], queued := s.queued ++ [x] })
    (drop : ∀ t x, holds s t = some x → motive (.enqueue t)
      { s with holding := unhold s t, dropped := s.dropped ++ [x.seq] })
    (idle : ∀ x rest, s.queue = x :: rest → s.active = false →
      motive .dist { s with queue := rest, dist := s.dist ++ [x] })
    (send : ∀ x rest n ck, s.queue = x :: rest → s.active = true →
      (ck = s.ckpts ∨ ck = s.ckpts ++ [⟨x.seq, flat (s.sent ++ [x]), s.session⟩]) →
      motive .dist { s with queue := rest, dist := s.dist ++ [x], sent := s.sent ++ [x],
                            since := n, ckpts := ck })
    (connect : motive .connect (doConnect s))
    (frame : ∀ e b c d, (b = true → s.active = true) →
      motive e { s with active := b, conn := c, lastDrop := d })
    (feed : ∀ seq p, motive (.deliverE seq p true false) { s with fed := s.fed ++ [⟨seq, p⟩] })
    (apply : ∀ seq p, s.lastSeq < seq → motive (.deliverE seq p true true)
      { s with fed := s.fed ++ [⟨seq, p⟩], appliedS := s.appliedS ++ [⟨seq, p⟩],
               applied := s.applied ++ [⟨seq, p⟩], lastSeq := seq })
    {e : Ev α} {s' : State} (h : step cfg hashFn s e = some s') : motive e s' := by
  have same : ∀ {e}, motive e s := frame _ _ _ _ id
  have gone : ∀ {e} d, motive e (dropConn s d) := fun _ => frame _ _ _ _ id
  cases e with
  | assign t p =>
    obtain ⟨hc, rfl⟩ := Option.ite_some_none_eq_some.mp h
    obtain ⟨h1, h2⟩ := Bool.and_eq_true_iff.mp hc
    exact assign t p (Option.isNone_iff_eq_none.mp h1) fun ha =>
      List.isEmpty_iff.mp (by simpa [ha] using h2)
  | enqueue t =>
    obtain ⟨x, hx, rfl⟩ := step_enqueue h
    unfold doEnqueue; split
    · exact enqueue t x hx
    · exact drop t x hx
  | dist =>
    cases hq : s.queue with
    | nil => simp [step, hq] at h
    | cons x rest =>
      simp only [step, hq, Option.some.injEq] at h
      subst h
      rcases doDist_cases cfg s x rest with ⟨ha, hd⟩ | ⟨ha, n, ck, hck, hd⟩ <;> rw [hd]
      · exact idle x rest hq ha
      · exact send x rest n ck hq ha hck
  | connect => cases Option.some.inj h; exact connect
  | detach => cases Option.some.inj h; exact frame _ _ _ _ nofun
  | deliverE seq p tagOk applyOk =>
    obtain ⟨_, rfl⟩ := Option.ite_some_none_eq_some.mp h
    unfold recvEntry
    cases tagOk with
    | false => exact gone _
    | true =>
      by_cases hq : seq ≤ s.lastSeq
      · simp only [Bool.not_true, Bool.false_eq_true, if_false, if_pos hq]; exact gone _
      · simp only [Bool.not_true, Bool.false_eq_true, if_false, if_neg hq]
        cases applyOk with
        | true => exact apply seq p (Nat.lt_of_not_le hq)
        | false => exact feed seq p
  | deliverC l hv c f m =>
    obtain ⟨_, rfl⟩ := Option.ite_some_none_eq_some.mp h
    rcases recvCkpt_cases hashFn s l hv c f m with ⟨d, hd⟩ | ⟨hd, -⟩ <;> rw [hd]
    · exact gone d
    · exact same
  | deliverBad => obtain ⟨_, rfl⟩ := Option.ite_some_none_eq_some.mp h; exact gone _
  | close => obtain ⟨_, rfl⟩ := Option.ite_some_none_eq_some.mp h; exact gone _

/-- the invariant behind `C24_applied_sorted`; only `apply` touches `applied` and `lastSeq`. -/
theorem applied_sorted {P : State → Ev α → Prop}
    (h : Reach cfg hashFn P s) :
    s.applied.Pairwise (fun a b => a.seq < b.seq) ∧ ∀ e ∈ s.applied, e.seq ≤ s.lastSeq := by
  induction h with
  | init => exact ⟨.nil, nofun⟩
  | step _ _ hst ih =>
    apply step_elim (h := hst)
    case apply =>
      intro seq p hlt
      have hlt := fun a ha => Nat.lt_of_le_of_lt (ih.2 a ha) hlt
      exact ⟨pairwise_snoc ih.1 hlt,
        forall_mem_snoc (fun a ha => Nat.le_of_lt (hlt a ha)) (Nat.le_refl _)⟩
    all_goals intros; exact ih

theorem holds_mem {t : Nat} {e : Entry} (hl : holds s t = some e) : (t, e) ∈ s.holding :=
  lookup_mem hl

theorem unhold_sub {t : Nat} {y : Nat × Entry} (h : y ∈ unhold s t) : y ∈ s.holding :=
  (List.mem_filter.mp h).1

/-- with distinct thread keys, a number held by some thread is the one thread `t` holds, or is
still held after `unhold s t`. -/
theorem held_seq {t : Nat} {x : Entry} (hk : (s.holding.map (·.1)).Nodup)
    (hx : holds s t = some x) {n : Nat} (hn : n ∈ s.holding.map (·.2.seq)) :
    n = x.seq ∨ n ∈ (unhold s t).map (·.2.seq) := by
  obtain ⟨y, hy, rfl⟩ := List.mem_map.mp hn
  by_cases hyt : y.1 = t
  · subst hyt
    exact .inl (congrArg (·.seq) (Option.some.inj ((lookup_of_mem hk hy).symm.trans hx)))
  · exact .inr (List.mem_map_of_mem (List.mem_filter.mpr ⟨hy, by simpa using hyt⟩))

/-- The channel is FIFO, a session's frames are a segment of what was popped, sequence numbers are
within `1..ctr`, threads inside `Replicate` are distinct, and every assigned number is accounted for. -/
structure Struct (s : State) : Prop where
  fifo : s.queued = s.dist ++ s.queue
  seg : ∃ pre post, s.dist = pre ++ s.sent ++ post ∧ (s.active = true → post = [])
  qbound : ∀ e ∈ s.queued, 1 ≤ e.seq ∧ e.seq ≤ s.ctr
  hbound : ∀ x ∈ s.holding, 1 ≤ x.2.seq ∧ x.2.seq ≤ s.ctr
  hkeys : (s.holding.map (·.1)).Nodup
  acct : ∀ n, 1 ≤ n → n ≤ s.ctr →
    n ∈ s.queued.map (·.seq) ∨ n ∈ s.dropped ∨ n ∈ s.holding.map (·.2.seq)

theorem struct_init : Struct init :=
  ⟨rfl, ⟨[], [], rfl, fun _ => rfl⟩, nofun, nofun, .nil, fun _ h1 h2 => absurd h2 (Nat.not_le_of_lt h1)⟩

theorem struct_step (I : Struct s) (h : step cfg hashFn s e = some s') : Struct s' := by
  obtain ⟨fifo, seg, qb, hb, hk, acct⟩ := I
  have ⟨pre, post, hseg, hpost⟩ := seg
  apply step_elim (h := h)
  case assign =>
    intro t p hnone _
    refine ⟨fifo, seg, fun e he => ⟨(qb e he).1, Nat.le_succ_of_le (qb e he).2⟩, ?_, ?_, ?_⟩
    · intro x hx
      rcases List.mem_cons.mp hx with rfl | hx
      · exact ⟨Nat.le_add_left .., Nat.le_refl _⟩
      · exact ⟨(hb x hx).1, Nat.le_succ_of_le (hb x hx).2⟩
    · exact List.nodup_cons.mpr ⟨lookup_none_iff.mp hnone, hk⟩
    · intro n h1 h2
      rcases Nat.lt_or_eq_of_le h2 with h2 | rfl
      · exact (acct n h1 (Nat.le_of_lt_succ h2)).imp_right (.imp_right (List.mem_cons_of_mem _))
      · exact .inr (.inr (List.mem_cons_self ..))
  case enqueue =>
    intro t x hx
    refine ⟨by simp [fifo], seg, forall_mem_snoc qb (hb _ (holds_mem hx)),
      fun y hy => hb y (unhold_sub hy), (List.filter_sublist.map _).nodup hk, fun n h1 h2 => ?_⟩
    rcases acct n h1 h2 with h | h | h
    · exact .inl (by simp [h])
    · exact .inr (.inl h)
    · rcases held_seq hk hx h with rfl | h
      · exact .inl (by simp)
      · exact .inr (.inr h)
  case drop =>
    intro t x hx
    refine ⟨fifo, seg, qb, fun y hy => hb y (unhold_sub hy),
      (List.filter_sublist.map _).nodup hk, fun n h1 h2 => ?_⟩
    exact (acct n h1 h2).imp_right fun h => h.elim (fun h => .inl (List.mem_append_left _ h))
      fun h => (held_seq hk hx h).imp_left fun h => by simp [h]
  case idle =>
    intro x rest hq ha
    exact ⟨by simp [fifo, hq], ⟨pre, post ++ [x], by simp [hseg], by simp [ha]⟩, qb, hb, hk, acct⟩
  case send =>
    intro x rest n ck hq ha _
    cases hpost ha
    exact ⟨by simp [fifo, hq], ⟨pre, [], by simp [hseg], fun _ => rfl⟩, qb, hb, hk, acct⟩
  case connect => exact ⟨fifo, ⟨s.dist, [], by simp [doConnect], fun _ => rfl⟩, qb, hb, hk, acct⟩
  case frame =>
    intro _ b _ _ hact
    exact ⟨fifo, ⟨pre, post, hseg, fun h => hpost (hact h)⟩, qb, hb, hk, acct⟩
  all_goals intros; exact ⟨fifo, seg, qb, hb, hk, acct⟩

theorem struct_reach {P : State → Ev α → Prop}
    (h : Reach cfg hashFn P s) : Struct s := by
  induction h with
  | init => exact struct_init
  | step _ _ hst ih => exact struct_step ih hst

theorem sent_sublist_queued (I : Struct s) : s.sent.Sublist s.queued := by
  obtain ⟨pre, post, hseg, _⟩ := I.seg
  rw [I.fifo, hseg]
  exact ((List.sublist_append_right pre s.sent).trans (List.sublist_append_left _ post)).trans
    (List.sublist_append_left _ _)

/-- the invariant behind `C24_authentic`: `queued` only grows, and `apply` adds a frame whose tag
verified, i.e. one the sender emitted. -/
theorem applied_queued (h : Reach cfg hashFn (Unforgeable hashFn) s) : ∀ e ∈ s.applied, e ∈ s.queued := by
  induction h with
  | init => exact nofun
  | step hr hp hst ih =>
    revert hp
    apply step_elim (h := hst)
    case enqueue => intro _ _ _ _ x hx; exact List.mem_append_left _ (ih x hx)
    case apply =>
      exact fun seq p _ hu =>
        forall_mem_snoc ih ((sent_sublist_queued (struct_reach hr)).subset (hu rfl))
    all_goals intros; exact ih _ ‹_›

end

def ltE (a b : Entry) : Prop := a.seq < b.seq

/-- What keeps the channel sorted when assignment and enqueue are atomic or thread 0 is the only
producer: at most one thread is inside `Replicate`, and the entry it holds is above everything
enqueued so far. -/
structure Ordered (cfg : Cfg) (s : State) : Prop where
  one : s.holding.length ≤ 1
  zero : cfg.atomic = false → ∀ x ∈ s.holding, x.1 = 0
  sorted : s.queued.Pairwise ltE
  above : ∀ x ∈ s.holding, ∀ e ∈ s.queued, e.seq < x.2.seq

/-- per-event side condition: an `assign` comes from thread 0 unless the critical section is atomic. -/
def OrdOK (cfg : Cfg) : Ev α → Prop
  | .assign t _ => cfg.atomic = true ∨ t = 0
  | _ => True

section
variable {cfg : Cfg} {hashFn : Bytes → α} {s s' : State} {e : Ev α}

theorem ordered_init (cfg : Cfg) : Ordered cfg init := ⟨Nat.zero_le _, fun _ => nofun, .nil, nofun⟩

theorem ordered_step (I : Struct s) (O : Ordered cfg s) (hok : OrdOK cfg e)
    (h : step cfg hashFn s e = some s') : Ordered cfg s' := by
  -- the one thread inside `Replicate` is the one that enqueues
  have hun : ∀ {t x}, holds s t = some x → unhold s t = [] := by
    intro t x hx
    have hmem := holds_mem hx
    match hh : s.holding, O.one, hmem with
    | [y], _, hm => cases List.mem_singleton.mp hm; simp [unhold, hh]
  revert hok
  apply step_elim (h := h)
  case assign =>
    intro t p hnone hat hok
    -- nobody else is inside `Replicate`: the section is atomic, or only thread 0 ever enters
    have hnil : s.holding = [] := by
      cases ha : cfg.atomic with
      | true => exact hat ha
      | false =>
        cases hok.resolve_left (by simp [ha])
        exact List.eq_nil_iff_forall_not_mem.mpr fun x hx =>
          lookup_none_iff.mp hnone (O.zero ha x hx ▸ List.mem_map_of_mem (f := Prod.fst) hx)
    refine ⟨by simp [doAssign, hnil], fun ha x hx => ?_, O.sorted, fun x hx e he => ?_⟩
    all_goals simp only [doAssign, hnil, List.mem_singleton] at hx; subst hx
    · exact hok.resolve_left (by simp [ha])
    · exact Nat.lt_succ_of_le (I.qbound e he).2
  case enqueue =>
    intro t x hx _
    rw [hun hx]
    exact ⟨Nat.zero_le _, fun _ => nofun, pairwise_snoc O.sorted (O.above _ (holds_mem hx)), nofun⟩
  case drop => intro t x hx _; rw [hun hx]; exact ⟨Nat.zero_le _, fun _ => nofun, O.sorted, nofun⟩
  all_goals intros; exact ⟨O.one, O.zero, O.sorted, O.above⟩

/-- the head of the channel was enqueued, behind everything already distributed. -/
theorem queue_head {x : Entry} {rest : List Entry} (I : Struct s)
    (O : Ordered cfg s) (hq : s.queue = x :: rest) : x ∈ s.queued ∧ ∀ d ∈ s.dist, d.seq < x.seq := by
  have hs := O.sorted
  rw [I.fifo, hq, List.pairwise_append] at hs
  exact ⟨by simp [I.fifo, hq], fun d hd => hs.2.2 d hd x (List.mem_cons_self ..)⟩

end

end Arc.C24
