import Arc.Model.C27
/-!
The hub object of one (spoke, path) as a transition system (`HEv`, `hstep`, `hrun`) over ALL histories of
receive calls (any offset, any body — i.e. every transport fault and every spoke behaviour), reconciles,
compaction marks and deferred source deletions, staging sweeps, deletions and foreign writers.
`receive_cases` (nothing changed | the existing file matched and was recorded again | verified content was
`Promoted`) and `forgetStale_cases` are the only places where receiver and reconciler are unfolded. From
them, event by event: content (`ContentOK`: `hstep_content`, `hrun_content`), exactly-once (`OnceSt` under the
carve-out `noOrphanCompact`: `hstep_once`, `hrun_once`) and soundness of acknowledgments (`Holds`:
`ack_put_holds`, `ack_recon_holds`, `hstep_holds`, `hrun_holds`). The ghost `mAfter` with `wfJobs` ties a
deferred source deletion to the compaction job that stamped the receipt; `stamp_step` (the stamp survives
every later event) and `wfJobs_cons` (one step of a well-formed history) serve the last two invariants.
-/
namespace Arc.C27

/-- Everything that can happen to the hub object of one (spoke, path). `recv q` is a `Receive` call
with ANY offset and ANY body bytes (so it covers every transport fault — truncation, corruption,
duplication, replays after a lost acknowledgment — and every state of the spoke, crashed or not). -/
inductive HEv
  | recv (q : Req)
  | recon                       -- a reconcile batch naming this path (confirmPresent + ForgetBatch)
  | compact (del : Bool)        -- hub compaction consumed the file (MarkCompacted, then delete)
  | cdel                        -- hub compaction's deferred source deletion (retry after a failed delete)
  | sweep                       -- SweepStaging
  | delete                      -- genuine hub-side removal (retention / rm); the index is not told
  | plant (b : Bytes) (indexed : Bool)   -- foreign content at the path (spoke-ID collision)

def hstep (H : Bytes → Bytes) (o : HObj) : HEv → HObj
  | .recv q => (receive H o q).1
  | .recon => forgetStale o
  | .compact del => hubCompact o del
  | .cdel => hubCompactDelete o
  | .sweep => hubSweep o
  | .delete => hubDelete o
  | .plant b i => hubPlant H o b i

def hrun (H : Bytes → Bytes) (o : HObj) (evs : List HEv) : HObj := evs.foldl (hstep H) o

def CollisionFree (H : Bytes → Bytes) : Prop := ∀ a b, H a = H b → a = b

def isPlant : HEv → Bool
  | .plant _ _ => true
  | _ => false
def isDelete : HEv → Bool
  | .delete => true
  | _ => false

def isAck : PutRes → Bool
  | .committed _ => true
  | .already _ => true
  | _ => false

/-- the call changed neither the final file, nor the receipt, nor acknowledged anything. -/
def Quiet (o : HObj) (r : HObj × PutRes) : Prop :=
  r.1.final = o.final ∧ r.1.idx = o.idx ∧ r.1.promotes = o.promotes ∧ isAck r.2 = false

/-- the call promoted verified content (and recorded it unless the index write failed). -/
def Promoted (H : Bytes → Bytes) (o : HObj) (q : Req) (r : HObj × PutRes) : Prop :=
  ∃ c, H c = q.sha ∧ r.1.final = some c ∧ r.1.promotes = o.promotes + 1 ∧
    ((r.1.idx = o.idx ∧ r.2 = .err) ∨ (r.1.idx = some (q.sha, false) ∧ r.2 = .committed q.size))

theorem commitStaged_spec (H : Bytes → Bytes) (o : HObj) (q : Req) :
    Quiet o (commitStaged H o q) ∨ Promoted H o q (commitStaged H o q) := by
  unfold commitStaged
  split
  · exact .inl ⟨rfl, rfl, rfl, rfl⟩
  · rename_i h
    refine .inr ⟨_, Decidable.not_not.mp h, ?_⟩
    split
    · exact ⟨rfl, rfl, .inl ⟨rfl, rfl⟩⟩
    · exact ⟨rfl, rfl, .inr ⟨rfl, rfl⟩⟩

theorem stageBody_spec (H : Bytes → Bytes) (o : HObj) (q : Req) :
    Quiet o (stageBody H o q) ∨ Promoted H o q (stageBody H o q) := by
  unfold stageBody
  split
  · refine .inl ⟨rfl, rfl, rfl, ?_⟩
    dsimp only; split <;> rfl
  · exact commitStaged_spec H o q

theorem receiveAbsent_spec (H : Bytes → Bytes) (o : HObj) (q : Req) :
    Quiet o (receiveAbsent H o q) ∨ Promoted H o q (receiveAbsent H o q) := by
  unfold receiveAbsent
  split
  · split <;> exact .inl ⟨rfl, rfl, rfl, rfl⟩
  · split
    · exact .inl ⟨rfl, rfl, rfl, rfl⟩
    · exact stageBody_spec H o q

theorem compactedSha_eq_some {o : HObj} {s : Bytes} : compactedSha o = some s ↔ o.idx = some (s, true) := by
  unfold compactedSha
  split
  · rename_i s' h; rw [h]; simp
  · rename_i h; exact ⟨nofun, fun hi => absurd hi (h s)⟩

theorem compactedSha_none_of_idx (o : HObj) (h : o.idx = none) : compactedSha o = none := by
  simp [compactedSha, h]

theorem compacted_idx (o : HObj) (h : (compactedSha o).isSome = true) : ∃ s, o.idx = some (s, true) := by
  obtain ⟨s, hs⟩ := Option.isSome_iff_exists.mp h
  exact ⟨s, compactedSha_eq_some.mp hs⟩

theorem compactedSha_congr {o o' : HObj} (h : o'.idx = o.idx) : compactedSha o' = compactedSha o := by
  unfold compactedSha; rw [h]

/-- `MarkCompacted` is an UPDATE: it stamps the receipt that is there, whatever its state. -/
theorem hubCompact_stamped {o : HObj} (d : Bool) (h : o.idx.isSome = true) :
    (compactedSha (hubCompact o d)).isSome = true := by
  obtain ⟨⟨s, c⟩, hi⟩ := Option.isSome_iff_exists.mp h
  simp [hubCompact, compactedSha, hi]

/-- `ForgetBatch` strikes exactly a plain receipt whose file is gone. -/
theorem forgetStale_cases (o : HObj) :
    (forgetStale o = o ∧ ∀ s, o.idx = some (s, false) → o.final.isSome = true) ∨
    (forgetStale o = { o with idx := none } ∧ ∃ s, o.idx = some (s, false) ∧ o.final = none) := by
  unfold forgetStale
  split
  · rename_i s hi hf; exact .inr ⟨rfl, s, hi, hf⟩
  · rename_i hn
    refine .inl ⟨rfl, fun s hi => ?_⟩
    cases hf : o.final with
    | none => exact absurd hf (hn s hi)
    | some b => rfl

/-- Every way a `Receive` call can end: nothing the invariants look at changed, and an acknowledgment
then came from the compacted receipt; or the existing file matched and was recorded again; or the path
was free and verified content was promoted. -/
theorem receive_cases (H : Bytes → Bytes) (o : HObj) (q : Req) :
    ((receive H o q).1.final = o.final ∧ (receive H o q).1.idx = o.idx ∧
      (receive H o q).1.promotes = o.promotes ∧
      (isAck (receive H o q).2 = true → compactedSha o = some q.sha)) ∨
    (compactedSha o = none ∧ ∃ b, o.final = some b ∧ H b = q.sha ∧
      (receive H o q).1 = { o with idx := some (q.sha, false) }) ∨
    (compactedSha o = none ∧ o.final = none ∧ Promoted H o q (receive H o q)) := by
  unfold receive
  split
  · rename_i s hs
    left; unfold receiveCompacted
    split
    · rename_i h; exact ⟨rfl, rfl, rfl, fun _ => h ▸ hs⟩
    · exact ⟨rfl, rfl, rfl, nofun⟩
  · rename_i hs
    split
    · rename_i b hb
      unfold receiveExisting
      split
      · rename_i h; exact .inr (.inl ⟨hs, b, hb, h, rfl⟩)
      · exact .inl ⟨rfl, rfl, rfl, nofun⟩
    · rename_i hf
      rcases receiveAbsent_spec H o q with h | h
      · exact .inl ⟨h.1, h.2.1, h.2.2.1, fun a => by rw [h.2.2.2] at a; cases a⟩
      · exact .inr (.inr ⟨hs, hf, h⟩)

/-- content invariant of one object for the spoke file `orig`. -/
def ContentOK (orig : Bytes) (o : HObj) : Prop := ∀ b, o.final = some b → b = orig

/-- the receiver writes `final` only in the promote step, with content whose digest is the declared one. -/
theorem hstep_content {H : Bytes → Bytes} (hcf : CollisionFree H) {orig : Bytes} {o : HObj} {e : HEv}
    (hdecl : ∀ q, e = .recv q → q.sha = H orig) (hnp : isPlant e = false) (h : ContentOK orig o) :
    ContentOK orig (hstep H o e) := by
  intro b hb
  cases e with
  | recv q =>
    rcases receive_cases H o q with s | ⟨_, _, _, _, e⟩ | ⟨_, _, c, hc, hfin, _⟩
    · exact h b (s.1 ▸ hb)
    · exact h b (by rw [hstep, e] at hb; exact hb)
    · cases hfin.symm.trans hb
      exact hcf _ _ (hc.trans (hdecl q rfl))
  | recon =>
    rcases forgetStale_cases o with ⟨e, _⟩ | ⟨e, _⟩ <;> exact h b (by rw [hstep, e] at hb; exact hb)
  | compact del =>
    cases del
    · exact h b hb
    · cases hb
  | sweep => exact h b hb
  | cdel | delete => cases hb
  | plant _ _ => cases hnp

theorem hrun_content {H : Bytes → Bytes} (hcf : CollisionFree H) {orig : Bytes} (evs : List HEv) (o : HObj)
    (hdecl : ∀ q, HEv.recv q ∈ evs → q.sha = H orig) (hnp : ∀ e ∈ evs, isPlant e = false)
    (h : ContentOK orig o) : ContentOK orig (hrun H o evs) := by
  induction evs generalizing o with
  | nil => exact h
  | cons e es ih =>
    obtain ⟨hnp0, hnp⟩ := List.forall_mem_cons.mp hnp
    exact ih _ (fun q hq => hdecl q (.tail _ hq)) hnp
      (hstep_content hcf (fun q hq => hdecl q (hq ▸ .head _)) hnp0 h)

/-! ### compaction jobs: mark, then (possibly much later) delete the source -/

/-- ghost: a compaction job has stamped this object's receipt while its file existed, and no genuine
removal / foreign writer has intervened since. -/
def mAfter (o : HObj) (m : Bool) : HEv → Bool
  | .compact _ => o.final.isSome || m
  | .delete => false
  | .plant _ _ => false
  | _ => m

/-- environment well-formedness: a deferred source deletion belongs to a job that stamped the object. -/
def wfJobs (H : Bytes → Bytes) : HObj → Bool → List HEv → Bool
  | _, _, [] => true
  | o, m, e :: es =>
    (match e with
     | .cdel => m
     | _ => true) && wfJobs H (hstep H o e) (mAfter o m e) es

theorem receive_keeps_compacted (H : Bytes → Bytes) (o : HObj) (q : Req)
    (h : (compactedSha o).isSome = true) : (receive H o q).1 = o := by
  unfold receive
  cases hc : compactedSha o with
  | none => rw [hc] at h; simp at h
  | some s => simp only; unfold receiveCompacted; split <;> rfl

/-- **the stamp survives**: once a job has stamped the receipt, no upload (any offset/body),
reconcile, sweep, re-mark or source deletion clears it — this is where "compacted receipt is checked
before file existence" (`C27_receipt_before_exists`) is used. -/
theorem stamp_step (H : Bytes → Bytes) (o : HObj) (m : Bool) (e : HEv)
    (hm : m = true → (compactedSha o).isSome = true)
    (hidx : ∀ d, e = .compact d → o.final.isSome = true → o.idx.isSome = true)
    (h : mAfter o m e = true) : (compactedSha (hstep H o e)).isSome = true := by
  cases e with
  | recv q => rw [hstep, receive_keeps_compacted H o q (hm h)]; exact hm h
  | recon =>
    obtain ⟨s, hi⟩ := compacted_idx o (hm h)
    rcases forgetStale_cases o with ⟨e, _⟩ | ⟨_, s', hi', _⟩
    · rw [hstep, e]; exact hm h
    · rw [hi] at hi'; cases hi'
  | compact d =>
    refine hubCompact_stamped d ?_
    simp only [mAfter, Bool.or_eq_true] at h
    rcases h with h | h
    · exact hidx d rfl h
    · obtain ⟨s, hi⟩ := compacted_idx o (hm h); rw [hi]; rfl
  | cdel | sweep => exact hm h
  | delete | plant _ _ => cases h

/-- one event of a well-formed history: a deferred deletion finds the stamp, and the ghost `m` stays
true to the object. -/
theorem wfJobs_cons {H : Bytes → Bytes} {o : HObj} {m : Bool} {e : HEv} {es : List HEv}
    (hw : wfJobs H o m (e :: es) = true) (hm : m = true → (compactedSha o).isSome = true)
    (hidx : ∀ d, e = .compact d → o.final.isSome = true → o.idx.isSome = true) :
    (e = .cdel → (compactedSha o).isSome = true) ∧
    (mAfter o m e = true → (compactedSha (hstep H o e)).isSome = true) ∧
    wfJobs H (hstep H o e) (mAfter o m e) es = true := by
  simp only [wfJobs, Bool.and_eq_true] at hw
  exact ⟨fun hd => by subst hd; exact hm hw.1, stamp_step H o m e hm hidx, hw.2⟩

/-! ### exactly once -/

/-- the object is untouched, or was promoted once and still holds the file or its compacted receipt. -/
inductive OnceSt (o : HObj) : Prop
  | fresh (h1 : o.promotes = 0) (h2 : o.final = none) (h3 : o.idx = none)
  | once (h1 : o.promotes = 1) (h2 : o.final.isSome ∨ (compactedSha o).isSome)

/-- the carve-out of the finding: no hub compaction consumes a promoted file that has no receipt. -/
def noOrphanCompact (H : Bytes → Bytes) : HObj → List HEv → Bool
  | _, [] => true
  | o, e :: es =>
    (match e with
     | .compact _ => !(o.final.isSome && o.idx.isNone)
     | _ => true) && noOrphanCompact H (hstep H o e) es

theorem OnceSt.congr {o o' : HObj} (h : OnceSt o) (hf : o'.final = o.final) (hi : o'.idx = o.idx)
    (hp : o'.promotes = o.promotes) : OnceSt o' := by
  cases h with
  | fresh h1 h2 h3 => exact .fresh (hp.trans h1) (hf.trans h2) (hi.trans h3)
  | once h1 h2 => exact .once (hp.trans h1) (by rw [hf, compactedSha_congr hi]; exact h2)

theorem hstep_once {H : Bytes → Bytes} {o : HObj} {e : HEv} (h : OnceSt o)
    (hidx : ∀ d, e = .compact d → o.final.isSome = true → o.idx.isSome = true)
    (hcd : e = .cdel → (compactedSha o).isSome = true)
    (hnd : isDelete e = false) (hnp : isPlant e = false) : OnceSt (hstep H o e) := by
  cases e with
  | recv q =>
    show OnceSt (receive H o q).1
    rcases receive_cases H o q with s | ⟨_, b, hf, _, e⟩ | ⟨hc, hf, c, _, p1, p2, _⟩
    · exact h.congr s.1 s.2.1 s.2.2.1
    · -- a file is there, so it was promoted before, and it stays
      rw [e]
      cases h with
      | fresh _ h2 _ => rw [hf] at h2; cases h2
      | once h1 _ => exact .once h1 (.inl (hf ▸ rfl))
    · -- neither a file nor a compacted receipt: the object was untouched
      cases h with
      | fresh h1 _ _ => exact .once (by rw [p2, h1]) (.inl (p1 ▸ rfl))
      | once _ h2 => rw [hf, hc] at h2; rcases h2 with h2 | h2 <;> cases h2
  | recon =>
    rcases forgetStale_cases o with ⟨e, _⟩ | ⟨_, s, hi, hf⟩
    · rw [hstep, e]; exact h
    · -- a plain receipt without its file is not a state the receiver leaves behind
      cases h with
      | fresh _ _ h3 => rw [hi] at h3; cases h3
      | once _ h2 => rw [hf, compactedSha, hi] at h2; rcases h2 with h2 | h2 <;> cases h2
  | compact del =>
    cases h with
    | fresh h1 h2 h3 =>
      exact .fresh h1 (by cases del <;> simp [hstep, hubCompact, h2]) (by simp [hstep, hubCompact, h3])
    | once h1 h2 =>
      -- with a receipt (given for a present file, implied by a compacted one) the mark holds the object
      exact .once h1 <| .inr <| hubCompact_stamped del <| h2.elim (hidx del rfl) fun h => by
        obtain ⟨s, hi⟩ := compacted_idx o h; rw [hi]; rfl
  | cdel =>
    cases h with
    | fresh _ _ h3 => rw [compactedSha_none_of_idx o h3] at hcd; cases hcd rfl
    | once h1 _ => exact .once h1 (.inr (hcd rfl))
  | sweep => exact h.congr rfl rfl rfl
  | delete => cases hnd
  | plant b i => cases hnp

theorem hrun_once {H : Bytes → Bytes} (evs : List HEv) {o : HObj} {m : Bool} (h : OnceSt o)
    (hm : m = true → (compactedSha o).isSome = true)
    (hc : noOrphanCompact H o evs = true) (hw : wfJobs H o m evs = true)
    (hnd : ∀ e ∈ evs, isDelete e = false)
    (hnp : ∀ e ∈ evs, isPlant e = false) : OnceSt (hrun H o evs) := by
  induction evs generalizing o m with
  | nil => exact h
  | cons e es ih =>
    obtain ⟨hnd0, hnd⟩ := List.forall_mem_cons.mp hnd
    obtain ⟨hnp0, hnp⟩ := List.forall_mem_cons.mp hnp
    simp only [noOrphanCompact, Bool.and_eq_true] at hc
    have hidx : ∀ d, e = .compact d → o.final.isSome = true → o.idx.isSome = true := by
      intro d hd hf; subst hd
      simpa [hf] using hc.1
    obtain ⟨hcd, hm', hw'⟩ := wfJobs_cons hw hm hidx
    exact ih (hstep_once (H := H) h hidx hcd hnd0 hnp0) hm' hc.2 hw' hnd hnp

/-! ### acknowledgments are sound and stay sound -/

/-- the hub holds the spoke file `orig`: a receipt with its digest, and the file itself or the mark
that hub compaction folded it into a compacted output. -/
def Holds (H : Bytes → Bytes) (orig : Bytes) (o : HObj) : Prop :=
  ∃ c, o.idx = some (H orig, c) ∧ (c = true ∨ o.final = some orig)

/-- without a compacted receipt, holding means: plain receipt and the file itself. -/
theorem Holds.file {H : Bytes → Bytes} {orig : Bytes} {o : HObj} (h : Holds H orig o)
    (hn : compactedSha o = none) : o.idx = some (H orig, false) ∧ o.final = some orig := by
  obtain ⟨c, hi, hc⟩ := h
  cases c
  · exact ⟨hi, hc.resolve_left nofun⟩
  · rw [compactedSha_eq_some.mpr hi] at hn; cases hn

/-- a transfer acknowledged as committed / already-present implies the hub holds the file. -/
theorem ack_put_holds {H : Bytes → Bytes} (hcf : CollisionFree H) {orig : Bytes} {o : HObj} {q : Req}
    (hq : q.sha = H orig) (hack : isAck (receive H o q).2 = true) :
    Holds H orig (receive H o q).1 := by
  rcases receive_cases H o q with ⟨_, hi, _, hc⟩ | ⟨_, b, hf, hb, e⟩ | ⟨_, _, c, hcsha, p1, _, p3⟩
  · exact ⟨true, by rw [hi, compactedSha_eq_some.mp (hc hack), hq], .inl rfl⟩
  · rw [e]
    exact ⟨false, by rw [hq], .inr (hf.trans (by rw [hcf b orig (by rw [hb, hq])]))⟩
  · rcases p3 with ⟨_, p4⟩ | ⟨p3, _⟩
    · rw [p4] at hack; cases hack
    · exact ⟨false, by rw [p3, hq], .inr (by rw [p1, hcf c orig (by rw [hcsha, hq])])⟩

/-- a path reconcile reports as present implies the hub holds the file (`ContentOK`: no foreign writer). -/
theorem ack_recon_holds {H : Bytes → Bytes} {orig : Bytes} {o : HObj} (hco : ContentOK orig o)
    (hp : classify (forgetStale o) (H orig) = .present) : Holds H orig (forgetStale o) := by
  unfold classify at hp
  split at hp
  · cases hp
  · rename_i s c hi
    split at hp
    · rename_i hs
      subst hs
      refine ⟨c, hi, ?_⟩
      cases c
      · -- a plain receipt that survived `forgetStale`: its file exists, and is the spoke's
        rcases forgetStale_cases o with ⟨e, hfin⟩ | ⟨e, _⟩
        · rw [e] at hi ⊢
          obtain ⟨b, hb⟩ := Option.isSome_iff_exists.mp (hfin _ hi)
          exact .inr (hco b hb ▸ hb)
        · rw [e] at hi; cases hi
      · exact .inl rfl
    · cases hp

theorem hstep_holds {H : Bytes → Bytes} {orig : Bytes} {o : HObj} {e : HEv} (h : Holds H orig o)
    (hcd : e = .cdel → (compactedSha o).isSome = true)
    (hnd : isDelete e = false) (hnp : isPlant e = false) : Holds H orig (hstep H o e) := by
  have ⟨c, hi, hc⟩ := h
  cases e with
  | recv q =>
    rcases receive_cases H o q with s | ⟨hn, b, hf, hb, e⟩ | ⟨hn, hf, _⟩
    · exact ⟨c, s.2.1.trans hi, hc.imp_right s.1.trans⟩
    · obtain ⟨_, hf'⟩ := h.file hn
      rw [hf] at hf'; cases hf'
      exact ⟨false, by rw [hstep, e, hb], .inr (by rw [hstep, e]; exact hf)⟩
    · rw [(h.file hn).2] at hf; cases hf
  | recon =>
    rcases forgetStale_cases o with ⟨e, _⟩ | ⟨_, s, hi', hf⟩
    · rw [hstep, e]; exact h
    · rw [hi] at hi'; cases hi'
      rw [hc.resolve_left nofun] at hf; cases hf
  | compact del => exact ⟨true, by simp [hstep, hubCompact, hi], .inl rfl⟩
  | cdel =>
    obtain ⟨s, hi'⟩ := compacted_idx o (hcd rfl)
    rw [hi] at hi'; cases hi'
    exact ⟨true, hi, .inl rfl⟩
  | sweep => exact h
  | delete => cases hnd
  | plant b i => cases hnp

theorem hrun_holds {H : Bytes → Bytes} {orig : Bytes} (evs : List HEv) {o : HObj} {m : Bool}
    (h : Holds H orig o) (hm : m = true → (compactedSha o).isSome = true)
    (hw : wfJobs H o m evs = true)
    (hnd : ∀ e ∈ evs, isDelete e = false) (hnp : ∀ e ∈ evs, isPlant e = false) :
    Holds H orig (hrun H o evs) := by
  induction evs generalizing o m with
  | nil => exact h
  | cons e es ih =>
    obtain ⟨hnd0, hnd⟩ := List.forall_mem_cons.mp hnd
    obtain ⟨hnp0, hnp⟩ := List.forall_mem_cons.mp hnp
    obtain ⟨hcd, hm', hw'⟩ := wfJobs_cons hw hm fun _ _ _ => by
      obtain ⟨c, hi, _⟩ := h; rw [hi]; rfl
    exact ih (hstep_holds h hcd hnd0 hnp0) hm' hw' hnd hnp

end Arc.C27
