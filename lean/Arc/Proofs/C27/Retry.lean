import Arc.Model.C27
/-!
The per-file retry loop as a fold of `passRow` (what one pass that attempts the file does to its ledger row)
over the outcomes of the passes. It ends because `MarkInFlight` counts every attempt, `MarkFailed` at the cap
is terminal (`failed_inFlight`, `passRow_pending`) and the end states absorb (`apply_terminal`,
`passRow_terminal`, `passes_of_terminal`); `passes_terminal` puts the two together.
-/
namespace Arc.C27

/-- how the transfer of one pass ended, as far as the ledger is concerned: acknowledged, source file
vanished, content conflict, or any retryable failure (error, lost ack, partial with a new checkpoint,
checksum mismatch, backpressure). -/
inductive Outcome
  | done | vanished | conflict | retry (checkpoint : Option Nat)

/-- what one pass that attempts the file does to its ledger row — the row rewrites and guards are
the model's own (`Row.apply` with the table's source sets; `sendOne` applies exactly these). -/
def passRow (cfg : Cfg) (out : Outcome) (r : Row) : Row :=
  let r1 := r.apply .markInFlight rfInFlight
  match out with
  | .done => r1.apply .markSynced rfSynced
  | .vanished => r1.apply .markSkipped rfSkipped
  | .conflict => r1.apply .markFailed (rfFailed 1)
  | .retry none => r1.apply .markFailed (rfFailed cfg.maxAttempts)
  | .retry (some n) => (r1.apply .recordProgress (rfProgress n)).apply .markFailed (rfFailed cfg.maxAttempts)

def terminal (s : St) : Bool := s == .synced || s == .skipped || s == .failed

theorem apply_of_state {m : Method} {r : Row} {s : St} (hs : r.state = s) (h : s ∈ m.src) (f : Row → Row) :
    r.apply m f = f r := if_pos (hs ▸ h)

/-- a guarded UPDATE whose source states are all live leaves a row in an end state alone -/
theorem apply_terminal {m : Method} (hm : ∀ s ∈ m.src, terminal s = false) (f : Row → Row) {r : Row}
    (h : terminal r.state = true) : r.apply m f = r :=
  if_neg fun hs => by rw [hm _ hs] at h; cases h

theorem passRow_terminal (cfg : Cfg) (out : Outcome) {r : Row} (h : terminal r.state = true) :
    passRow cfg out r = r := by
  have h1 : r.apply .markInFlight rfInFlight = r := apply_terminal (by decide) _ h
  unfold passRow
  simp only [h1]
  cases out with
  | done | vanished | conflict => exact apply_terminal (by decide) _ h
  | retry c =>
    cases c with
    | none => exact apply_terminal (by decide) _ h
    | some n =>
      simp only [apply_terminal (m := .recordProgress) (by decide) _ h]
      exact apply_terminal (by decide) _ h

/-- `MarkFailed` on an in-flight row: an end state, or pending with attempts to spare. -/
theorem failed_inFlight (cap : Nat) {r : Row} (hs : r.state = .inFlight) :
    terminal (r.apply .markFailed (rfFailed cap)).state = true ∨
    ((r.apply .markFailed (rfFailed cap)).state = .pending ∧
      (r.apply .markFailed (rfFailed cap)).attempts = r.attempts ∧ r.attempts < cap) := by
  rw [apply_of_state hs (by decide)]
  by_cases hc : r.attempts ≥ cap
  · left; simp [rfFailed, hc, terminal]
  · right; simp only [rfFailed, hc, if_false, true_and]; omega

theorem passRow_pending (cfg : Cfg) (out : Outcome) (r : Row) (h : r.state = .pending) :
    terminal (passRow cfg out r).state = true ∨
    ((passRow cfg out r).state = .pending ∧ (passRow cfg out r).attempts = r.attempts + 1 ∧
      r.attempts + 1 < cfg.maxAttempts) := by
  have h1 : r.apply .markInFlight rfInFlight = rfInFlight r := apply_of_state h (by decide) _
  cases out with
  | done | vanished =>
    left; simp only [passRow, h1]; rw [apply_of_state (s := .inFlight) rfl (by decide)]; rfl
  | conflict =>
    simp only [passRow, h1]
    rcases failed_inFlight 1 (r := rfInFlight r) rfl with t | ⟨_, _, t⟩
    · exact .inl t
    · exact absurd (Nat.le_of_lt_succ t) (Nat.not_succ_le_zero _)
  | retry c =>
    cases c with
    | none => simp only [passRow, h1]; exact failed_inFlight _ rfl
    | some n =>
      simp only [passRow, h1]
      rw [apply_of_state (m := .recordProgress) (s := .inFlight) rfl (by decide)]
      exact failed_inFlight _ rfl

theorem passes_of_terminal (cfg : Cfg) (outs : List Outcome) {r : Row} (h : terminal r.state = true) :
    outs.foldl (fun r o => passRow cfg o r) r = r := by
  induction outs with
  | nil => rfl
  | cons o os ih => rw [List.foldl_cons, passRow_terminal cfg o h, ih]

/-- a pending row with `a` attempts behind it is in an end state after `maxAttempts - a` passes (and
after one pass when it had used them up already) -/
theorem passes_terminal (cfg : Cfg) (outs : List Outcome) (r : Row) (hr : r.state = .pending)
    (h1 : outs = [] → r.attempts < cfg.maxAttempts) (hlen : cfg.maxAttempts ≤ r.attempts + outs.length) :
    terminal (outs.foldl (fun r o => passRow cfg o r) r).state = true := by
  induction outs generalizing r with
  | nil => exact absurd (h1 rfl) (Nat.not_lt.mpr hlen)
  | cons o os ih =>
    rw [List.foldl_cons]
    rcases passRow_pending cfg o r hr with t | ⟨p1, p2, p3⟩
    · rw [passes_of_terminal cfg os t]; exact t
    · exact ih _ p1 (fun _ => by omega) (by simp only [List.length_cons] at hlen; omega)

end Arc.C27
