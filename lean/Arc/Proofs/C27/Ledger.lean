import Arc.Model.C27
/-!
The ledger's transition log under every agent run. The agent program changes rows only through guarded UPDATEs
(`updPath`, `updAll`) and the INSERT of discovery. A log entry is `ok` when it is an edge of the table of the
method that wrote it; `Writes m f` (the row rewrite `f` only writes target states of `m`) gives that for what
one UPDATE logs (`logOf_ok`). `LogInv` (every entry of the run state's log is `ok`) moves along the program
in two ways: a step that leaves the spoke alone (`LogInv.of_sp`, with `tick_sp`, `popFault_sp`, `putFile_sp`,
`doReconcile_sp`) and a step that appends `ok` entries (`LogInv.append`: `ledgerStep_inv`, `recover_inv`,
`discover_inv`). The remaining `_inv` lemmas walk `sendOne`, `reconcileAndSend`, `runBatch`, `pagesLoop`.
-/
namespace Arc.C27

/-- a log entry is an edge of the table of the method that wrote it (or the INSERT of a pending row). -/
def LogE.ok (e : LogE) : Bool :=
  match e.old, e.via with
  | none, none => e.new == .pending
  | some a, some m => decide (a ∈ m.src) && decide (e.new ∈ m.dst) && (a != .synced) &&
      (e.new != .synced || m == .markSynced)
  | _, _ => false

/-- `f` only writes target states of `m`. -/
def Writes (m : Method) (f : Row → Row) : Prop :=
  ∀ r, r.state ∈ m.src → ((f r).state ∈ m.dst ∨ (f r).state = r.state)

theorem table_synced (m : Method) : St.synced ∉ m.src ∧ (St.synced ∈ m.dst → m = .markSynced) := by
  cases m <;> decide

theorem logOf_ok {m : Method} {f : Row → Row} (hw : Writes m f) (r : Row) :
    ∀ e ∈ logOf m r (r.apply m f), e.ok = true := by
  intro e he
  unfold logOf at he
  split at he
  · cases he
  · rename_i hne
    cases List.mem_singleton.mp he
    -- the state changed, so the guard held and `f` wrote a target state
    have hs : r.state ∈ m.src := Decidable.byContradiction fun hs => hne (by rw [Row.apply, if_neg hs])
    rw [Row.apply, if_pos hs] at hne ⊢
    have hd : (f r).state ∈ m.dst := (hw r hs).resolve_right (Ne.symm hne)
    have h1 : r.state ≠ .synced := fun h => (table_synced m).1 (h ▸ hs)
    have h2 : (f r).state ≠ .synced ∨ m = .markSynced :=
      Decidable.or_iff_not_imp_left.mpr fun h => (table_synced m).2 (Decidable.not_not.mp h ▸ hd)
    simpa [LogE.ok, hs, hd] using ⟨h1, h2⟩

theorem updPath_log_ok {m : Method} {f : Row → Row} (hw : Writes m f) (p : String) (l : List Row) :
    ∀ e ∈ (updPath m p f l).2.1, e.ok = true := by
  intro e he
  obtain ⟨r, _, hr⟩ := List.mem_flatMap.mp he
  split at hr
  · exact logOf_ok hw r e hr
  · cases hr

theorem updAll_log_ok {m : Method} {f : Row → Row} (hw : Writes m f) (l : List Row) :
    ∀ e ∈ (updAll m f l).2, e.ok = true := by
  intro e he
  obtain ⟨r, _, hr⟩ := List.mem_flatMap.mp he
  exact logOf_ok hw r e hr

/-- the run state's transition log only contains table edges. -/
def LogInv (s : RunSt) : Prop := ∀ e ∈ s.sp.log, e.ok = true

theorem LogInv.of_sp {s s' : RunSt} (h : LogInv s) (he : s'.sp = s.sp) : LogInv s' := by
  unfold LogInv; rw [he]; exact h

theorem LogInv.append {s s' : RunSt} {l : List LogE} (h : LogInv s) (hl : ∀ e ∈ l, e.ok = true)
    (he : s'.sp.log = s.sp.log ++ l) : LogInv s' := by
  intro e hm; rw [he] at hm
  exact (List.mem_append.mp hm).elim (h e) (hl e)

theorem LogInv.of_eq {α : Type} {x : RunSt × α} {s : RunSt} {a : α} (h : LogInv x.1) (e : x = (s, a)) :
    LogInv s := by subst e; exact h

theorem tick_sp (s : RunSt) : (tick s).1.sp = s.sp := by
  unfold tick; split
  · rfl
  · split <;> rfl

theorem popFault_sp (s : RunSt) : (popFault s).2.sp = s.sp := by
  unfold popFault; split <;> rfl

/- Below, `dsimp only` turns the `let (s, ok) := step s` of the agent program into projections of
`step s`, so that the lemma about `(step s).1` applies as it stands. -/

theorem ledgerStep_inv {m : Method} {f : Row → Row} (hw : Writes m f) (p : String) (s : RunSt)
    (h : LogInv s) : LogInv (ledgerStep m p f s).1 := by
  unfold ledgerStep; dsimp only
  split
  · exact h.of_sp (tick_sp s)
  · exact (h.of_sp (tick_sp s)).append (updPath_log_ok hw p _) rfl

theorem writes_inFlight : Writes .markInFlight rfInFlight := fun _ _ => .inl (.head _)
theorem writes_synced : Writes .markSynced rfSynced := fun _ _ => .inl (.head _)
theorem writes_failed (cap : Nat) : Writes .markFailed (rfFailed cap) := by
  intro r _; left; simp only [Method.dst, rfFailed]; split <;> simp
theorem writes_conflicted : Writes .markConflicted rfConflicted := fun _ _ => .inl (.head _)
theorem writes_skipped : Writes .markSkipped rfSkipped := fun _ _ => .inl (.head _)
theorem writes_progress (n : Nat) : Writes .recordProgress (rfProgress n) := fun _ _ => .inr rfl
theorem writes_recover : Writes .recoverInFlight rfRecover := fun _ _ => .inl (.head _)

theorem bump_inv (s : RunSt) (f : Cnt → Cnt) (h : LogInv s) : LogInv (bump s f) := h

theorem putFile_sp (H : Bytes → Bytes) (sid : String) (r : Row) (off : Nat) (s : RunSt) :
    (putFile H sid r off s).1.sp = s.sp := by
  have e : (popFault (tick s).1).2.sp = s.sp := (popFault_sp _).trans (tick_sp s)
  unfold putFile; dsimp only
  split
  · exact tick_sp s
  · split
    · exact e
    · exact e
    · exact e
    · exact e
    · split <;> exact e

theorem doReconcile_sp (cfg : Cfg) (sid : String) (page : List Row) (s : RunSt) :
    (doReconcile cfg sid page s).1.sp = s.sp := by
  have e : (popFault (tick s).1).2.sp = s.sp := (popFault_sp _).trans (tick_sp s)
  unfold doReconcile; dsimp only
  split
  · exact tick_sp s
  · split
    · exact e
    · exact e
    · split
      · exact e
      · split <;> exact e

theorem sendOne_inv (H : Bytes → Bytes) (cfg : Cfg) (sid : String) (r : Row) (s : RunSt) (h : LogInv s) :
    LogInv (sendOne H cfg sid r s) := by
  have failed := fun cap s (h : LogInv s) => ledgerStep_inv (writes_failed cap) r.path s h
  have synced := fun s (h : LogInv s) => ledgerStep_inv writes_synced r.path s h
  -- projections would nest three steps deep and be copied into every arm: the pairs are split instead
  unfold sendOne
  conv => zeta
  split
  next s1 ok e1 =>
  have h1 := (ledgerStep_inv writes_inFlight r.path s h).of_eq e1
  cases ok
  · exact h1
  rw [if_neg (by decide)]
  split
  next s2 res e2 =>
  have h2 := (h1.of_sp (putFile_sp H sid r r.sent s1)).of_eq e2
  split
  · split
    · split
      next s3 ok3 e3 =>
      have h3 := (ledgerStep_inv writes_skipped r.path s2 h2).of_eq e3
      split
      · exact h3
      · exact failed _ _ h3
    · exact failed _ _ h2
  · split
    next s3 ok3 e3 =>
    have h3 := (synced { s2 with acks := r.path :: s2.acks } h2).of_eq e3
    split <;> exact h3
  · split
    next s3 ok3 e3 =>
    have h3 := (synced { s2 with acks := r.path :: s2.acks } h2).of_eq e3
    split <;> exact h3
  · exact failed _ _ (ledgerStep_inv (writes_progress _) r.path _ h2)
  · exact failed _ _ h2
  · exact failed _ _ h2
  · exact failed _ _ h2

theorem reconcileAndSend_inv (H : Bytes → Bytes) (cfg : Cfg) (sid : String) (page : List Row) (s : RunSt)
    (h : LogInv s) : LogInv (reconcileAndSend H cfg sid page s).1 := by
  have h1 : LogInv (doReconcile cfg sid page s).1 := h.of_sp (doReconcile_sp cfg sid page s)
  unfold reconcileAndSend; dsimp only
  split
  · refine List.foldlRecOn _ _ ?_ fun s hs r _ => sendOne_inv H cfg sid r s hs
    refine List.foldlRecOn _ _ ?_ fun s hs p _ => ledgerStep_inv writes_conflicted p (bump s _) hs
    refine List.foldlRecOn _ _ h1 fun s hs p _ => ?_
    have h3 := ledgerStep_inv writes_synced p s hs
    split <;> exact h3
  · exact h1

theorem runBatch_inv (H : Bytes → Bytes) (cfg : Cfg) (sid : String) (fuel : Nat) (q : List (List Row))
    (s : RunSt) (h : LogInv s) : LogInv (runBatch H cfg sid fuel q s) := by
  induction fuel generalizing q s with
  | zero => unfold runBatch; exact h
  | succ n ih =>
    cases q with
    | nil => unfold runBatch; exact h
    | cons page rest =>
      have h1 := reconcileAndSend_inv H cfg sid page s h
      unfold runBatch; dsimp only
      split
      · exact ih _ _ h1
      · exact h1
      · split
        · exact h1
        · exact ih _ _ h1

theorem pagesLoop_inv (H : Bytes → Bytes) (cfg : Cfg) (sid : String) (fuel : Nat) (c : Option (Nat × Nat))
    (s : RunSt) (h : LogInv s) : LogInv (pagesLoop H cfg sid fuel c s) := by
  induction fuel generalizing c s with
  | zero => unfold pagesLoop; exact h
  | succ n ih =>
    have h1 := runBatch_inv H cfg sid (2 * (pendingPage s.sp.ledger cfg.batch c).length + 2)
      [pendingPage s.sp.ledger cfg.batch c] s h
    unfold pagesLoop; dsimp only
    split
    · exact h
    · split
      · exact h
      · split
        · exact h1
        · split
          · exact h1
          · exact ih _ _ h1

theorem recover_inv (s : RunSt) (h : LogInv s) : LogInv (recover s) := by
  unfold recover; dsimp only
  split
  · exact h.of_sp (tick_sp s)
  · exact (h.of_sp (tick_sp s)).append (updAll_log_ok writes_recover _) rfl

theorem discover_inv (H : Bytes → Bytes) (s : RunSt) (h : LogInv s) : LogInv (discover H s) := by
  unfold discover; dsimp only
  split
  · exact h
  · split
    · exact h
    · split
      · exact h.of_sp (tick_sp s)
      · refine (h.of_sp (tick_sp s)).append (fun e he => ?_) rfl
        obtain ⟨_, _, rfl⟩ := List.mem_map.mp he
        rfl

end Arc.C27
