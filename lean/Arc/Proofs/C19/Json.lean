import Arc.Model.C19
/-! C19 — JSON string writer vs the RFC 8259 string decoder: the scan loop is per-byte escaping, and the decoder
reads the escaped text back one `Chunk` (ASCII byte, raw high byte, or UTF-8 character) at a time. -/
namespace Arc.C19
open Arc.Generated.C19

theorem wjsLoop_eq (s seg out : Bytes) : wjsLoop s seg out = out ++ seg ++ escAll s := by
  induction s generalizing seg out with
  | nil => simp [wjsLoop, escAll]
  | cons c rest ih =>
    unfold wjsLoop
    by_cases h : needsEsc c = true <;> simp [h, ih, escAll, escOne]

theorem writeJSONString_eq (s : Bytes) : writeJSONString s = 34 :: (escAll s ++ [34]) := by
  simp [writeJSONString, wjsLoop_eq]

theorem escAll_cons (a : Nat) (s : Bytes) : escAll (a :: s) = escOne a ++ escAll s := rfl

theorem escAll_append (d s : Bytes) : escAll (d ++ s) = escAll d ++ escAll s := List.flatMap_append

theorem hexVal_hexDigit (x : Nat) (h : x < 16) : hexVal (hexDigit x) = some x := by
  have : ∀ y : Fin 16, hexVal (hexDigit y.val) = some y.val := by decide +kernel
  exact this ⟨x, h⟩

theorem escOne_high (a : Nat) (h : 128 ≤ a) : escOne a = [a] := by
  have h1 : a ≠ 34 := by omega
  have h2 : a ≠ 92 := by omega
  have h3 : ¬ a < 32 := by omega
  simp [escOne, needsEsc, escAlways, escBelow, h1, h2, h3]

theorem escAll_high (d : Bytes) (h : ∀ b ∈ d, 128 ≤ b) : escAll d = d := by
  induction d with
  | nil => rfl
  | cons a d ih =>
    rw [escAll_cons, escOne_high a (h a List.mem_cons_self), ih fun b hb => h b (List.mem_cons_of_mem a hb)]; rfl

/-- a group of input bytes that the decoder reads back as one `char`: what the writer emits for it does not
start with the closing quote, and `decChar` consumes exactly that much -/
def Chunk (strict : Bool) (d : Bytes) : Prop :=
  ∃ c p, escAll d = c :: p ∧ c ≠ 34 ∧ ∀ rest, decChar strict c (p ++ rest) = some (d, rest)

theorem decBodyF_step {strict : Bool} {f c : Nat} {r d rest' : Bytes} (hc : c ≠ 34)
    (h : decChar strict c r = some (d, rest')) :
    decBodyF strict (f + 1) (c :: r) = (decBodyF strict f rest').map (fun p => (d ++ p.1, p.2)) := by
  simp only [decBodyF, hc, if_false, h]
  cases decBodyF strict f rest' with
  | none => rfl
  | some p => cases p; rfl

theorem decBodyF_close (strict : Bool) (f : Nat) (tail : Bytes) :
    decBodyF strict (f + 1) (34 :: tail) = some ([], tail) := by
  simp [decBodyF]

/-- the writer's output for `s`, then the closing quote, is read back as `s`, given enough fuel -/
def ReadsBack (strict : Bool) (s : Bytes) : Prop :=
  ∀ tail f, (escAll s).length + 1 ≤ f → decBodyF strict f (escAll s ++ 34 :: tail) = some (s, tail)

theorem readsBack_nil (strict : Bool) : ReadsBack strict [] := by
  intro tail f hf
  cases f with
  | zero => omega
  | succ f => exact decBodyF_close strict f tail

theorem readsBack_chunk {strict : Bool} {d s : Bytes} (hd : Chunk strict d) (hs : ReadsBack strict s) :
    ReadsBack strict (d ++ s) := by
  intro tail f hf
  obtain ⟨c, p, he, hc, hdec⟩ := hd
  rw [escAll_append, he] at hf ⊢
  cases f with
  | zero => omega
  | succ f =>
    rw [List.append_assoc, List.cons_append, decBodyF_step hc (hdec _),
      hs tail f (by simp at hf; omega)]
    rfl

theorem decChar_u {a b c d cp : Nat} (strict : Bool) (r : Bytes) (h : hex4 a b c d = some cp) (hcp : cp < 0x80) :
    decChar strict 92 (117 :: a :: b :: c :: d :: r) = some ([cp], r) := by
  have hu : ∀ r', decChar strict 92 (117 :: r') = decU r' := fun _ => rfl
  rw [hu, decU]
  simp only [h]
  rw [if_neg (by omega), if_neg (by omega), utf8Enc, if_pos hcp]

theorem chunk_short (strict : Bool) (a e : Nat) (he : escOne a = [92, e])
    (hd : ∀ rest, decEscape (e :: rest) = some ([a], rest)) : Chunk strict [a] :=
  ⟨92, [e], by rw [escAll_cons, he]; rfl, by decide, hd⟩

theorem chunk_ascii (strict : Bool) (a : Nat) (ha : a < 128) : Chunk strict [a] := by
  by_cases hk : a ∈ [34, 92, 10, 13, 9, 8, 12]
  · -- the short escapes of the table
    simp only [List.mem_cons, List.not_mem_nil, or_false] at hk
    rcases hk with rfl | rfl | rfl | rfl | rfl | rfl | rfl <;> exact chunk_short strict _ _ rfl fun _ => rfl
  simp only [List.mem_cons, List.not_mem_nil, or_false, not_or] at hk
  by_cases hlt : a < 32
  · -- any other control character: \u00XY
    have hne : needsEsc a = true := by simp [needsEsc, escBelow, hlt]
    have hlk : escTable.lookup a = none := by simp [escTable, List.lookup, beq_false_of_ne, hk]
    have h4 : ∀ x : Fin 32, hex4 48 48 (hexDigit (x.val / 16)) (hexDigit (x.val % 16)) = some x.val := by
      decide +kernel
    exact ⟨92, [117, 48, 48, hexDigit (a / 16), hexDigit (a % 16)],
      by simp [escAll, escOne, hne, escSeq, hlk, escDefaultPrefix], by decide,
      fun rest => decChar_u strict rest (h4 ⟨a, hlt⟩) ha⟩
  · have hne : needsEsc a = false := by simp [needsEsc, escAlways, escBelow, hk, hlt]
    refine ⟨a, [], by simp [escAll, escOne, hne], hk.1, fun rest => ?_⟩
    simp [decChar, hk, hlt, ha]

/-- a byte ≥ 0x80 is no escape, control character or quote: only the last two arms of `decChar` remain -/
theorem decChar_high (strict : Bool) {a : Nat} (h : 128 ≤ a) (r : Bytes) :
    decChar strict a r = if strict then decUtf8 a r else if a < 256 then some ([a], r) else none := by
  rw [decChar, if_neg (by omega), if_neg (by omega), if_neg (by omega)]

theorem chunk_high_raw (a : Nat) (h : 128 ≤ a) (ha : a < 256) : Chunk false [a] :=
  ⟨a, [], escAll_high [a] (by simpa using h), by omega, fun rest => (decChar_high false h _).trans (if_pos ha)⟩

/-- strict reading: bytes ≥ 0x80 that `decUtf8` accepts as one character -/
theorem chunk_utf8 {a : Nat} {t : Bytes} (hh : ∀ x ∈ a :: t, 128 ≤ x)
    (hd : ∀ rest, decUtf8 a (t ++ rest) = some (a :: t, rest)) : Chunk true (a :: t) :=
  have ha := hh a List.mem_cons_self
  ⟨a, t, escAll_high _ hh, by omega, fun rest => (decChar_high true ha _).trans (hd rest)⟩

theorem ok2_high {a b : Nat} (h : ok2 a b = true) : ∀ x ∈ [a, b], 128 ≤ x := by
  simp only [ok2, isCont, Bool.and_eq_true, decide_eq_true_eq] at h
  simp [show 128 ≤ a from Nat.le_trans (by decide) h.1.1, h.2.1]

theorem ok3_high {a b c : Nat} (h : ok3 a b c = true) : (∀ x ∈ [a, b, c], 128 ≤ x) ∧ ok2 a b = false := by
  simp only [ok3, isCont, Bool.and_eq_true, decide_eq_true_eq] at h
  obtain ⟨⟨⟨⟨h1, _⟩, h2⟩, _⟩, h3, _⟩ := h
  have hb : 128 ≤ b := Nat.le_trans (by split <;> decide) h2
  simp [show 128 ≤ a from Nat.le_trans (by decide) h1, hb, h3, ok2, show ¬ a ≤ 0xDF by omega]

theorem ok4_high {a b c d : Nat} (h : ok4 a b c d = true) :
    (∀ x ∈ [a, b, c, d], 128 ≤ x) ∧ ok2 a b = false ∧ ok3 a b c = false := by
  simp only [ok4, isCont, Bool.and_eq_true, decide_eq_true_eq] at h
  obtain ⟨⟨⟨⟨⟨h1, _⟩, h2⟩, _⟩, h3, _⟩, h4, _⟩ := h
  have hb : 128 ≤ b := Nat.le_trans (by split <;> decide) h2
  simp [show 128 ≤ a from Nat.le_trans (by decide) h1, hb, h3, h4, ok2, ok3, show ¬ a ≤ 0xDF by omega, show ¬ a ≤ 0xEF by omega]

theorem readsBack_strict (s : Bytes) (hv : ValidUTF8 s) : ReadsBack true s := by
  induction hv with
  | nil => exact readsBack_nil true
  | one a rest ha _ ih => exact readsBack_chunk (chunk_ascii true a ha) ih
  | two a b rest hok _ ih =>
    exact readsBack_chunk (chunk_utf8 (ok2_high hok) fun _ => by simp [decUtf8, hok]) ih
  | three a b c rest hok _ ih =>
    have ⟨hh, n2⟩ := ok3_high hok
    exact readsBack_chunk (chunk_utf8 hh fun _ => by simp [decUtf8, n2, hok]) ih
  | four a b c d rest hok _ ih =>
    have ⟨hh, n2, n3⟩ := ok4_high hok
    exact readsBack_chunk (chunk_utf8 hh fun _ => by simp [decUtf8, n2, n3, hok]) ih

theorem readsBack_raw (s : Bytes) (hs : AllBytes s) : ReadsBack false s := by
  induction s with
  | nil => exact readsBack_nil false
  | cons a s ih =>
    have ih := ih fun b hb => hs b (List.mem_cons_of_mem a hb)
    have ha := hs a List.mem_cons_self
    by_cases hlow : a < 128
    · exact readsBack_chunk (chunk_ascii false a hlow) ih
    · exact readsBack_chunk (chunk_high_raw a (Nat.le_of_not_lt hlow) ha) ih

theorem decStr_write {strict : Bool} {s : Bytes} (h : ReadsBack strict s) (tail : Bytes) :
    decStr strict (writeJSONString s ++ tail) = some (s, tail) := by
  rw [writeJSONString_eq]
  simp only [decStr, List.cons_append, List.append_assoc, List.nil_append, if_true]
  exact h tail _ (by simp)

theorem jsonDecodeG_write {strict : Bool} {s : Bytes} (h : ReadsBack strict s) :
    jsonDecodeG strict (writeJSONString s) = some s := by
  have := decStr_write h []
  rw [List.append_nil] at this
  rw [jsonDecodeG, this]

end Arc.C19
