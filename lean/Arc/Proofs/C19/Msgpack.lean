import Arc.Model.C19
/-! C19 — MessagePack: every encoder of the fork, read back by the spec decoder `decTok`. -/
namespace Arc.C19
open Arc.Generated.C19

theorem be_length (k v : Nat) : (be k v).length = k := by
  induction k with
  | zero => rfl
  | succ k ih => simp only [be, List.length_cons, ih]

theorem readBE_be (k v : Nat) (rest : Bytes) :
    readBE k (be k v ++ rest) = some (v % 256 ^ k, rest) := by
  induction k with
  | zero => simp only [be, readBE, List.nil_append, Nat.pow_zero, Nat.mod_one]
  | succ k ih =>
    simp only [be, List.cons_append, readBE, ih]
    rw [Nat.mod_pow_succ, Nat.mul_comm, Nat.add_comm]

theorem readBE_be_lt (k v : Nat) (rest : Bytes) (h : v < 256 ^ k) :
    readBE k (be k v ++ rest) = some (v, rest) := by
  rw [readBE_be, Nat.mod_eq_of_lt h]

theorem readBE_be_nil (k v : Nat) (h : v < 256 ^ k) : readBE k (be k v) = some (v, []) := by
  have := readBE_be_lt k v [] h
  rwa [List.append_nil] at this

theorem readN_append (s rest : Bytes) : readN s.length (s ++ rest) = some (s, rest) := by
  induction s with
  | nil => rfl
  | cons x s ih => simp only [List.length_cons, List.cons_append, readN, ih]

theorem u64_nonneg (v : Int) (h0 : 0 ≤ v) (h : v < 2 ^ 63) : u64 v = v.toNat := by
  rw [u64, Int.emod_eq_of_lt h0 (Int.lt_trans h (by decide))]

theorem u64_neg (v : Int) (h0 : v < 0) (h : -(2 ^ 63) ≤ v) : u64 v = (v + 2 ^ 64).toNat := by
  have h1 : 0 ≤ v + two64 := Int.le_trans (by decide) (Int.add_le_add_right h _)
  have h2 : v + two64 < two64 := by simpa using Int.add_lt_add_right h0 two64
  rw [u64, ← Int.add_emod_right, Int.emod_eq_of_lt h1 h2]
  rfl

theorem two_pow_succ_cast (b : Nat) : ((2 ^ (b + 1) : Nat) : Int) = 2 * 2 ^ b := by
  rw [Int.natCast_pow, Int.pow_succ, Int.mul_comm]; rfl

/-- two's complement at any width up to 64: the low `b + 1` bits of `uint64(v)` -/
theorem u64_mod (b : Nat) (hb : b < 64) (v : Int) (h1 : -(2 ^ b) ≤ v) (h2 : v < 2 ^ b) :
    ((u64 v % 2 ^ (b + 1) : Nat) : Int) = if 0 ≤ v then v else v + 2 * 2 ^ b := by
  have hd : ((2 ^ (b + 1) : Nat) : Int) ∣ (two64 : Int) := Int.natCast_dvd_natCast.mpr (Nat.pow_dvd_pow 2 hb)
  have hM := two_pow_succ_cast b
  rw [Int.natCast_emod, u64, Int.toNat_of_nonneg (Int.emod_nonneg _ (by decide)), Int.emod_emod_of_dvd _ hd]
  split
  · exact Int.emod_eq_of_lt ‹_› (by omega)
  · rw [← Int.add_emod_right, hM]; exact Int.emod_eq_of_lt (by omega) (by omega)

theorem toSigned_u64 (b : Nat) (hb : b < 64) (v : Int) (h1 : -(2 ^ b) ≤ v) (h2 : v < 2 ^ b) :
    toSigned (b + 1) (u64 v % 2 ^ (b + 1)) = v := by
  have hu := u64_mod b hb v h1 h2
  have hM := two_pow_succ_cast b
  unfold toSigned
  rw [Nat.add_sub_cancel]
  generalize u64 v % 2 ^ (b + 1) = u at hu ⊢
  split <;> split at hu <;> omega

/-! A format is a code byte `c`, then `k` bytes big-endian. `hc` says which reader the decoder uses for `c`; for a
concrete code it holds by `rfl`, which walks the decoder's `if` chain once, on a variable tail. -/

/-- unsigned numbers, floats, array and map lengths -/
theorem decTok_num (c k : Nat) (mk : Nat → Tok) (hc : ∀ r, decTok (c :: r) = readNum k mk r) (v : Nat)
    (rest : Bytes) (h : v < 256 ^ k) : decTok (c :: be k v ++ rest) = some (mk v, rest) := by
  rw [List.cons_append, hc, readNum, readBE_be_lt k v rest h]

/-- str and bin: length, then the payload -/
theorem decTok_len (c k : Nat) (mk : Bytes → Tok) (hc : ∀ r, decTok (c :: r) = readLen k mk r) (s rest : Bytes)
    (h : s.length < 256 ^ k) : decTok (c :: be k s.length ++ (s ++ rest)) = some (mk s, rest) := by
  rw [List.cons_append, hc, readLen, readBE_be_lt k _ _ h]
  simp only [readN_append]

/-- signed numbers of `k` bytes = `b + 1` bits -/
theorem decTok_int (c b k : Nat) (hc : ∀ r, decTok (c :: r) = readNum k (fun u => .int (toSigned (b + 1) u)) r)
    (hb : b < 64) (hk : 256 ^ k = 2 ^ (b + 1)) (v : Int) (rest : Bytes) (h1 : -(2 ^ b) ≤ v) (h2 : v < 2 ^ b) :
    decTok (c :: be k (u64 v) ++ rest) = some (.int v, rest) := by
  rw [List.cons_append, hc, readNum, readBE_be, hk]
  exact congrArg (fun x => some (Tok.int x, rest)) (toSigned_u64 b hb v h1 h2)

/-- One size class of an encoder at a time, the decoder staying folded: `split` on such a goal costs more per
`if` than a whole encoder does this way. -/
theorem decTok_ite {p : Prop} [Decidable p] {a b rest : Bytes} {r : Option (Tok × Bytes)}
    (ha : p → decTok (a ++ rest) = r) (hb : ¬ p → decTok (b ++ rest) = r) :
    decTok ((if p then a else b) ++ rest) = r := by
  by_cases h : p
  · rw [if_pos h]; exact ha h
  · rw [if_neg h]; exact hb h

theorem decTok_encUint64 (n : Nat) (rest : Bytes) (h : n < 2 ^ 64) :
    decTok (encUint64 n ++ rest) = some (.int n, rest) :=
  decTok_num cUint64 8 _ (fun _ => rfl) n rest h

theorem decTok_encUint (n : Nat) (rest : Bytes) (h : n < 2 ^ 64) :
    decTok (encUint n ++ rest) = some (.int n, rest) :=
  decTok_ite (fun c => if_pos c) fun _ =>
  decTok_ite (fun c => decTok_num cUint8 1 _ (fun _ => rfl) n rest (Nat.lt_succ_of_le c)) fun _ =>
  decTok_ite (fun c => decTok_num cUint16 2 _ (fun _ => rfl) n rest (Nat.lt_succ_of_le c)) fun _ =>
  decTok_ite (fun c => decTok_num cUint32 4 _ (fun _ => rfl) n rest (Nat.lt_succ_of_le c)) fun _ =>
  decTok_encUint64 n rest h

theorem decTok_encInt64 (v : Int) (rest : Bytes) (h1 : -(2 ^ 63) ≤ v) (h2 : v < 2 ^ 63) :
    decTok (encInt64 v ++ rest) = some (.int v, rest) :=
  decTok_int cInt64 63 8 (fun _ => rfl) (by decide) rfl v rest h1 h2

/-- negative fixint: the byte is `v + 256` -/
theorem decTok_negfix (v : Int) (rest : Bytes) (h0 : v < 0) (h : v ≥ -32) :
    decTok ([u64 v % 256] ++ rest) = some (.int v, rest) := by
  have hc : ((u64 v % 256 : Nat) : Int) = v + 256 := by
    have := u64_mod 7 (by decide) v (Int.le_trans (by decide) h) (Int.lt_trans h0 (by decide))
    rwa [if_neg (Int.not_le.mpr h0)] at this
  generalize u64 v % 256 = c at hc
  have ⟨e1, e2, e3⟩ : ¬ c ≤ 0x7f ∧ 0xe0 ≤ c ∧ c < 256 := by omega
  exact (if_neg e1).trans ((if_pos e2).trans ((if_pos e3).trans (by rw [hc, Int.add_sub_cancel]; rfl)))

theorem decTok_encBool (b : Bool) (rest : Bytes) : decTok (encBool b ++ rest) = some (.bool b, rest) := by
  cases b <;> rfl

/-- fixmap, fixarray and fixstr: the length is the low bits of the code byte -/
theorem decTok_fix (l : Nat) (r : Bytes) :
    (l < 16 → decTok ((0x80 + l) :: r) = some (.map l, r)) ∧
    (l < 16 → decTok ((0x90 + l) :: r) = some (.arr l, r)) ∧
    (l < 32 → decTok ((0xa0 + l) :: r) = (readN l r).map fun p => (.str p.1, p.2)) := by
  refine ⟨fun h => ?_, fun h => ?_, fun h => ?_⟩
  · rw [decTok, if_neg (by omega), if_neg (by omega), if_pos (by omega), Nat.add_sub_cancel_left]
  · rw [decTok, if_neg (by omega), if_neg (by omega), if_neg (by omega), if_pos (by omega), Nat.add_sub_cancel_left]
  · rw [decTok, if_neg (by omega), if_neg (by omega), if_neg (by omega), if_neg (by omega), if_pos (by omega),
      Nat.add_sub_cancel_left]
    cases readN l r <;> rfl

theorem decTok_encStr (s rest : Bytes) (h : s.length < 2 ^ 32) :
    decTok (encStr s ++ rest) = some (.str s, rest) := by
  rw [encStr, List.append_assoc]
  exact decTok_ite (fun c => ((decTok_fix s.length (s ++ rest)).2.2 c).trans (by rw [readN_append]; rfl)) fun _ =>
    decTok_ite (fun c => decTok_len cStr8 1 .str (fun _ => rfl) s rest c) fun _ =>
    decTok_ite (fun c => decTok_len cStr16 2 .str (fun _ => rfl) s rest (Nat.lt_succ_of_le c)) fun _ =>
    decTok_len cStr32 4 .str (fun _ => rfl) s rest h

theorem decTok_encArrLen (l : Nat) (rest : Bytes) (h : l < 2 ^ 32) :
    decTok (encArrLen l ++ rest) = some (.arr l, rest) :=
  decTok_ite (decTok_fix l rest).2.1 fun _ =>
  decTok_ite (fun c => decTok_num cArray16 2 .arr (fun _ => rfl) l rest (Nat.lt_succ_of_le c)) fun _ =>
  decTok_num cArray32 4 .arr (fun _ => rfl) l rest h

theorem decTok_encMapLen (l : Nat) (rest : Bytes) (h : l < 2 ^ 32) :
    decTok (encMapLen l ++ rest) = some (.map l, rest) :=
  decTok_ite (decTok_fix l rest).1 fun _ =>
  decTok_ite (fun c => decTok_num cMap16 2 .map (fun _ => rfl) l rest (Nat.lt_succ_of_le c)) fun _ =>
  decTok_num cMap32 4 .map (fun _ => rfl) l rest h

theorem readExtN_append (t : Nat) (d rest : Bytes) :
    readExtN d.length (t :: (d ++ rest)) = some (.ext t d, rest) := by
  simp only [readExtN, readN_append]

theorem timeData_length (sec : Int) (nsec : Nat) :
    (timeData sec nsec).length = 4 ∨ (timeData sec nsec).length = 8 ∨ (timeData sec nsec).length = 12 := by
  unfold timeData
  simp only
  split
  · split <;> simp [be_length]
  · simp [be_length]

theorem decTok_encTime (sec : Int) (nsec : Nat) (rest : Bytes) :
    decTok (encTime sec nsec ++ rest) = some (.ext 255 (timeData sec nsec), rest) := by
  have hr := readExtN_append 255 (timeData sec nsec) rest
  rw [encTime, List.append_assoc]
  rcases timeData_length sec nsec with h | h | h <;> rw [h] at hr ⊢
  · exact (show ∀ r, decTok (encExtLen 4 ++ r) = readExtN 4 r from fun _ => rfl) _ |>.trans hr
  · exact (show ∀ r, decTok (encExtLen 8 ++ r) = readExtN 8 r from fun _ => rfl) _ |>.trans hr
  · rw [show ∀ r, decTok (encExtLen 12 ++ r) = readExt 1 (be 1 12 ++ r) from fun _ => rfl, readExt,
      readBE_be_lt 1 12 _ (by decide)]
    exact hr

theorem decTime_be4 (v : Nat) (h : v < 2 ^ 32) : decTime (be 4 v) = some ((v : Int), 0) := by
  rw [decTime, if_pos (be_length 4 v), readBE_be_nil 4 v h]

theorem decTime_be8 (v : Nat) (h : v < 2 ^ 64) :
    decTime (be 8 v) = some (((v % 2 ^ 34 : Nat) : Int), v / 2 ^ 34) := by
  rw [decTime, be_length, if_neg (by decide), if_pos rfl, readBE_be_nil 8 v h]

theorem decTime_be12 (ns s : Nat) (hn : ns < 2 ^ 32) (hs : s < 2 ^ 64) :
    decTime (be 4 ns ++ be 8 s) = some (toSigned 64 s, ns) := by
  rw [decTime, List.length_append, be_length, be_length, if_neg (by decide), if_neg (by decide), if_pos rfl,
    readBE_be_lt 4 ns _ hn]
  simp only [readBE_be_nil 8 s hs]

theorem unpack {p hi lo : Nat} (h : lo < p) : (hi * p + lo) / p = hi ∧ (hi * p + lo) % p = lo :=
  (Nat.div_mod_unique (Nat.zero_lt_of_lt h)).mpr ⟨by rw [Nat.mul_comm, Nat.add_comm], h⟩

theorem decTime_timeData (sec : Int) (nsec : Nat) (h1 : -(2 ^ 63) ≤ sec) (h2 : sec < 2 ^ 63)
    (hn : nsec < 1000000000) : decTime (timeData sec nsec) = some (sec, nsec) := by
  have hs := toSigned_u64 63 (by decide) sec h1 h2
  have hu : u64 sec < 2 ^ 64 := Int.toNat_lt (Int.emod_nonneg _ (by decide)) |>.mpr (Int.emod_lt_of_pos _ (by decide))
  rw [Nat.mod_eq_of_lt hu] at hs
  unfold timeData
  delta timeSecShift
  generalize u64 sec = u at hs hu ⊢
  by_cases c1 : u / 2 ^ 34 = 0
  · -- seconds fit 34 bits, hence are non-negative
    have hlo : u < 2 ^ 34 := (Nat.div_eq_zero_iff_lt (by decide)).mp c1
    have hsec : (u : Int) = sec := by rw [← hs, toSigned, if_pos (Nat.lt_trans hlo (by decide))]
    have ⟨hd, hm⟩ := unpack (hi := nsec) hlo
    have h64 : nsec * 2 ^ 34 + u < 2 ^ 32 * 2 ^ 32 := by omega
    rw [if_pos c1]
    by_cases c2 : (nsec * 2 ^ 34 + u) / 2 ^ 32 % 2 ^ 32 = 0
    · -- the high word of `data < 2^64` is zero: `data < 2^32`, so there are no nanoseconds
      have hb := c2
      rw [Nat.mod_eq_of_lt (Nat.div_lt_of_lt_mul h64), Nat.div_eq_zero_iff_lt (by decide)] at hb
      have hz : nsec = 0 := by omega
      rw [if_pos c2, decTime_be4 _ hb, hz, Nat.zero_mul, Nat.zero_add, hsec]
    · rw [if_neg c2, decTime_be8 _ h64, hm, hd, hsec]
  · rw [if_neg c1, decTime_be12 nsec u (by omega) hu, hs]
end Arc.C19
