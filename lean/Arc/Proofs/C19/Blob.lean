import Arc.Model.C19
/-! C19 — BLOB cells: `blobText` output is ASCII (hence valid UTF-8) and DuckDB's text form reads back the bytes. -/
namespace Arc.C19
open Arc.Generated.C19

theorem validUTF8_of_ascii (s : Bytes) (h : ∀ b ∈ s, b < 128) : ValidUTF8 s := by
  induction s with
  | nil => exact .nil
  | cons a s ih => exact .one a s (h a List.mem_cons_self) (ih fun b hb => h b (List.mem_cons_of_mem a hb))

theorem blobHex_lt (i : Nat) (h : i < 16) : blobHexDigits.getD i 0 < 128 := by
  have : ∀ j : Fin 16, blobHexDigits.getD j.val 0 < 128 := by decide +kernel
  exact this ⟨i, h⟩

theorem blobHex_val (i : Nat) (h : i < 16) : hexVal (blobHexDigits.getD i 0) = some i := by
  have : ∀ j : Fin 16, hexVal (blobHexDigits.getD j.val 0) = some j.val := by decide +kernel
  exact this ⟨i, h⟩

theorem blobPlain_range {c : Nat} (h : blobPlain c = true) : (32 ≤ c ∧ c ≤ 126) ∧ c ≠ 92 := by
  simp only [blobPlain, Bool.and_eq_true, decide_eq_true_eq, Bool.not_eq_true'] at h
  exact ⟨h.1, fun e => absurd (e ▸ h.2) (by decide)⟩

theorem blobOne_ascii (c : Nat) (hc : c < 256) : ∀ b ∈ blobOne c, b < 128 := by
  intro b hb
  unfold blobOne at hb
  by_cases hp : blobPlain c = true
  · rw [if_pos hp] at hb
    have := blobPlain_range hp
    simp at hb; omega
  · rw [if_neg hp] at hb
    simp [blobEscPrefix] at hb
    rcases hb with rfl | rfl | rfl | rfl
    · omega
    · omega
    · exact blobHex_lt _ (by omega)
    · exact blobHex_lt _ (by omega)

theorem blobText_ascii (s : Bytes) (hs : AllBytes s) : ∀ b ∈ blobText s, b < 128 := by
  intro b hb
  simp only [blobText, List.mem_flatMap] at hb
  obtain ⟨c, hc, hb⟩ := hb
  exact blobOne_ascii c (hs c hc) b hb

theorem blobDecode_blobText (s : Bytes) (hs : AllBytes s) : blobDecode (blobText s) = some s := by
  induction s with
  | nil => simp [blobText, blobDecode]
  | cons c s ih =>
    have hc : c < 256 := hs c List.mem_cons_self
    have ih' := ih fun b hb => hs b (List.mem_cons_of_mem c hb)
    have e : blobText (c :: s) = blobOne c ++ blobText s := by simp [blobText]
    rw [e]
    unfold blobOne
    by_cases hp : blobPlain c = true
    · rw [if_pos hp]
      obtain ⟨hr, h3⟩ := blobPlain_range hp
      simp only [List.cons_append, List.nil_append]
      conv => lhs; unfold blobDecode
      simp [h3, hr, ih']
    · rw [if_neg hp]
      have e1 := blobHex_val (c / 16) (by omega)
      have e2 := blobHex_val (c % 16) (by omega)
      have e3 : c / 16 * 16 + c % 16 = c := by omega
      simp only [List.getD_eq_getElem?_getD] at e1 e2
      simp only [blobEscPrefix, List.cons_append, List.nil_append, List.getD_eq_getElem?_getD]
      conv => lhs; unfold blobDecode
      simp [e1, e2, e3, ih']

end Arc.C19
