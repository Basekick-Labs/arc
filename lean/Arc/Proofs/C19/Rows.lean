import Arc.Model.C19
/-! C19 — governance row limit: both row loops emit exactly a prefix of the result, cells untouched. -/
namespace Arc.C19
variable {α : Type}

/-- what the limit `m` lets through of `l`; 0 means no limit -/
def limited (m : Nat) (l : List α) : List α := if m = 0 then l else l.take m

theorem limited_of_le {m : Nat} {o : List α} (ho : m = 0 ∨ o.length ≤ m) : limited m o = o := by
  unfold limited
  split
  · rfl
  · exact List.take_of_length_le (by omega)

theorem limited_append {m : Nat} {o : List α} (hm : 0 < m) (ho : o.length ≤ m) (tl : List α) :
    limited m (o ++ tl) = o ++ tl.take (m - o.length) := by
  rw [limited, if_neg (by omega), List.take_append, List.take_of_length_le ho]

theorem limited_of_full {m : Nat} {o : List α} (hm : 0 < m) (ho : o.length = m) (tl : List α) :
    limited m (o ++ tl) = o := by
  rw [limited_append hm (by omega), ho, Nat.sub_self, List.take_zero, List.append_nil]

/-- the inner loop followed by `k`, when `k` finishes the job for every output still within the limit -/
theorem jsonInner_then (m : Nat) (k : List α → List α) (tl : List α)
    (hk : ∀ o, m = 0 ∨ o.length ≤ m → k o = limited m (o ++ tl)) (b out : List α) (ho : m = 0 ∨ out.length ≤ m) :
    (match jsonInner m b out with | (true, o) => o | (false, o) => k o) = limited m (out ++ (b ++ tl)) := by
  induction b generalizing out with
  | nil => exact hk out ho
  | cons r rest ih =>
    unfold jsonInner
    by_cases h : m > 0 ∧ out.length ≥ m
    · rw [if_pos h]; exact (limited_of_full (o := out) h.1 (by omega) _).symm
    · rw [if_neg h]
      have := ih (out ++ [r]) (by simp; omega)
      rwa [List.append_assoc] at this

theorem jsonOuter_eq (m : Nat) (bs : List (List α)) (out : List α) (ho : m = 0 ∨ out.length ≤ m) :
    jsonOuter m bs out = limited m (out ++ bs.flatten) := by
  induction bs generalizing out with
  | nil => rw [jsonOuter, List.flatten_nil, List.append_nil, limited_of_le ho]
  | cons b bs ih => exact jsonInner_then m _ _ (fun o ho => ih o ho) b out ho

theorem drainLoop_eq (cap : Nat) (bs acc : List (List α)) (rc : Nat) (hrc : rc = acc.flatten.length)
    (hle : cap = 0 ∨ rc ≤ cap) :
    (drainLoop cap bs acc rc).1.flatten = limited cap (acc.flatten ++ bs.flatten) ∧
    (drainLoop cap bs acc rc).2 = (drainLoop cap bs acc rc).1.flatten.length := by
  induction bs generalizing acc rc with
  | nil => rw [drainLoop, List.flatten_nil, List.append_nil, limited_of_le (hrc ▸ hle)]; exact ⟨rfl, hrc⟩
  | cons b bs ih =>
    have step (h : cap = 0 ∨ rc + b.length ≤ cap) := ih (acc ++ [b]) (rc + b.length) (by simp [hrc]) h
    rw [List.flatten_append, List.flatten_cons, List.flatten_nil, List.append_nil, List.append_assoc] at step
    unfold drainLoop
    by_cases hc : cap > 0
    · rw [if_pos hc]
      by_cases h1 : rc ≥ cap
      · rw [if_pos h1, limited_of_full hc (by omega)]; exact ⟨rfl, hrc⟩
      rw [if_neg h1]
      by_cases h2 : rc + b.length > cap
      · rw [if_pos h2, limited_append hc (by omega), ← hrc, List.flatten_cons,
          List.take_append_of_le_length (by omega), List.flatten_append, List.flatten_cons, List.flatten_nil,
          List.append_nil, List.length_append, List.length_take, ← hrc]
        exact ⟨rfl, by omega⟩
      · rw [if_neg h2]; exact step (by omega)
    · rw [if_neg hc]; exact step (by omega)
end Arc.C19
