import Arc.Proofs.C25.Basic
/-!
# C25 — through the retry machinery

A generic induction principle (`StepOK`: what every failed `pullOnce` re-establishes) carried through
`peersLoop`, `attemptStep`, `runProc`, `runHist`, and its three instances:

* `stepOK_any`     : every code-fact combination, `Q = True`            (safety: what reaches the final path)
* `stepOK_delete`  : `Delete` removes `.part`, non-empty file, `Q = ` "the staging file is shorter than the file"
* `stepOK_prefix`  : every code-fact combination, no `corrupt` outcome, non-empty file,
                     `Q = ` "the staging file is a proper prefix of the file"
-/
set_option linter.unusedSectionVars false
namespace Arc.C25

section
variable {D : Type} [DecidableEq D] (H : Bytes → D)

/-- `Q` is a property of replicas without final file that every failed `pullOnce` (with outcomes in
`A`) re-establishes; `order` makes every successful one yield a complete file and every failed one
leave the final path empty (`pullOnce_ok_complete`, `pullOnce_fail`). -/
structure StepOK (f : Facts) (content : Bytes) (Q : Rep → Prop) (A : Outcome → Prop) : Prop where
  order : f.orderOK = true
  keep : ∀ (r : Rep) (o : Outcome) (resume : Bool), A o → r.final = none → Q r →
    (pullOnce H f content resume r o).err ≠ .ok → Q (pullOnce H f content resume r o).rep

/-- invariant carried along a history -/
def Inv (content : Bytes) (Q : Rep → Prop) (r : Rep) : Prop :=
  GoodFinal H content r ∧ (r.final = none → Q r)

def ScriptIn (A : Outcome → Prop) (script : List (List Outcome)) : Prop :=
  ∀ a ∈ script, ∀ o ∈ a, A o

/-- under `GoodFinal`, a replica that fails the presence check has no final file -/
theorem final_none_of_not_present {f : Facts} {content : Bytes} {r : Rep}
    (hg : GoodFinal H content r) (hp : present f content.length r = false) : r.final = none := by
  cases hf : r.final with
  | none => rfl
  | some b =>
    have := (hg b hf).2
    simp [present, statFile, hf, this] at hp

/-- "already present" is right unless the presence check saw a phantom -/
theorem complete_of_present {f : Facts} {content : Bytes} {r : Rep} (hg : GoodFinal H content r)
    (hnp : ¬ Phantom f content r) (hp : present f content.length r = true) : Complete H content r := by
  cases hf : r.final with
  | none => exact absurd ⟨hf, hp⟩ hnp
  | some b => exact ⟨b, hf, hg b hf⟩

/-- Case analysis on one running attempt, the result written out as an update of `s`: the file is
found present; there is no candidate peer; or the peer loop ran and returned `l`, after which the
call is `pulled` exactly when the loop pulled and the two "file is here" counters are the loop's. -/
theorem attemptStep_elim {f : Facts} {content : Bytes} {maxA : Nat} {s : PState} {peers : List Outcome}
    {motive : PState → Prop} (hrun : s.st = .running)
    (skip : present f content.length s.rep = true → motive
      { s with cnt := { s.cnt with skippedLocal := s.cnt.skippedLocal + 1 }, st := .skipped, offs := [] })
    (noPeer : present f content.length s.rep = false → peers = [] →
      ∀ st, st ≠ .skipped → st ≠ .pulled → motive
      { s with cnt := { s.cnt with noPeer := s.cnt.noPeer + 1 }, attempt := s.attempt + 1, offs := [],
               st := st })
    (loop : present f content.length s.rep = false →
      ∀ l, l = peersLoop H f content (decide (s.attempt > 1)) s.rep s.cnt peers →
      ∀ c a st, c.pulled = l.2.1.pulled → c.skippedLocal = l.2.1.skippedLocal →
        (st = .pulled ↔ l.2.2.1 = .pulled) → st ≠ .skipped →
        motive { s with rep := l.1, cnt := c, attempt := a, st := st, offs := l.2.2.2 })
    {s' : PState} (h : attemptStep H f content maxA s peers = s') : motive s' := by
  subst h
  unfold attemptStep
  rw [if_neg (by simp [hrun])]
  by_cases hp : present f content.length s.rep = true
  · rw [if_pos hp]; exact skip hp
  have hp' : present f content.length s.rep = false := by simpa using hp
  rw [if_neg hp]
  by_cases he : peers.isEmpty = true
  · rw [if_pos he]; exact noPeer hp' (by simpa using he) _ (by split <;> simp) (by split <;> simp)
  rw [if_neg he]
  unfold afterLoop
  by_cases h1 : (peersLoop H f content (decide (s.attempt > 1)) s.rep s.cnt peers).2.2.1 = .pulled
  · rw [if_pos h1]; exact loop hp' _ rfl _ _ _ rfl rfl (by simp [h1]) (by simp)
  rw [if_neg h1]
  by_cases h2 : s.attempt ≥ maxA
  · rw [if_pos h2]; exact loop hp' _ rfl _ _ _ rfl rfl (by simp [h1]) (by simp)
  · rw [if_neg h2]; exact loop hp' _ rfl _ _ _ rfl rfl (by simp [h1, hrun]) (by simp [hrun])

theorem attemptStep_of_not_running {f : Facts} {content : Bytes} {maxA : Nat} {s : PState}
    {peers : List Outcome} (h : s.st ≠ .running) : attemptStep H f content maxA s peers = s := by
  unfold attemptStep; exact if_pos h

theorem runProc_of_not_running (f : Facts) (content : Bytes) (maxA : Nat)
    (script : List (List Outcome)) (s : PState) (h : s.st ≠ .running) :
    runProc H f content maxA s script = s := by
  fun_induction runProc H f content maxA s script with
  | case1 s => rfl
  | case2 s a as ih => rw [attemptStep_of_not_running H h] at ih ⊢; exact ih h

/-! The induction, for one instance `hs` of `StepOK`. -/
section
variable {f : Facts} {content : Bytes} {Q : Rep → Prop} {A : Outcome → Prop}
  (hs : StepOK H f content Q A)
include hs

theorem peersLoop_ok (resume : Bool) (os : List Outcome) (r : Rep) (c : Counters)
    (hA : ∀ o ∈ os, A o) (hr : r.final = none) (hq : Q r) :
      ((peersLoop H f content resume r c os).2.2.1 = .pulled →
        Complete H content (peersLoop H f content resume r c os).1) ∧
      ((peersLoop H f content resume r c os).2.2.1 ≠ .pulled →
        (peersLoop H f content resume r c os).1.final = none ∧ Q (peersLoop H f content resume r c os).1) := by
  fun_induction peersLoop H f content resume r c os with
  | case1 r c => exact ⟨nofun, fun _ => ⟨hr, hq⟩⟩
  | case2 r c o os po c' hok =>
    exact ⟨fun _ => pullOnce_ok_complete H f hs.order content resume o hr hok, fun h => absurd rfl h⟩
  | case3 r c o os po c' hok hck =>
    exact ⟨nofun, fun _ => ⟨(pullOnce_fail H f hs.order content resume o hr hok).1,
      hs.keep r o resume (hA o (List.mem_cons_self ..)) hr hq hok⟩⟩
  | case4 r c o os po c' hok hck rest ih =>
    exact ih (fun o' ho' => hA o' (List.mem_cons_of_mem _ ho'))
      (pullOnce_fail H f hs.order content resume o hr hok).1
      (hs.keep r o resume (hA o (List.mem_cons_self ..)) hr hq hok)

/-- One attempt keeps the invariant; a running one that ends counted (skipped-local or pulled)
ends with a complete file, unless the presence check saw a phantom. -/
theorem attemptStep_ok (maxA : Nat) (s : PState) (peers : List Outcome)
    (hA : ∀ o ∈ peers, A o) (hi : Inv H content Q s.rep) :
    Inv H content Q (attemptStep H f content maxA s peers).rep ∧
    (s.st = .running → ¬ Phantom f content s.rep →
      (attemptStep H f content maxA s peers).st = .skipped ∨
        (attemptStep H f content maxA s peers).st = .pulled →
      Complete H content (attemptStep H f content maxA s peers).rep) := by
  by_cases hrun : s.st = .running
  case neg => rw [attemptStep_of_not_running H hrun]; exact ⟨hi, fun h => absurd h hrun⟩
  generalize hs' : attemptStep H f content maxA s peers = s'
  apply attemptStep_elim H hrun (h := hs')
  case skip =>
    exact fun hp => ⟨hi, fun _ hnp _ => complete_of_present H hi.1 hnp hp⟩
  case noPeer =>
    exact fun _ _ st h1 h2 => ⟨hi, fun _ _ hc => hc.elim (absurd · h1) (absurd · h2)⟩
  case loop =>
    intro hp l hl c a st _ _ hst hsk
    have hnone := final_none_of_not_present H hi.1 hp
    have hl := hl ▸ peersLoop_ok H hs (decide (s.attempt > 1)) peers s.rep s.cnt hA hnone (hi.2 hnone)
    by_cases hpl : l.2.2.1 = .pulled
    · have hc := hl.1 hpl
      refine ⟨⟨hc.good, fun hn => ?_⟩, fun _ _ _ => hc⟩
      obtain ⟨b, hb, _⟩ := hc
      rw [hb] at hn; cases hn
    · have h := hl.2 hpl
      exact ⟨⟨goodFinal_of_none H h.1, fun _ => h.2⟩,
        fun _ _ hc => hc.elim (absurd · hsk) (fun hc => absurd (hst.mp hc) hpl)⟩

/-- A `processEntry` call keeps the invariant; whenever it ends counted the file is complete,
given that no presence check along the way can see a phantom (a consequence of `Q`). -/
theorem runProc_ok (maxA : Nat) :
    ∀ (script : List (List Outcome)) (s : PState), ScriptIn A script → Inv H content Q s.rep →
      Inv H content Q (runProc H f content maxA s script).rep ∧
      ((∀ r, Inv H content Q r → ¬ Phantom f content r) → s.st = .running →
        (runProc H f content maxA s script).st = .skipped ∨
          (runProc H f content maxA s script).st = .pulled →
        Complete H content (runProc H f content maxA s script).rep) := by
  intro script
  induction script with
  | nil => exact fun s _ hi => ⟨hi, fun _ hrun hc => by simp [runProc, hrun] at hc⟩
  | cons a as ih =>
    intro s hA hi
    obtain ⟨hi', hc'⟩ := attemptStep_ok H hs maxA s a (hA a (List.mem_cons_self ..)) hi
    obtain ⟨hi'', hc''⟩ := ih _ (fun a' ha' => hA a' (List.mem_cons_of_mem _ ha')) hi'
    refine ⟨hi'', fun hnp hrun hc => ?_⟩
    by_cases hr : (attemptStep H f content maxA s a).st = .running
    · exact hc'' hnp hr hc
    · simp only [runProc, runProc_of_not_running H f content maxA as _ hr] at hc ⊢
      exact hc' hrun (hnp _ hi) hc

theorem runHist_inv (maxA : Nat) :
    ∀ (hist : List (List (List Outcome))) (rc : Rep × Counters),
      (∀ p ∈ hist, ScriptIn A p) → Inv H content Q rc.1 →
      Inv H content Q (runHist H f content maxA rc hist).1 := by
  intro hist
  induction hist with
  | nil => exact fun _ _ hi => hi
  | cons p ps ih =>
    intro rc hA hi
    exact ih _ (fun p' hp' => hA p' (List.mem_cons_of_mem _ hp'))
      (runProc_ok H hs maxA p (PState.start rc.1 rc.2) (hA p (List.mem_cons_self ..)) hi).1

end

theorem fetch_ok_from_zero (content : Bytes) :
    fetch H content [] false .ok = ⟨content, .ok⟩ := by
  simp [fetch, bodyOf]

/-- A fresh `processEntry` call whose first candidate peer is healthy, from a non-phantom state:
its first attempt ends counted, with the file complete (and exact, for a collision-free digest). -/
theorem runProc_fresh_ok {f : Facts} (hpo : f.orderOK = true) {content : Bytes}
    (maxA : Nat) (r : Rep) (c : Counters) (rest : List Outcome) (more : List (List Outcome))
    (hg : GoodFinal H content r) (hnp : ¬ Phantom f content r) :
    let s := runProc H f content maxA (PState.start r c) ((.ok :: rest) :: more)
    (s.st = .skipped ∨ s.st = .pulled) ∧ Complete H content s.rep ∧
    ((∀ a b : Bytes, H a = H b → a = b) → s.rep.final = some content) := by
  intro s
  suffices h : ∀ s', attemptStep H f content maxA (PState.start r c) (.ok :: rest) = s' →
      (s'.st = .skipped ∨ s'.st = .pulled) ∧ Complete H content s'.rep ∧
      ((∀ a b : Bytes, H a = H b → a = b) → s'.rep.final = some content) by
    have h1 := h _ rfl
    have : s = attemptStep H f content maxA (PState.start r c) (.ok :: rest) :=
      runProc_of_not_running H f content maxA more _ (by rcases h1.1 with h | h <;> rw [h] <;> simp)
    rw [this]; exact h1
  intro s' hs'
  apply attemptStep_elim H (s := PState.start r c) rfl (h := hs')
  case skip =>
    intro hp
    obtain ⟨b, hf, hh, hl⟩ := complete_of_present H hg hnp hp
    exact ⟨.inl rfl, ⟨b, hf, hh, hl⟩, fun hcf => hf.trans (congrArg some (hcf b content hh))⟩
  case noPeer => exact fun _ h => nomatch h
  case loop =>
    intro hp l hl _ _ st _ _ hst _
    obtain ⟨pre, _, hpre, heq⟩ :=
      pullOnce_eq H f hpo content false .ok (final_none_of_not_present H hg hp)
    cases hpre rfl
    rw [fetch_ok_from_zero] at heq
    have : l.1 = ⟨some content, none⟩ ∧ l.2.2.1 = .pulled := by
      rw [hl]; unfold peersLoop; simp [PState.start, heq, pullSpec]
    exact ⟨.inr (hst.mpr this.2), ⟨content, by rw [this.1], rfl, rfl⟩, fun _ => by rw [this.1]⟩

theorem stepOK_any (f : Facts) (hpo : f.orderOK = true) (content : Bytes) :
    StepOK H f content (fun _ => True) (fun _ => True) :=
  ⟨hpo, fun _ _ _ _ _ _ _ => trivial⟩

/-- staging file shorter than the manifest file -/
def PartShort (content : Bytes) (r : Rep) : Prop :=
  ∀ p, r.part = some p → p.length < content.length

theorem stepOK_delete (f : Facts) (hpo : f.orderOK = true) (content : Bytes) (hdel : f.deleteRemovesPart = true)
    (hne0 : content ≠ []) :
    StepOK H f content (PartShort content) (fun _ => True) := by
  refine ⟨hpo, fun r o resume _ hr hq hne p hp => ?_⟩
  obtain ⟨pre, hpre, _, rfl, ht⟩ := (pullOnce_fail H f hpo content resume o hr hne).2 p hp
  have hpl : pre.length < content.length := by
    rcases hpre with rfl | ⟨_, h⟩
    · exact List.length_pos_iff.mpr hne0
    · exact h
  rw [List.length_append]
  rcases fetch_transport H (ht hdel) with h0 | h0
  · rw [h0]; exact hpl
  · exact Nat.add_lt_of_lt_sub' h0

/-- staging file is a proper prefix of the manifest file -/
def PartPrefix (content : Bytes) (r : Rep) : Prop :=
  ∀ p, r.part = some p → p <+: content ∧ p.length < content.length

theorem stepOK_prefix (f : Facts) (hpo : f.orderOK = true) (content : Bytes) (hne0 : content ≠ []) :
    StepOK H f content (PartPrefix content) NotCorrupt := by
  refine ⟨hpo, fun r o resume hA hr hq hne p hp => ?_⟩
  obtain ⟨pre, hpre, hne', rfl, _⟩ := (pullOnce_fail H f hpo content resume o hr hne).2 p hp
  have hpp : pre <+: content ∧ pre.length < content.length := by
    rcases hpre with rfl | ⟨h, _⟩
    · exact ⟨List.nil_prefix, List.length_pos_iff.mpr hne0⟩
    · exact hq pre h
  exact fetch_prefix H hA hpp.1 hpp.2 hne'

theorem bump_cnt (c : Counters) (e : FErr) :
    (c.bump e).skippedLocal = c.skippedLocal ∧
    (c.bump e).pulled = c.pulled + (if e = .ok then 1 else 0) := by
  cases e <;> simp [Counters.bump]

theorem peersLoop_cnt (f : Facts) (content : Bytes) (resume : Bool) (os : List Outcome) (r : Rep) (c : Counters) :
      (peersLoop H f content resume r c os).2.1.skippedLocal = c.skippedLocal ∧
      (peersLoop H f content resume r c os).2.1.pulled =
        c.pulled + (if (peersLoop H f content resume r c os).2.2.1 = .pulled then 1 else 0) := by
  fun_induction peersLoop H f content resume r c os with
  | case1 r c => simp
  | case2 r c o os po c' hok => have hb := bump_cnt c po.err; rw [if_pos hok] at hb; exact hb
  | case3 r c o os po c' hok hck => have hb := bump_cnt c po.err; rw [if_neg hok] at hb; exact hb
  | case4 r c o os po c' hok hck rest ih =>
    have hb := bump_cnt c po.err
    rw [if_neg hok] at hb
    exact ⟨ih.1.trans hb.1, ih.2.trans (by rw [hb.2]; rfl)⟩

end

end Arc.C25
