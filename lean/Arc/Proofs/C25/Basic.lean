import Arc.Model.C25
/-!
# C25 — one transfer

`fetch` written out by cases (`fetch_cases`) → a closed form of `pullOnce` on a replica whose final
file is absent (`pullOnce_eq`) → what a successful and a failed `pullOnce` leave behind.
-/
set_option linter.unusedSectionVars false
namespace Arc.C25

section
variable {D : Type} [DecidableEq D] (H : Bytes → D)

/-- what the final path may hold: bytes with the manifest's digest and size -/
def GoodFinal (content : Bytes) (r : Rep) : Prop :=
  ∀ b, r.final = some b → H b = H content ∧ b.length = content.length

/-- the file is complete at its final path -/
def Complete (content : Bytes) (r : Rep) : Prop :=
  ∃ b, r.final = some b ∧ H b = H content ∧ b.length = content.length

/-- the presence check answers "already present" although the final file is absent -/
def Phantom (f : Facts) (content : Bytes) (r : Rep) : Prop :=
  r.final = none ∧ present f content.length r = true

theorem Complete.good {content : Bytes} {r : Rep} (h : Complete H content r) : GoodFinal H content r := by
  obtain ⟨b, hb, h⟩ := h
  intro b' hb'
  cases hb.symm.trans hb'
  exact h

theorem goodFinal_of_none {content : Bytes} {r : Rep} (h : r.final = none) : GoodFinal H content r := by
  intro b hb; rw [h] at hb; cases hb

theorem flipAt_length (c : Bytes) (i : Nat) : (flipAt c i).length = c.length := by
  unfold flipAt; split <;> simp

theorem bodyOf_length {content : Bytes} {o : Outcome} {full : Bytes}
    (h : bodyOf content o = some full) : full.length ≤ content.length := by
  cases o <;> simp [bodyOf] at h <;> subst h
  · exact List.length_take_le' ..
  · exact Nat.le_of_eq (flipAt_length ..)
  · exact Nat.le_refl _

theorem preErr_ne_ok (o : Outcome) : preErr o ≠ .ok := by
  cases o <;> simp [preErr]

/-- `Fetch` into a working staging file, written out.  Nothing arrives and the call fails (offset
rejected, or the exchange ends before the body); or the tail of the body arrives — short of the
missing bytes: transport error; all of them: the digest over prefix+tail decides. -/
theorem fetch_cases (content pre : Bytes) (o : Outcome) :
    (∃ e, e ≠ .ok ∧ fetch H content pre false o = ⟨[], e⟩) ∨
    ∃ full, bodyOf content o = some full ∧
      ((full.drop pre.length).length < content.length - pre.length ∧
          fetch H content pre false o = ⟨full.drop pre.length, .transport⟩ ∨
        (full.drop pre.length).length = content.length - pre.length ∧
          (H (pre ++ full.drop pre.length) = H content ∧
              fetch H content pre false o = ⟨full.drop pre.length, .ok⟩ ∨
            H (pre ++ full.drop pre.length) ≠ H content ∧
              fetch H content pre false o = ⟨full.drop pre.length, .checksum⟩)) := by
  unfold fetch
  by_cases hoff : reachesOffsetCheck o = true ∧ 0 < pre.length ∧ content.length ≤ pre.length
  · rw [if_pos hoff]; exact .inl ⟨.badOffset, nofun, rfl⟩
  rw [if_neg hoff]
  cases hb : bodyOf content o with
  | none => exact .inl ⟨_, preErr_ne_ok o, rfl⟩
  | some full =>
    refine .inr ⟨full, rfl, ?_⟩
    have hl := bodyOf_length hb
    simp only [Bool.false_eq_true, if_false]
    by_cases hs : (List.drop pre.length full).length < content.length - pre.length
    · rw [if_pos hs]; exact .inl ⟨hs, rfl⟩
    · rw [if_neg hs]
      have hlen : (List.drop pre.length full).length = content.length - pre.length :=
        Nat.le_antisymm (by rw [List.length_drop]; exact Nat.sub_le_sub_right hl _) (Nat.le_of_not_lt hs)
      by_cases hh : H (pre ++ List.drop pre.length full) = H content
      · rw [if_pos hh]; exact .inr ⟨hlen, .inl ⟨hh, rfl⟩⟩
      · rw [if_neg hh]; exact .inr ⟨hlen, .inr ⟨hh, rfl⟩⟩

/-- `Fetch` returns nil only after the digest over prefix+tail matched and the whole tail arrived. -/
theorem fetch_ok {content pre : Bytes} {o : Outcome}
    (h : (fetch H content pre false o).err = .ok) :
    H (pre ++ (fetch H content pre false o).sent) = H content ∧
    (fetch H content pre false o).sent.length = content.length - pre.length := by
  rcases fetch_cases H content pre o with
    ⟨e, he, hf⟩ | ⟨full, -, ⟨-, hf⟩ | ⟨hl, ⟨hh, hf⟩ | ⟨-, hf⟩⟩⟩ <;> rw [hf] at h ⊢
  · exact absurd h he
  · cases h
  · exact ⟨hh, hl⟩
  · cases h

/-- a transport-class failure leaves fewer than the missing bytes (or none at all) -/
theorem fetch_transport {content pre : Bytes} {o : Outcome}
    (h : (fetch H content pre false o).err = .transport) :
    (fetch H content pre false o).sent = [] ∨
    (fetch H content pre false o).sent.length < content.length - pre.length := by
  rcases fetch_cases H content pre o with
    ⟨e, -, hf⟩ | ⟨full, -, ⟨hs, hf⟩ | ⟨-, ⟨-, hf⟩ | ⟨-, hf⟩⟩⟩ <;> rw [hf] at h ⊢
  · exact .inl rfl
  · exact .inr hs
  · cases h
  · cases h

def NotCorrupt (o : Outcome) : Prop := ∀ i, o ≠ .corrupt i

/-- with an intact body and a correct, proper local prefix, a failed fetch leaves a correct, proper
prefix -/
theorem fetch_prefix {content pre : Bytes} {o : Outcome} (hA : NotCorrupt o)
    (hpre : pre <+: content) (hlt : pre.length < content.length)
    (hne : (fetch H content pre false o).err ≠ .ok) :
    (pre ++ (fetch H content pre false o).sent) <+: content ∧
    (pre ++ (fetch H content pre false o).sent).length < content.length := by
  rcases fetch_cases H content pre o with
    ⟨e, -, hf⟩ | ⟨full, hb, h⟩
  · rw [hf]; simpa using ⟨hpre, hlt⟩
  · obtain ⟨m, rfl⟩ : ∃ m, full = content.take m := by
      cases o <;> simp [bodyOf] at hb
      · exact ⟨_, hb.symm⟩
      · exact absurd rfl (hA _)
      · exact ⟨content.length, by rw [List.take_length]; exact hb.symm⟩
    have hp : (pre ++ (content.take m).drop pre.length) <+: content := by
      conv => lhs; arg 1; rw [List.prefix_iff_eq_take.mp hpre]
      rw [List.drop_take, ← List.take_add]
      exact List.take_prefix ..
    rcases h with ⟨hs, hf⟩ | ⟨hl, ⟨-, hf⟩ | ⟨hh, hf⟩⟩ <;> rw [hf] at hne ⊢
    · exact ⟨hp, by rw [List.length_append]; exact Nat.add_lt_of_lt_sub' hs⟩
    · exact absurd rfl hne
    · exact absurd (congrArg H (hp.eq_of_length
        (by rw [List.length_append, hl]; exact Nat.add_sub_of_le (Nat.le_of_lt hlt)))) hh

theorem resume_cases (f : Facts) (hrb : f.resumeFullPart = false) (size : Nat) {r : Rep} (hr : r.final = none) :
    resumePrefix f size r = [] ∨
    (r.part = some (resumePrefix f size r) ∧ (resumePrefix f size r).length < size ∧
      resumePrefix f size r ≠ []) := by
  unfold resumePrefix statFile readAt
  rw [hr]
  cases f.statPartFallback
  · left; rfl
  · cases hp : r.part with
    | none => left; rfl
    | some p =>
      simp only [if_true, Option.map_some, hrb, Bool.false_eq_true, if_false]
      by_cases h0 : p.length = 0 ∨ size ≤ p.length
      · left; rw [if_pos h0]
      · right
        rw [if_neg h0]
        refine ⟨rfl, by simp at h0 ⊢; omega, ?_⟩
        intro hnil
        simp at hnil; subst hnil; simp at h0

theorem ferr_transport {e : FErr} (h1 : e ≠ .ok) (h2 : ¬(e = .checksum ∨ e = .badOffset)) :
    e = .transport := by
  cases e <;> simp at h1 h2 ⊢

/-- state after one `pullOnce` on a replica without final file: local prefix `pre`, received tail
`sent`, fetch result class `e`. -/
def pullSpec (f : Facts) (pre sent : Bytes) (e : FErr) : Rep :=
  if e = .ok then ⟨some (pre ++ sent), none⟩
  else if e = .checksum ∨ e = .badOffset then delete f ⟨none, some (pre ++ sent)⟩
  else ⟨none, some (pre ++ sent)⟩

/-- replica files when the write goroutine of that `pullOnce` has finished (before cleanup) -/
def midSpec (pre sent : Bytes) (e : FErr) : Rep :=
  if e = .ok then ⟨some (pre ++ sent), none⟩ else ⟨none, some (pre ++ sent)⟩

/-! One `pullOnce`, under the step-order facts, on a replica `r` without final file. -/
section
variable (f : Facts) (hpo : f.orderOK = true) (content : Bytes) (resume : Bool) {r : Rep} (o : Outcome)
  (hr : r.final = none)
include hpo hr

theorem pullOnce_eq :
    ∃ pre : Bytes,
      (pre = [] ∨ r.part = some pre ∧ pre.length < content.length) ∧
      (resume = false → pre = []) ∧
      pullOnce H f content resume r o =
        ⟨pullSpec f pre (fetch H content pre false o).sent (fetch H content pre false o).err,
         (fetch H content pre false o).err, pre.length,
         midSpec pre (fetch H content pre false o).sent (fetch H content pre false o).err⟩ := by
  obtain ⟨hpo, hrb⟩ : f.promoteAfterVerdict = true ∧ f.resumeFullPart = false := by
    simpa [Facts.orderOK] using hpo
  unfold pullOnce
  generalize hpre : (if resume then resumePrefix f content.length r else []) = pre
  have hc : (pre = [] ∨ r.part = some pre ∧ pre.length < content.length ∧ pre ≠ []) ∧
      (resume = false → pre = []) := by
    subst hpre
    cases resume
    · simp
    · simpa using resume_cases f hrb content.length hr
  refine ⟨pre, hc.1.imp_right fun h => ⟨h.1, h.2.1⟩, hc.2, ?_⟩
  rcases hc.1 with rfl | ⟨hp, _, hne⟩
  · simp only [List.length_nil, ne_eq, not_true_eq_false, decide_false, Bool.false_and]
    unfold afterWrite pullSpec midSpec
    simp only [List.length_nil, if_true, List.nil_append, hr, hpo, Bool.true_eq_false, false_and,
      if_false]
    by_cases hok : (fetch H content [] false o).err = .ok
    · simp [hok]
    · simp only [hok, if_false]
  · have hlen : pre.length ≠ 0 := fun h0 => hne (List.eq_nil_of_length_eq_zero h0)
    have hb : (decide (pre.length ≠ 0) && r.part.isNone) = false := by simp [hp]
    simp only [hb]
    unfold afterWrite pullSpec midSpec
    simp only [hlen, if_false, hp, hr]
    by_cases hok : (fetch H content pre false o).err = .ok
    · simp [hok]
    · simp only [hok, if_false]

/-- success of `pullOnce` on a replica without final file puts a complete file at the final path -/
theorem pullOnce_ok_complete (hok : (pullOnce H f content resume r o).err = .ok) :
    Complete H content (pullOnce H f content resume r o).rep := by
  obtain ⟨pre, hpre, _, heq⟩ := pullOnce_eq H f hpo content resume o hr
  rw [heq] at hok ⊢
  simp only at hok ⊢
  have hf := fetch_ok H hok
  rw [hok]
  refine ⟨pre ++ (fetch H content pre false o).sent, by simp [pullSpec], hf.1, ?_⟩
  rw [List.length_append, hf.2]
  rcases hpre with rfl | ⟨_, h⟩
  · simp
  · exact Nat.add_sub_of_le (Nat.le_of_lt h)

/-- A failed `pullOnce` on a replica without final file leaves no final file; a staging file, if
one is left, is the local prefix it resumed after plus what arrived — and with a `Delete` that
removes `.part`, one is left only by a transport-class failure. -/
theorem pullOnce_fail (hne : (pullOnce H f content resume r o).err ≠ .ok) :
    (pullOnce H f content resume r o).rep.final = none ∧
    ∀ p, (pullOnce H f content resume r o).rep.part = some p →
      ∃ pre, (pre = [] ∨ r.part = some pre ∧ pre.length < content.length) ∧
        (fetch H content pre false o).err ≠ .ok ∧
        p = pre ++ (fetch H content pre false o).sent ∧
        (f.deleteRemovesPart = true → (fetch H content pre false o).err = .transport) := by
  obtain ⟨pre, hpre, _, heq⟩ := pullOnce_eq H f hpo content resume o hr
  rw [heq] at hne ⊢
  simp only at hne ⊢
  unfold pullSpec delete
  rw [if_neg hne]
  by_cases hd : (fetch H content pre false o).err = .checksum ∨ (fetch H content pre false o).err = .badOffset
  · rw [if_pos hd]
    refine ⟨rfl, fun p hp => ?_⟩
    cases hdel : f.deleteRemovesPart <;> simp [hdel] at hp
    exact ⟨pre, hpre, hne, hp.symm, nofun⟩
  · rw [if_neg hd]
    refine ⟨rfl, fun p hp => ⟨pre, hpre, hne, (Option.some.inj hp).symm, fun _ => ?_⟩⟩
    exact ferr_transport hne hd

/-- step order: while a `pullOnce` is running — at the point where its write goroutine has finished
and before any cleanup — the final path is empty or already holds the verified file -/
theorem pullOnce_mid_good :
    GoodFinal H content (pullOnce H f content resume r o).mid := by
  obtain ⟨pre, _, _, heq⟩ := pullOnce_eq H f hpo content resume o hr
  by_cases hok : (pullOnce H f content resume r o).err = .ok
  · have hc := pullOnce_ok_complete H f hpo content resume o hr hok
    rw [heq] at hok hc ⊢
    simp only at hok hc ⊢
    rw [hok] at hc ⊢
    exact hc.good
  · rw [heq] at hok ⊢
    exact goodFinal_of_none H (by simp [midSpec, hok])

end

end

end Arc.C25
