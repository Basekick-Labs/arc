import Arc.Model.C32
/-!
C32 — one invariant, `Sound`, says of a handler's outcome everything the property asks: what is stored is where the
request's own parameters point, was validated, checked and allowed, and is replicated to the same place; a request
answered with any other status stores nothing.  An outcome has it because nothing was stored (`Sound.empty`) or
because it is the record a handler builds after all its checks (`Sound.stored`); each handler is a cascade of
guards in front of such a record (`Sound.ite`, `Sound.guard`).
-/
namespace Arc.C32

/-- `dedupe` and `dedupeK` are the same program at two types: it keeps the members. -/
theorem mem_dedupe_of {α : Type} [∀ (x : α) (l : List α), Decidable (x ∈ l)] {f : List α → List α} (h0 : f [] = [])
    (hc : ∀ x xs, f (x :: xs) = if x ∈ f xs then f xs else x :: f xs) {a : α} : ∀ {l : List α}, a ∈ f l ↔ a ∈ l
  | [] => by rw [h0]
  | x :: xs => by
    have ih := mem_dedupe_of h0 hc (a := a) (l := xs)
    rw [hc]
    split
    · next h => exact ⟨fun h' => .tail _ (ih.1 h'), fun h' => (List.mem_cons.1 h').elim (· ▸ h) ih.2⟩
    · rw [List.mem_cons, List.mem_cons, ih]

theorem mem_dedupe {a : Name} {l : List Name} : a ∈ dedupe l ↔ a ∈ l := mem_dedupe_of rfl fun _ _ => rfl

theorem mem_dedupeK {a : Key} {l : List Key} : a ∈ dedupeK l ↔ a ∈ l := mem_dedupe_of rfl fun _ _ => rfl

/-- the RBAC guard `active && !allowed` did not fire: with RBAC active the write is allowed -/
theorem allowed_of_not_denied {active allowed : Bool} (h : ¬(active && !allowed) = true) (ha : active = true) :
    allowed = true := by
  subst ha
  simpa using h

theorem validDB_ne_nil {db : Name} (h : validDB db = true) : db ≠ [] := by
  rintro rfl; cases h

/-- every key a row entry writes is the target of one of its rows -/
theorem applyRows_mem {db : Name} {rs : List Row} {k : Key} (hk : k ∈ applyInner db (.rows rs)) :
    ∃ r ∈ rs, rowTarget db r = some k := by
  simpa [List.mem_filterMap] using mem_dedupeK.1 (List.mem_filter.1 hk).1

/-- an enveloped entry is applied under the envelope's database and the record's own non-empty measurement -/
theorem mem_applyWal_raw {db : Name} {m : Option Name} {n : Nat} {k : Key} (hk : k ∈ applyWal (.raw db m n)) :
    ∃ v, m = some v ∧ v ≠ [] ∧ k = ⟨db, v⟩ := by
  cases m with
  | none => cases hk
  | some v =>
    simp only [applyWal, applyInner] at hk
    split at hk
    · next h => exact ⟨v, rfl, by simp at h; exact h.1, List.mem_singleton.1 hk⟩
    · cases hk

/-- the routing entries the writer stamps on a WAL row win over any column of the same name -/
theorem walRow_target {dflt db m : Name} {cols row : List Name} (hdb : db ≠ []) :
    rowTarget dflt (walRow db m cols row) = if m = [] then none else some ⟨db, m⟩ := by
  have h1 : rowStr (walRow db m cols row) kUMeas = m := by simp [walRow, rowStr]
  have h2 : rowStr (walRow db m cols row) kUDb = db := by
    simp [walRow, rowStr, List.find?, (by decide : kUMeas ≠ kUDb)]
  simp [rowTarget, h1, h2, hdb]

/-- a plain-rows WAL entry written for (db, m) is applied by the reader under (db, m) and nowhere else -/
theorem walRows_apply {db m : Name} {rows : List (List Name)} (hdb : db ≠ []) {k : Key}
    (hk : k ∈ applyWal (walRows db m rows)) : k = ⟨db, m⟩ := by
  obtain ⟨r, hr, ht⟩ := applyRows_mem hk
  obtain ⟨row, _, rfl⟩ := List.mem_map.1 hr
  rw [walRow_target hdb] at ht
  split at ht
  · cases ht
  · exact (Option.some.inj ht).symm

/-- `T`: where the request's own parameters (never its payload) say the write goes; `S`: the statuses with which
the handler may have stored something. -/
structure Sound (c : Cfg) (T : Key → Prop) (S : List Status) (o : Out) : Prop where
  denied : o.status ∉ S → o.keys = [] ∧ o.wal = []
  full : ∀ k ∈ o.keys, T k ∧ k.db = o.db ∧ validDB k.db = true ∧ validMeas k.m = true ∧
    (c.active = true → k.m ∈ o.checked ∧ c.allow k.db k.m = true)
  replicated : ∀ k ∈ replicate o, k ∈ o.keys

variable {c : Cfg} {T : Key → Prop} {S : List Status}

theorem Sound.empty {o : Out} (hk : o.keys = []) (hw : o.wal = []) : Sound c T S o :=
  ⟨fun _ => ⟨hk, hw⟩, by simp [hk], by simp [replicate, hw]⟩

/-- the record a handler builds once `db` and the measurements `ms` have passed validation and RBAC: one key and
one WAL entry per element of `ts`, each named in `ms` and each entry replicated to its own key -/
theorem Sound.stored {α : Type} (ts : List α) (name : α → Name) (entry : α → WalEntry) {st : Status} {db : Name}
    {ms : List Name} {fl : Bool} (hst : st ∈ S) (hdb : validDB db = true) (hms : ms.all validMeas = true)
    (hal : c.active = true → ms.all (c.allow db) = true) (hT : ∀ t ∈ ts, T ⟨db, name t⟩)
    (hname : ∀ t ∈ ts, name t ∈ ms) (hentry : ∀ t ∈ ts, ∀ k ∈ applyWal (entry t), k = ⟨db, name t⟩) :
    Sound c T S { status := st, db := db, checked := if c.active then ms else [],
                  keys := ts.map fun t => ⟨db, name t⟩, flushed := fl, wal := ts.map entry } where
  denied h := absurd hst h
  full k hk := by
    obtain ⟨t, ht, rfl⟩ := List.mem_map.1 hk
    exact ⟨hT t ht, rfl, hdb, List.all_eq_true.1 hms _ (hname t ht), fun ha =>
      ⟨by simpa [ha] using hname t ht, List.all_eq_true.1 (hal ha) _ (hname t ht)⟩⟩
  replicated k hk := by
    obtain ⟨_, he, hk⟩ := List.mem_flatMap.1 hk
    obtain ⟨t, ht, rfl⟩ := List.mem_map.1 he
    exact List.mem_map.2 ⟨t, ht, (hentry t ht k hk).symm⟩

/-- the single-target case: one key, one plain-rows WAL entry -/
theorem Sound.one {db m : Name} {cols : List Name} {fl : Bool} (hdb : validDB db = true)
    (hm : validMeas m = true) (hal : c.active = true → c.allow db m = true) (hT : T ⟨db, m⟩) :
    Sound c T [.ok] { status := .ok, db := db, checked := if c.active then [m] else [], keys := [⟨db, m⟩],
                      flushed := fl, wal := [walRows db m [cols]] } :=
  .stored [()] (fun _ => m) (fun _ => walRows db m [cols]) (.head _) hdb (by simp [hm])
    (fun ha => by simp [hal ha]) (fun _ _ => hT) (fun _ _ => .head _)
    fun _ _ _ => walRows_apply (validDB_ne_nil hdb)

theorem Sound.ite {p : Prop} [Decidable p] {o₁ o₂ : Out} (h₁ : Sound c T S o₁) (h₂ : ¬p → Sound c T S o₂) :
    Sound c T S (if p then o₁ else o₂) := by
  split
  · exact h₁
  · exact h₂ ‹_›

theorem Sound.guard {b : Bool} {o₁ o₂ : Out} (h₁ : Sound c T S o₁) (h₂ : b = true → Sound c T S o₂) :
    Sound c T S (if !b then o₁ else o₂) :=
  .ite h₁ fun h => h₂ (by simpa using h)

/-- `Write` buffers under no measurement that `extractMeasurements` did not report -/
theorem writeTop_mem : ∀ (is : Items) (pend : List (Name × List Name)) (t : Name × List (List Name)),
    t ∈ (writeTop is pend).1 → t.1 ∈ pend.map (·.1) ∨ t.1 ∈ extractIs is
  | .nil, pend, t, h => by
    simp only [writeTop, List.mem_map] at h
    obtain ⟨m, hm, rfl⟩ := h
    exact .inl (mem_dedupe.1 hm)
  | .cons (.col m cols) is, pend, t, h => by
    simp only [writeTop, List.mem_cons] at h
    rw [extractIs]
    rcases h with rfl | h
    · exact .inr (List.mem_append_left _ (.head _))
    · exact (writeTop_mem is pend t h).imp_right (List.mem_append_right _)
  | .cons (.row m tags fields) is, pend, t, h => by
    simp only [writeTop] at h
    rw [extractIs]
    rcases writeTop_mem is _ t h with h | h
    · rw [List.map_append, List.mem_append] at h
      exact h.imp_right fun h => List.mem_append_left _ h
    · exact .inr (List.mem_append_right _ h)
  | .cons .bad is, pend, t, h | .cons .junk is, pend, t, h => writeTop_mem is pend t h
  | .cons (.batch _) is, pend, t, h => by cases h

/-- the WAL entry of a buffered msgpack record is replicated to that record's key: a lone columnar record goes out
raw under the envelope, everything else as stamped rows -/
theorem mpWal_apply {db : Name} (hdb : db ≠ []) {top : Top} {recs : Items} (hd : decodeTop top = some recs)
    {t : Name × List (List Name)} (ht : t ∈ (writeTop recs []).1) {k : Key}
    (hk : k ∈ applyWal (mpWal db top t)) : k = ⟨db, t.1⟩ := by
  unfold mpWal at hk
  split at hk
  · next m cols =>
    cases hd
    obtain rfl := List.mem_singleton.1 ht
    obtain ⟨v, hv, _, rfl⟩ := mem_applyWal_raw hk
    cases m <;> cases hv
    rfl
  · exact walRows_apply hdb hk

theorem mpHandle_sound (c : Cfg) (hdr : Name) (top : Top) :
    Sound c (·.db = if hdr = [] then defaultDB else hdr) [.ok, .err] (mpHandle c hdr top) := by
  unfold mpHandle
  generalize (if hdr = [] then defaultDB else hdr) = db
  cases hd : decodeTop top with
  | none => exact .empty rfl rfl
  | some recs =>
    exact .guard (.empty rfl rfl) fun hdb => .guard (.empty rfl rfl) fun hms => .ite (.empty rfl rfl) fun hal =>
      .stored _ (·.1) _ (by split <;> simp) hdb hms (allowed_of_not_denied hal) (fun _ _ => rfl)
        (fun t ht => mem_dedupe.2 ((writeTop_mem recs [] t ht).resolve_left nofun))
        fun t ht k => mpWal_apply (validDB_ne_nil hdb) hd ht

theorem lpCore_sound {db : Name} (hdb : validDB db = true) (hT : ∀ m, T ⟨db, m⟩) {fl : Bool}
    {recs : List (Name × List Name)} : Sound c T [.ok] (lpCore c db fl recs) := by
  unfold lpCore
  exact .ite (.empty rfl rfl) fun _ => .ite (.empty rfl rfl) fun hal => .guard (.empty rfl rfl) fun hms =>
    .stored _ id _ (.head _) hdb hms (allowed_of_not_denied hal) (fun m _ => hT m) (fun _ h => h)
      fun _ _ _ => walRows_apply (validDB_ne_nil hdb)

theorem lpHandle_sound (c : Cfg) (ep : LpEp) (hdr qdb qb qm : Name) (pts : List Point) :
    Sound c (lpDb ep hdr qdb qb = some ·.db) [.ok] (lpHandle c ep hdr qdb qb qm pts) := by
  unfold lpHandle
  split
  · exact .empty rfl rfl
  · next db hd =>
    exact .guard (.empty rfl rfl) fun hdb => .ite (.empty rfl rfl) fun _ => .ite (.empty rfl rfl) fun _ =>
      lpCore_sound hdb fun _ => hd

theorem importPreamble_ok {c : Cfg} {hdr qdb mp : Name} (h : (importPreamble c hdr qdb mp).status = .ok) :
    importPreamble c hdr qdb mp = ⟨.ok, if hdr = [] then qdb else hdr, mp, if c.active then [mp] else []⟩ ∧
      validDB (if hdr = [] then qdb else hdr) = true ∧ validMeas mp = true ∧
      (c.active = true → c.allow (if hdr = [] then qdb else hdr) mp = true) := by
  unfold importPreamble at h ⊢
  generalize (if hdr = [] then qdb else hdr) = d at h ⊢
  -- `by_cases` guard by guard: five times `split at h` costs fifteen times as much
  by_cases h0 : d = []
  · simp [h0] at h
  · by_cases h1 : validDB d = true
    · by_cases h2 : mp = []
      · simp [h0, h1, h2] at h
      · by_cases h3 : validMeas mp = true
        · by_cases h4 : (c.active && !c.allow d mp) = true
          · simp [h0, h1, h2, h3, h4] at h
          · simp only [h0, h1, h2, h3, h4, Bool.not_true, Bool.false_eq_true, if_false, true_and]
            exact allowed_of_not_denied h4
        · simp [h0, h1, h2, h3] at h
    · simp [h0, h1] at h

theorem importCore_sound (c : Cfg) (hdr qdb mp : Name) (f : Bool) (cols : List Name) :
    Sound c (· = ⟨if hdr = [] then qdb else hdr, mp⟩) [.ok] (importCore c hdr qdb mp f cols) := by
  unfold importCore
  refine .ite (.empty rfl rfl) fun hp => ?_
  obtain ⟨he, hdb, hm, hal⟩ := importPreamble_ok (Decidable.not_not.1 hp)
  rw [he]
  exact .guard (.empty rfl rfl) fun _ => .one hdb hm hal rfl

theorem tle_sound (c : Cfg) {ep : OneEp} (hep : ep = .tle ∨ ep = .itle) (hdr qdb mp : Name) (f : Bool)
    (cols : List Name) :
    Sound c (fun k => oneDb ep hdr qdb = some k.db ∧ k.m = if mp = [] then satelliteTle else mp) [.ok]
      (oneHandle c ep hdr qdb mp f cols) := by
  have he : ¬(ep = .csv || ep = .parquet) = true := by rcases hep with rfl | rfl <;> decide
  unfold oneHandle
  rw [if_neg he]
  generalize (if mp = [] then satelliteTle else mp) = m
  cases hd : oneDb ep hdr qdb with
  | none => exact .empty rfl rfl
  | some db =>
    exact .guard (.empty rfl rfl) fun hdb => .guard (.empty rfl rfl) fun hm => .guard (.empty rfl rfl) fun _ =>
      .ite (.empty rfl rfl) fun hal => .one hdb hm (allowed_of_not_denied hal) ⟨rfl, rfl⟩

/-- the parameters of a single-target request name at most one key, whatever file comes with it -/
theorem oneHandle_sound (c : Cfg) (ep : OneEp) (hdr qdb mp : Name) :
    ∃ T : Key → Prop, (∀ f cols, Sound c T [.ok] (oneHandle c ep hdr qdb mp f cols)) ∧
      ∀ k₁ k₂, T k₁ → T k₂ → k₁ = k₂ := by
  by_cases he : (ep = .csv || ep = .parquet) = true
  · exact ⟨_, fun f cols => by unfold oneHandle importOne; rw [if_pos he]; exact importCore_sound ..,
      fun _ _ h₁ h₂ => Eq.trans h₁ h₂.symm⟩
  · refine ⟨_, tle_sound c (by cases ep <;> simp_all) hdr qdb mp, fun k₁ k₂ h₁ h₂ => ?_⟩
    cases k₁; cases k₂
    simp only at h₁ h₂
    rw [Option.some.inj (h₁.1.symm.trans h₂.1), h₁.2, h₂.2]

end Arc.C32
