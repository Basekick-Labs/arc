import Arc.Model.C05
import Arc.Base.Lists
/-!
C05 data part: replaying the WAL entry of a unit gives the rows the live path stored, inside the decidable
carve-outs `carveRaw` / `carveRows`.
-/
namespace Arc.C05
open Arc.Generated.C05

/-! ## facts about the regenerated key lists (closed; re-checked whenever the source changes) -/

theorem measKeys_head : measKeys.head? = some walMeasKey := rfl
theorem dbKeys_head : dbKeys.head? = some walDbKey := rfl
theorem walKeys_removed : removedKeys.contains walDbKey = true ∧ removedKeys.contains walMeasKey = true := by decide
theorem walKeys_ne : (walMeasKey == walDbKey) = false := by decide
theorem walKeys_last : walKeysLast = true := by decide
theorem replay_int : replayAcceptsIntMeas = true := by decide
/-- every key the row callback removes is one the live path does not store either ('_' prefix) and is not "time" -/
theorem removed_invisible : removedKeys.all (fun k => !visible k && k != kTime) = true := by decide

/-- a microsecond timestamp on which `normalizeTimestampColumns` is the identity -/
def usStable (t : Int) : Bool :=
  multOf t == 1 && decide (-9223372036854775808 ≤ t) && decide (t < 9223372036854775808)

def stableVal : Val → Bool
  | .int t => usStable t
  | _ => false

def nodupKeys : List Str → Bool
  | [] => true
  | k :: ks => !ks.contains k && nodupKeys ks

/-- row-format WAL entries (line protocol, MessagePack rows, nested columnar) -/
def carveRows (san : Str → Str) (db meas : Str) (cols : Cols) : Bool :=
  db != [] && meas != [] &&
  nodupKeys (cols.map (·.1)) &&
  cols.all (fun p => p.2.length == numRows cols) &&
  (match cols.lookup kTime with
   | some tc => tc.all stableVal
   | none => false) &&
  cols.all (fun p => p.2.all fun v => sanVal san v == v)

/-- raw WAL entries (top-level MessagePack columnar) -/
def carveRaw (db : Str) (_m : MVal) (cols : Cols) : Bool :=
  db != [] && hasKey kTime cols

def carve (san : Str → Str) : Req → Bool
  | .raw db m cols => carveRaw db m cols
  | .pcol db meas cols => carveRows san db meas cols
  | .rgrp db meas pts => carveRows san db meas (rowsToColumnar pts)

theorem ingestCols_now_irrel {san : Str → Str} (n1 n2 : Int) {db meas : Str} {cols : Cols}
    (h : hasKey kTime cols = true) : ingestCols san n1 db meas cols = ingestCols san n2 db meas cols := by
  unfold ingestCols
  cases cols with
  | nil => rfl
  | cons p rest => simp only [h, if_true]

theorem nodupKeys_iff : ∀ ks : List Str, nodupKeys ks = true ↔ ks.Nodup
  | [] => by simp [nodupKeys]
  | k :: ks => by simp [nodupKeys, nodupKeys_iff ks]

theorem lookup_recSet (k' : Str) : ∀ (r : Rec) (k : Str) (v : Val),
    (recSet r k v).lookup k' = if k' == k then some v else r.lookup k'
  | [], k, v => by
    simp only [recSet, List.lookup_cons, List.lookup_nil]
    cases k' == k <;> rfl
  | (a, b) :: r, k, v => by
    simp only [recSet]
    split
    · rename_i hp
      rw [beq_iff_eq.1 hp, List.lookup_cons, List.lookup_cons]
      cases k' == k <;> rfl
    · rename_i hp
      rw [List.lookup_cons, List.lookup_cons, lookup_recSet k' r k v]
      cases h : k' == a
      · rfl
      · have hk : (k' == k) = false := by rw [beq_iff_eq.1 h]; exact Bool.eq_false_iff.2 hp
        simp only [hk, Bool.false_eq_true, if_false]

theorem filter_recSet (keep : Str → Bool) {k : Str} (hk : keep k = false) (v : Val) : ∀ r : Rec,
    (recSet r k v).filter (fun q => keep q.1) = r.filter (fun q => keep q.1)
  | [] => by simp [recSet, hk]
  | (a, b) :: r => by
    simp only [recSet]
    split
    · rename_i hp
      have ha : keep a = false := by rw [beq_iff_eq.1 hp]; exact hk
      simp only [List.filter_cons, hk, ha, Bool.false_eq_true, if_false]
    · simp only [List.filter_cons, filter_recSet keep hk v r]

theorem recSet_fresh : ∀ (r : Rec) {k : Str} (v : Val), k ∉ r.map (·.1) → recSet r k v = r ++ [(k, v)]
  | [], _, _, _ => rfl
  | (a, b) :: r, k, v, h => by
    rw [List.map_cons, List.mem_cons, not_or] at h
    rw [recSet, if_neg (fun e => h.1 (beq_iff_eq.1 e).symm), recSet_fresh r v h.2]
    rfl

theorem setAll_fresh : ∀ (kvs : List (Str × Val)) (r : Rec), ((r ++ kvs).map (·.1)).Nodup →
    setAll r kvs = r ++ kvs
  | [], r, _ => (List.append_nil r).symm
  | p :: ps, r, h => by
    have hp : p.1 ∉ r.map (·.1) := fun hm => by
      rw [List.map_append, List.nodup_append] at h
      exact h.2.2 _ hm _ (List.mem_cons_self ..) rfl
    show setAll (recSet r p.1 p.2) ps = _
    rw [recSet_fresh r p.2 hp, setAll_fresh ps _ (by rwa [List.append_assoc]), List.append_assoc]
    rfl

theorem firstNonEmpty_head {r : Rec} {k s : Str} {ks : List Str} (hk : ks.head? = some k)
    (hl : r.lookup k = some (.str s)) (hs : s ≠ []) : firstNonEmpty r ks = s := by
  cases ks with
  | nil => cases hk
  | cons k' t =>
    cases hk
    simp [firstNonEmpty, lookupStr, hl, hs]

/-- row `i` of `cols` as one-row columns: what the row callback hands to `ingestCols` -/
def rowCols (cols : Cols) (i : Nat) : Cols := cols.map fun p => (p.1, [p.2.getD i .null])

def keepCol (p : Str × List Val) : Bool := !removedKeys.contains p.1

/-- the WAL record of row i (routing keys written last) and what the row callback makes of it: the measurement
and database of the request, and the one-row columns of every column the callback does not remove -/
theorem rowCb_mkRec (san : Str → Str) (now : Int) (db meas : Str) (cols : Cols) (i : Nat)
    (hdb : db ≠ []) (hm : meas ≠ []) (hnd : (cols.map (·.1)).Nodup) :
    rowCb san now (mkRec db meas cols i) = ingestCols san now db meas (rowCols (cols.filter keepCol) i) := by
  generalize hK : (cols.map fun p => (p.1, p.2.getD i Val.null)) = kvs
  have hrec : mkRec db meas cols i = recSet (recSet kvs walDbKey (.str db)) walMeasKey (.str meas) := by
    simp only [mkRec, mkRecG, walKeys_last, if_true, hK]
    rw [setAll_fresh kvs [] (by rw [List.nil_append, ← hK, List.map_map]; exact hnd), List.nil_append]
  have hne : (walDbKey == walMeasKey) = false := by rw [BEq.comm]; exact walKeys_ne
  have h1 : firstNonEmpty (mkRec db meas cols i) measKeys = meas :=
    firstNonEmpty_head measKeys_head (by rw [hrec, lookup_recSet, beq_self_eq_true, if_pos rfl]) hm
  have h2 : firstNonEmpty (mkRec db meas cols i) dbKeys = db :=
    firstNonEmpty_head dbKeys_head
      (by rw [hrec, lookup_recSet, hne, if_neg Bool.false_ne_true, lookup_recSet, beq_self_eq_true, if_pos rfl]) hdb
  have h3 : recCols (mkRec db meas cols i) = rowCols (cols.filter keepCol) i := by
    rw [hrec, recCols, filter_recSet (fun k => !removedKeys.contains k) (by rw [walKeys_removed.2]; rfl),
      filter_recSet (fun k => !removedKeys.contains k) (by rw [walKeys_removed.1]; rfl), ← hK,
      List.filter_map, List.map_map]
    rfl
  simp only [rowCb, h1, h2, h3, hm, hdb, if_false]

theorem keep_of_visible {p : Str × List Val} (h : visible p.1 = true ∨ p.1 = kTime) : keepCol p = true := by
  unfold keepCol
  cases hc : removedKeys.contains p.1 with
  | false => rfl
  | true =>
    have hall := List.all_eq_true.1 removed_invisible p.1 (by simpa using hc)
    simp only [Bool.and_eq_true, Bool.not_eq_true', bne_iff_ne, ne_eq] at hall
    rcases h with h | h
    · rw [hall.1] at h; cases h
    · exact absurd h hall.2

theorem cellsAt_filter_keep (cols : Cols) (i : Nat) : cellsAt (cols.filter keepCol) i = cellsAt cols i := by
  unfold cellsAt
  rw [List.filter_filter]
  congr 1
  apply List.filter_congr
  intro p _
  by_cases hv : visible p.1 = true
  · simp [hv, keep_of_visible (.inl hv)]
  · simp [hv]

theorem cellsAt_rowCols (cols : Cols) (i : Nat) : cellsAt (rowCols cols i) 0 = cellsAt cols i := by
  simp only [cellsAt, rowCols, List.filter_map, List.filterMap_map]
  rfl

theorem lookup_rowCols (cols : Cols) (i : Nat) (k : Str) :
    (rowCols cols i).lookup k = (cols.lookup k).map fun vs => [vs.getD i .null] :=
  lookup_map_snd (fun vs : List Val => [vs.getD i .null]) k cols

theorem getD_mem {l : List Val} {i : Nat} (hi : i < l.length) : l.getD i .null ∈ l := by
  simp only [List.getD, List.getElem?_eq_getElem hi, Option.getD_some]
  exact List.getElem_mem hi

theorem getD_ind {P : Val → Prop} {l : List Val} (i : Nat) (h0 : P .null) (h : ∀ v ∈ l, P v) :
    P (l.getD i .null) := by
  by_cases hi : i < l.length
  · exact h _ (getD_mem hi)
  · rw [List.getD, List.getElem?_eq_none (Nat.le_of_not_lt hi)]; exact h0

theorem firstNonNull_none : ∀ {l : List Val}, firstNonNull l = none → ∀ x ∈ l, x = .null
  | a :: t, h, x, hx => by
    cases a <;> first | cases h | skip
    rcases List.mem_cons.1 hx with rfl | hx
    · rfl
    · exact firstNonNull_none (l := t) h x hx

theorem valueColOk_getD {vs : List Val} (i : Nat) (h : valueColOk vs = true) :
    valueColOk [vs.getD i .null] = true := by
  refine getD_ind (P := fun v => valueColOk [v] = true) i rfl fun v hmem => ?_
  unfold valueColOk at h
  cases hf : firstNonNull vs with
  | none => rw [firstNonNull_none hf v hmem]; rfl
  | some v0 =>
    simp only [hf] at h
    cases hk : kindOf v0 with
    | none => rw [hk] at h; cases h
    | some k =>
      simp only [hk, List.all_eq_true] at h
      have hv := h v hmem
      -- a one-value column is refused only for `.other`, which `hv` rules out
      cases v <;> first | rfl | cases hv

theorem normOne_stable {t : Int} (h : usStable t = true) : normOne (multOf t) t = t := by
  simp only [usStable, Bool.and_eq_true, beq_iff_eq, decide_eq_true_eq] at h
  obtain ⟨⟨hm, h1⟩, h2⟩ := h
  simp only [normOne, hm, wrap64]
  omega

theorem normalize_stable {cols : Cols} {t : Int} (hnd : (cols.map (·.1)).Nodup)
    (hlk : cols.lookup kTime = some [.int t]) (hs : usStable t = true) : normalize cols = .ok cols := by
  have hset : setCol kTime [.int t] cols = cols := by
    conv => rhs; rw [← List.map_id cols]
    refine List.map_congr_left fun p hp => ?_
    by_cases hk : p.1 = kTime
    · have := (lookup_of_mem hnd (hk ▸ hp : (kTime, p.2) ∈ cols)).symm.trans hlk
      rw [if_pos hk, ← Option.some.inj this, ← hk]; rfl
    · rw [if_neg hk]; rfl
  simp only [normalize, hlk, tsOf, normVals, normOne_stable hs, hset]

theorem ingestCols_normalized (san : Str → Str) (now : Int) (db meas : Str) {cols : Cols}
    (hlen : ∀ p ∈ cols, p.2.length = 1) (hk : hasKey kTime cols = true) (hn : normalize cols = .ok cols)
    (hs : sanCols san cols = cols) : ingestCols san now db meas cols = toRows db meas cols := by
  cases cols with
  | nil => cases hk
  | cons p0 rest =>
    obtain ⟨h0, hrest⟩ := List.forall_mem_cons.1 hlen
    have hany : rest.any (fun p => p.2.length != 1) = false :=
      List.any_eq_false.2 fun p hp => by rw [hrest p hp]; decide
    simp only [ingestCols, hany, h0, hk, hn, hs, Bool.false_eq_true, if_false, if_true, Nat.succ_ne_zero]

theorem ingest_single (san : Str → Str) (now : Int) (db meas : Str) {cols : Cols} {tc : List Val} {i : Nat}
    (hnd : (cols.map (·.1)).Nodup) (hok : ∀ p ∈ cols, colOk p = true)
    (htc : cols.lookup kTime = some tc) (hi : i < tc.length) (hst : ∀ v ∈ tc, stableVal v = true)
    (hsan : ∀ p ∈ cols, ∀ v ∈ p.2, sanVal san v = v) :
    ingestCols san now db meas (rowCols cols i) = .ok [rowAt db meas cols tc i] := by
  obtain ⟨t, ht, hts⟩ : ∃ t, tc.getD i .null = .int t ∧ usStable t = true := by
    have := hst _ (getD_mem hi)
    generalize tc.getD i .null = v at this
    cases v <;> first | cases this | exact ⟨_, rfl, this⟩
  have hkeys : (rowCols cols i).map (·.1) = cols.map (·.1) := by simp only [rowCols, List.map_map]; rfl
  have hlk : (rowCols cols i).lookup kTime = some [Val.int t] := by rw [lookup_rowCols, htc, ← ht]; rfl
  have hsanc : sanCols san (rowCols cols i) = rowCols cols i := by
    simp only [sanCols, rowCols, List.map_map]
    refine List.map_congr_left fun p hp => ?_
    simp only [Function.comp, List.map_cons, List.map_nil,
      getD_ind (P := fun v => sanVal san v = v) i rfl (hsan p hp)]
  have hall : (rowCols cols i).all colOk = true := by
    simp only [rowCols, List.all_map, List.all_eq_true]
    intro p hp
    have hp_ok := hok p hp
    simp only [Function.comp, colOk] at hp_ok ⊢
    by_cases hk : p.1 = kTime
    · have := (lookup_of_mem hnd (hk ▸ hp : (kTime, p.2) ∈ cols)).symm.trans htc
      rw [if_pos hk, Option.some.inj this, ht]; rfl
    · rw [if_neg hk] at hp_ok ⊢
      exact valueColOk_getD i hp_ok
  rw [ingestCols_normalized san now db meas (fun p hp => by obtain ⟨q, _, rfl⟩ := List.mem_map.1 hp; rfl)
    (List.any_eq_true.2 ⟨_, lookup_mem hlk, beq_self_eq_true _⟩)
    (normalize_stable (hkeys ▸ hnd) hlk hts) hsanc]
  simp only [toRows, hall, hlk, Bool.not_true, Bool.false_eq_true, if_false, List.length_singleton, List.range_one,
    List.map_cons, List.map_nil, rowAt, cellsAt_rowCols, timeAt, ht, tsOf]
  rfl

theorem toRows_shape {db meas : Str} {cols : Cols} {rows : List Row} (h : toRows db meas cols = .ok rows) :
    cols.all colOk = true ∧ ∃ tc, cols.lookup kTime = some tc ∧
      rows = (List.range tc.length).map (rowAt db meas cols tc) := by
  rcases ite_cases h with ⟨_, h⟩ | ⟨hall, h⟩
  · cases h
  simp only [Bool.not_eq_true', Bool.not_eq_false] at hall
  cases hl : cols.lookup kTime with
  | none => rw [hl] at h; cases h
  | some tc => rw [hl] at h; cases h; exact ⟨hall, tc, rfl, rfl⟩

theorem ingestCols_toRows {san : Str → Str} {now : Int} {db meas : Str} {cols : Cols} {rows : List Row}
    (h : ingestCols san now db meas cols = .ok rows) : ∃ cols', toRows db meas cols' = .ok rows := by
  cases cols with
  | nil => cases h
  | cons p rest =>
    rcases ite_cases h with ⟨_, h⟩ | ⟨_, h⟩
    · cases h
    rcases ite_cases h with ⟨_, h⟩ | ⟨_, h⟩
    · cases h
    dsimp only at h
    split at h
    · cases h
    · exact ⟨_, h⟩

theorem seqRows_map_ok {α : Type} {f : α → R} {g : α → Row} :
    ∀ {l : List α}, (∀ x ∈ l, f x = .ok [g x]) → seqRows (l.map f) = .ok (l.map g)
  | [], _ => rfl
  | x :: xs, h => by
    obtain ⟨h1, h2⟩ := List.forall_mem_cons.1 h
    simp only [List.map_cons, seqRows, h1, seqRows_map_ok h2]
    rfl

theorem rows_replay_eq_live {san : Str → Str} (now : Int) {db meas : Str} {cols : Cols} {rows : List Row}
    (hc : carveRows san db meas cols = true) (h : toRows db meas cols = .ok rows) :
    replayRows san now (.rows (toWalRecords db meas cols)) = .ok rows := by
  obtain ⟨hok, tc, htc, rfl⟩ := toRows_shape h
  simp only [carveRows, Bool.and_eq_true, htc, bne_iff_ne, ne_eq, nodupKeys_iff, List.all_eq_true, beq_iff_eq] at hc
  obtain ⟨⟨⟨⟨⟨hdb, hmeas⟩, hnd⟩, hlen⟩, hst⟩, hsan⟩ := hc
  have hsub : ∀ p ∈ cols.filter keepCol, p ∈ cols := fun p hp => (List.mem_filter.1 hp).1
  have hnd0 : ((cols.filter keepCol).map (·.1)).Nodup := hnd.sublist (List.filter_sublist.map _)
  have htc0 : (cols.filter keepCol).lookup kTime = some tc :=
    (lookup_filter _ _ _ fun _ _ => keep_of_visible (.inr rfl)).trans htc
  show seqRows (List.map (rowCb san now) (toWalRecords db meas cols)) = _
  rw [toWalRecords, List.map_map, ← hlen _ (lookup_mem htc)]
  refine seqRows_map_ok fun i hi => ?_
  rw [Function.comp, rowCb_mkRec san now db meas cols i hdb hmeas hnd,
    ingest_single san now db meas hnd0 (fun p hp => List.all_eq_true.1 hok p (hsub p hp))
      htc0 (List.mem_range.1 hi) hst (fun p hp => hsan p (hsub p hp))]
  simp only [rowAt, cellsAt_filter_keep]

theorem toRows_db {db meas : Str} {cols : Cols} {rows : List Row} (h : toRows db meas cols = .ok rows) :
    ∀ r ∈ rows, r.db = db := by
  obtain ⟨_, tc, _, rfl⟩ := toRows_shape h
  intro r hr
  obtain ⟨i, _, rfl⟩ := List.mem_map.1 hr
  rfl

end Arc.C05
