import Arc.Model.C05
/-!
C05 crash part: per-row invariant of the crash/recovery LTS and its preservation by every event that the
decidable carve-out `evSafe` admits.
-/
namespace Arc.C05

/-- copies of the row that exist anywhere (stored or buffered) -/
def tot (r : RowSt) : Nat := r.s + r.sr + r.b + r.br

theorem tot_eq (r : RowSt) : tot r = (r.s + r.sr) + (r.b + r.br) := Nat.add_assoc _ _ _

/-- a crash is *safe* for a row when (1) an unflushed copy is still backed by its WAL entry (queued or in a
file) and (2) a flushed copy's WAL entry is gone (purged) -/
def crashSafeRow (r : RowSt) : Bool :=
  (r.b + r.br == 0 || r.q || r.w.isSome) && (r.s + r.sr == 0 || r.w.isNone)

/-- the carve-out, one event at a time: crashes only in safe states; no WAL entry is skipped by the reader -/
def evSafe (st : St) : Ev → Bool
  | .crash => st.rows.all crashSafeRow
  | .skip _ => false
  | _ => true

def runSafe (orderOk flushFirst : Bool) : St → List Ev → Option St
  | st, [] => some st
  | st, e :: es =>
    if evSafe st e then
      match step orderOk flushFirst st e with
      | some st' => runSafe orderOk flushFirst st' es
      | none => none
    else none

/-- what the trace so far guarantees about one row of a running process with these globals -/
structure RInv (active boot : Nat) (r : RowSt) : Prop where
  wle : ∀ f, r.w = some f → f ≤ active
  qinv : r.q = true → tot r = 1 ∧ r.pers = false ∧ r.w = none
  pinv : r.pers = true → tot r = 1 ∨ (tot r = 0 ∧ ∃ f, r.w = some f ∧ f < boot ∧ r.rp = false)
  oinv : ∀ f, r.w = some f → f < boot → r.rp = false → tot r = 0

def InvUp (st : St) : Prop :=
  st.boot ≤ st.active ∧ ∀ r ∈ st.rows, RInv st.active st.boot r

def afterRestart (st : St) : St :=
  { up := true, active := st.active + 1, boot := st.active + 1, rows := st.rows.map fun r => { r with rp := false } }

/-- The only event of a crashed process is `restart`, so a crashed state is judged by the state its restart
leads to: no separate invariant for the time in between. -/
def Inv (st : St) : Prop := InvUp (if st.up then st else afterRestart st)

theorem inv_init : Inv {} := ⟨Nat.le_refl _, List.forall_mem_nil _⟩

/-! What each event does to the invariant of one row it touches. -/
namespace RInv
variable {a b : Nat} {r : RowSt}

theorem ack (rid e : Nat) : RInv a b { rid := rid, entry := e, b := 1, q := true } :=
  ⟨nofun, fun _ => ⟨rfl, rfl, rfl⟩, nofun, nofun⟩

theorem persist (h : RInv a b r) (hba : b ≤ a) (hq : r.q = true) :
    RInv a b { r with q := false, w := some a, pers := true } :=
  ⟨fun f hf => by cases hf; exact Nat.le_refl _, nofun, fun _ => .inl (h.qinv hq).1,
    fun f hf hlt _ => by cases hf; exact absurd hlt (Nat.not_lt.2 hba)⟩

theorem flush (h : RInv a b r) : RInv a b { r with s := r.s + r.b, sr := r.sr + r.br, b := 0, br := 0 } := by
  have ht : tot { r with s := r.s + r.b, sr := r.sr + r.br, b := 0, br := 0 } = tot r :=
    (Nat.add_add_add_comm ..).trans (tot_eq r).symm
  exact ⟨h.wle, fun hq => ht ▸ h.qinv hq, fun hp => ht ▸ h.pinv hp, fun f hf hlt hrp => ht ▸ h.oinv f hf hlt hrp⟩

/-- the row's WAL file goes away (purge, delete): allowed once a persisted row has its one copy -/
theorem clearW (h : RInv a b r) {f : Nat} (hw : r.w = some f) (hp : r.pers = true → tot r = 1) :
    RInv a b { r with w := none } :=
  ⟨nofun, fun hq => absurd (h.qinv hq).2.2 (by rw [hw]; nofun), fun hp' => .inl (hp hp'), nofun⟩

theorem purge (h : RInv a b r) {f : Nat} (hw : r.w = some f) (hs : r.s + r.sr > 0) :
    RInv a b { r with w := none } :=
  h.clearW hw fun hp => (h.pinv hp).resolve_right fun ⟨h0, _⟩ =>
    Nat.ne_of_gt hs (Nat.add_eq_zero_iff.1 (tot_eq r ▸ h0)).1

theorem delete (h : RInv a b r) {f : Nat} (hw : r.w = some f) (hrp : r.rp = true) :
    RInv a b { r with w := none } :=
  h.clearW hw fun hp => (h.pinv hp).resolve_right fun ⟨_, _, _, _, h⟩ => by rw [hrp] at h; cases h

theorem replay (h : RInv a b r) {f : Nat} (hw : r.w = some f) (hlt : f < b) (hrp : r.rp = false) :
    RInv a b { r with br := r.br + 1, rp := true } := by
  have h0 := h.oinv f hw hlt hrp
  exact ⟨h.wle, fun hq => absurd (h.qinv hq).2.2 (by rw [hw]; nofun),
    fun _ => .inl (by show tot r + 1 = 1; rw [h0]), nofun⟩

/-- a safe crash followed by the restart: a row with a WAL file has no stored copy, so it is left with none at
all and waits for replay; a persisted row without one has nothing buffered, so it keeps its copy -/
theorem crashRestart (h : RInv a b r) (hs : crashSafeRow r = true) :
    RInv (a + 1) (a + 1) { r with b := 0, br := 0, q := false, rp := false } := by
  simp only [crashSafeRow, Bool.and_eq_true, Bool.or_eq_true, beq_iff_eq] at hs
  have htot : ∀ f, r.w = some f → tot { r with b := 0, br := 0, q := false, rp := false } = 0 := fun f hf => by
    rw [tot_eq]; exact hs.2.resolve_right (by rw [hf]; nofun)
  refine ⟨fun f hf => Nat.le_succ_of_le (h.wle f hf), nofun, fun hp => ?_, fun f hf _ _ => htot f hf⟩
  cases hw : r.w with
  | some f => exact .inr ⟨htot f hw, f, rfl, Nat.lt_succ_of_le (h.wle f hw), rfl⟩
  | none =>
    have hq : r.q = false := Bool.eq_false_iff.2 fun hq => by
      have := (h.qinv hq).2.1; rw [hp] at this; cases this
    have hb : r.b + r.br = 0 := by
      rcases hs.1 with (hb | hq') | hw'
      · exact hb
      · rw [hq] at hq'; cases hq'
      · rw [hw] at hw'; cases hw'
    have h1 : tot r = 1 := (h.pinv hp).resolve_right fun ⟨_, f, hf, _⟩ => by rw [hw] at hf; cases hf
    rw [tot_eq, hb] at h1
    exact .inl (by rw [tot_eq]; exact h1)

end RInv

/-- the generic shape of most events: the rows are mapped through `g`, the globals change -/
theorem inv_map {st : St} {a b : Nat} {g : RowSt → RowSt} (hb : b ≤ a)
    (h : ∀ r ∈ st.rows, RInv st.active st.boot r → RInv a b (g r)) (hi : InvUp st) :
    InvUp { rows := st.rows.map g, active := a, boot := b, up := true } := by
  refine ⟨hb, fun r hr => ?_⟩
  obtain ⟨r0, hr0, rfl⟩ := List.mem_map.1 hr
  exact h r0 hr0 (hi.2 r0 hr0)

/-- … or only the rows that satisfy `c` -/
theorem inv_update {st : St} (c : RowSt → Bool) {g : RowSt → RowSt}
    (h : ∀ r ∈ st.rows, c r = true → RInv st.active st.boot r → RInv st.active st.boot (g r))
    (hi : InvUp st) :
    InvUp { rows := st.rows.map fun r => if c r then g r else r, active := st.active, boot := st.boot, up := true } :=
  inv_map hi.1 (fun r hr hri => by
    by_cases hc : c r = true
    · rw [if_pos hc]; exact h r hr hc hri
    · rw [if_neg hc]; exact hri) hi

theorem old_iff {st : St} {r : RowSt} : old st r = true ↔ ∃ f, r.w = some f ∧ f < st.boot := by
  unfold old
  cases h : r.w <;> simp

/-- what the delete guard says about one row of the file: replayed (under the order fact), and nothing of
it left in memory (with the repair) -/
theorem deleteGuard_row {o ff : Bool} {st : St} {f : Nat} (h : deleteGuard o ff st f = true) {r : RowSt}
    (hr : r ∈ st.rows) (hw : r.w = some f) : (o = true → r.rp = true) ∧ (ff = true → r.b + r.br = 0) := by
  simp only [deleteGuard, Bool.and_eq_true, List.all_eq_true] at h
  have := h.2 r hr
  simp only [hw, bne_self_eq_false, Bool.false_or, Bool.and_eq_true, Bool.or_eq_true, Bool.not_eq_true',
    beq_iff_eq] at this
  exact ⟨fun ho => this.1.resolve_left (by rw [ho]; nofun), fun hf => this.2.resolve_left (by rw [hf]; nofun)⟩

theorem step_inv {ff : Bool} {st st' : St} {e : Ev} (hi : Inv st) (hs : evSafe st e = true)
    (h : step true ff st e = some st') : Inv st' := by
  obtain ⟨rows, active, boot, up⟩ := st
  cases e
  case skip => cases hs
  case restart =>
    obtain ⟨hg, rfl⟩ := Option.ite_some_none_eq_some.1 h
    obtain rfl : up = false := Bool.not_eq_true' up ▸ hg
    exact hi
  all_goals
    obtain ⟨hg, rfl⟩ := Option.ite_some_none_eq_some.1 h
    have hg' := hg
    simp only [deleteGuard, Bool.and_eq_true, List.all_eq_true, List.any_eq_true] at hg
  case fail =>
    obtain rfl := hg.1
    exact hi
  case ack en rids =>
    obtain rfl := hg.1
    exact ⟨hi.1, List.forall_mem_append.2 ⟨hi.2, List.forall_mem_map.2 fun i _ => .ack i en⟩⟩
  case persist en =>
    obtain rfl := hg.1
    exact inv_update (fun r => r.entry == en && r.q)
      (fun r _ hc hr => hr.persist hi.1 (Bool.and_eq_true_iff.1 hc).2) hi
  case rotate =>
    obtain rfl : up = true := hg
    exact ⟨Nat.le_succ_of_le hi.1, fun r hr =>
      have := hi.2 r hr
      ⟨fun f hf => Nat.le_succ_of_le (this.wle f hf), this.qinv, this.pinv, this.oinv⟩⟩
  case flush rids =>
    obtain rfl := hg.1
    exact inv_update (fun r => rids.contains r.rid) (fun r _ _ hr => hr.flush) hi
  case purge f =>
    obtain rfl := hg.1.1
    refine inv_update (fun r => r.w == some f) (fun r hr hc hri => ?_) hi
    have hw : r.w = some f := beq_iff_eq.1 hc
    have := hg.2 r hr
    simp only [hw, bne_self_eq_false, Bool.false_or, Bool.and_eq_true, decide_eq_true_eq] at this
    exact hri.purge hw this.2
  case crash =>
    obtain rfl : up = true := hg
    show InvUp (afterRestart _)
    rw [afterRestart, List.map_map]
    exact inv_map (Nat.le_refl _) (fun r hr hri => hri.crashRestart (List.all_eq_true.1 hs r hr)) hi
  case replay en =>
    obtain rfl := hg.1.1
    refine inv_update (fun r => r.entry == en) (fun r hr hc hri => ?_) hi
    have := hg.2 r hr
    simp only [bne, hc, Bool.not_true, Bool.false_or, Bool.and_eq_true, Bool.not_eq_true'] at this
    obtain ⟨f, hf, hlt⟩ := old_iff.1 this.1
    exact hri.replay hf hlt this.2
  case delete f =>
    obtain rfl := hg.1.1
    refine inv_update (fun r => r.w == some f) (fun r hr hc hri => ?_) hi
    have hw : r.w = some f := beq_iff_eq.1 hc
    exact hri.delete hw ((deleteGuard_row hg' hr hw).1 rfl)

theorem runSafe_inv {ff : Bool} : ∀ (evs : List Ev) {st st' : St}, Inv st →
    runSafe true ff st evs = some st' → Inv st'
  | [], _, _, hi, h => by cases h; exact hi
  | e :: es, st, _, hi, h => by
    rw [runSafe] at h
    obtain ⟨hs, h⟩ := Option.ite_none_right_eq_some.1 h
    cases hst : step true ff st e with
    | none => rw [hst] at h; cases h
    | some st1 => rw [hst] at h; exact runSafe_inv es (step_inv hi hs hst) h

/-- recovery finished and everything flushed: the process is up, nothing is buffered or queued, and no WAL
file from before this incarnation is left -/
def quiescent (st : St) : Bool :=
  st.up && st.rows.all fun r => r.b + r.br == 0 && !r.q && !old st r

theorem quiescent_once {st : St} (hi : Inv st) (hq : quiescent st = true) :
    ∀ r ∈ st.rows, r.pers = true → r.s + r.sr = 1 := by
  intro r hr hp
  simp only [quiescent, Bool.and_eq_true, List.all_eq_true, beq_iff_eq, Bool.not_eq_true'] at hq
  obtain ⟨⟨hb, _⟩, hold⟩ := hq.2 r hr
  rw [Inv, if_pos hq.1] at hi
  rcases (hi.2 r hr).pinv hp with h1 | ⟨_, f, hf, hlt, _⟩
  · rw [tot_eq, hb] at h1; exact h1
  · rw [old_iff.2 ⟨f, hf, hlt⟩] at hold; cases hold

end Arc.C05
