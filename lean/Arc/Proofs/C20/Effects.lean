import Arc.Proofs.C20.Basic
/-! C20: for every mutating op, the effect of its success path on the tables stays within the class
`classOf` assigns to it, and the table invariants are preserved. -/
namespace Arc.C20

/-- extracting the success branch of `exec` -/
macro "exec_success" h:ident : tactic =>
  `(tactic| (simp only [exec] at $h:ident; repeat' split at $h:ident; all_goals first | (cases $h:ident; done) | skip))

/-- `exec` is a chain of guards, each returning without a write (`hy`: as a rule the branch is a literal
`(_, none)`); on a success path the guard in front has failed. Applied to
`h : exec mode tb op = (r, some tb')` directly: unification unfolds `exec`. -/
theorem of_guard {c : Prop} [Decidable c] {r : Res} {y x : Res × Option Tables} {tb' : Tables}
    (h : (if c then y else x) = (r, some tb')) (hy : y.2 = none := by rfl) : ¬ c ∧ x = (r, some tb') := by
  by_cases hc : c
  · rw [if_pos hc] at h; rw [h] at hy; cases hy
  · rw [if_neg hc] at h; exact ⟨hc, h⟩

theorem memberTeams_congr {tb tb' : Tables} {tid : Nat} (hteams : tb'.teams = tb.teams)
    (h : ∀ t : Team, (tb'.mems.any fun m => m.tok == tid && m.team == t.id)
                   = (tb.mems.any fun m => m.tok == tid && m.team == t.id)) :
    memberTeams tb' tid = memberTeams tb tid := by
  unfold memberTeams; rw [hteams]; congr 1; funext t; exact h t

theorem loadData_of_memberTeams {tb tb' : Tables} {tid : Nat}
    (hm : memberTeams tb' tid = memberTeams tb tid) (hr : tb'.roles = tb.roles) (hp : tb'.mps = tb.mps) :
    loadData tb' tid = loadData tb tid := by
  unfold loadData; rw [hm, hr, hp]

/-- lookup by id commutes with a rewrite of the rows that keeps their ids -/
theorem find?_map_id (l : List Token) (f : Token → Token) (hid : ∀ t, (f t).id = t.id) (tid : Nat) :
    (l.map f).find? (fun t => t.id == tid) = (l.find? (fun t => t.id == tid)).map f := by
  rw [List.find?_map]; congr 2; funext t; exact congrArg (· == tid) (hid t)

theorem update_id {g : Token → Token} (hg : ∀ t, (g t).id = t.id) (id : Nat) (t : Token) :
    (if t.id == id then g t else t).id = t.id := by
  split
  · exact hg t
  · rfl

/-- rewriting the row of token `id` leaves every other token's `VerifyToken` result alone -/
theorem tokenInfo_update_ne {tb : Tables} (g : Token → Token) (hg : ∀ t, (g t).id = t.id) {id tid : Nat}
    (h : tid ≠ id) :
    tokenInfo { tb with tokens := tb.tokens.map fun t => if t.id == id then g t else t } tid = tokenInfo tb tid := by
  unfold tokenInfo
  rw [find?_map_id _ _ (update_id hg id)]
  cases hf : tb.tokens.find? (fun t => t.id == tid) with
  | none => rfl
  | some t =>
    have hid : t.id = tid := by simpa using List.find?_some hf
    have : (t.id == id) = false := beq_false_of_ne (hid ▸ h)
    simp only [Option.map_some, this]; rfl

theorem tokenInfo_revoked (tb : Tables) (id : Nat) :
    tokenInfo { tb with tokens := tb.tokens.map fun t => if t.id == id then { t with enabled := false } else t } id = none := by
  unfold tokenInfo
  rw [find?_map_id _ _ (update_id (g := fun t => { t with enabled := false }) (fun _ => rfl) id)]
  cases hf : tb.tokens.find? (fun t => t.id == id) with
  | none => rfl
  | some t => simp only [Option.map_some, List.find?_some hf]; rfl

theorem tokLt_update {tb : Tables} (hT : TInv tb) {g : Token → Token} (hg : ∀ t, (g t).id = t.id) (id : Nat) :
    ∀ t ∈ tb.tokens.map (fun t => if t.id == id then g t else t), t.id < tb.tokBound := by
  intro t ht
  obtain ⟨a, ha, rfl⟩ := List.mem_map.1 ht
  rw [update_id hg]; exact hT.tokLt a ha

/-- no decision reads the organization table: a write that leaves the other tables alone is neutral -/
theorem neutral_of_frame {tb tb' : Tables} {t : Nat} (hT : TInv tb) (h1 : tb'.tokens = tb.tokens)
    (h2 : tb'.teams = tb.teams) (h3 : tb'.roles = tb.roles) (h4 : tb'.mps = tb.mps) (h5 : tb'.mems = tb.mems)
    (h6 : tb'.tokBound = tb.tokBound) : TInv tb' ∧ EffectOK .neutral t tb tb' := by
  refine ⟨⟨?_, ?_⟩, Nat.le_of_eq h6.symm, fun tid _ => ⟨tokenInfo_congr tb tb' h1 tid, loadData_congr tb tb' h2 h3 h4 h5 tid⟩⟩
  · rw [h1, h6]; exact hT.tokLt
  · rw [h2, h5]; exact hT.memTeam

/-- global ops only owe the table invariants (their invalidation must be `all`); writes below the
teams table keep them -/
theorem global_of_frame {tb tb' : Tables} {t : Nat} (hT : TInv tb) (h1 : tb'.tokens = tb.tokens) (h2 : tb'.teams = tb.teams)
    (h3 : tb'.mems = tb.mems) (h4 : tb'.tokBound = tb.tokBound) : TInv tb' ∧ EffectOK .global t tb tb' := by
  refine ⟨⟨?_, ?_⟩, Nat.le_of_eq h4.symm, trivial⟩
  · rw [h1, h4]; exact hT.tokLt
  · rw [h2, h3]; exact hT.memTeam

/-- a cascading delete owes no more: `cascade` keeps only memberships whose team remains -/
theorem global_of_cascade {tb tb₀ : Tables} {t : Nat} (hT : TInv tb) (h1 : tb₀.tokens = tb.tokens)
    (h2 : tb₀.tokBound = tb.tokBound) : TInv (cascade tb₀) ∧ EffectOK .global t tb (cascade tb₀) := by
  refine ⟨⟨?_, fun m hm => ?_⟩, Nat.le_of_eq h2.symm, trivial⟩
  · show ∀ t ∈ tb₀.tokens, t.id < tb₀.tokBound
    rw [h1, h2]; exact hT.tokLt
  · obtain ⟨t, ht, e⟩ := List.any_eq_true.1 (List.mem_filter.1 hm).2
    exact ⟨t, ht, by simpa using e⟩

/-- **Per-mutation obligation, table side**: whatever `exec` does on a success path lies within the
class `classOf` declares for the method (= success path) `methodAt` names. -/
theorem exec_effect (mode : Mode) (tb tb' : Tables) (op : Op) (m : Method) (r : Res) (hT : TInv tb)
    (hm : methodAt tb op = some m) (h : exec mode tb op = (r, some tb')) :
    TInv tb' ∧ EffectOK (classOf m) op.tokArg tb tb' := by
  cases op
  case toCluster | advance | cleanup | check | batch => cases hm
  case applyCreateOrg name newId =>
    -- three success paths; `methodAt` names the one taken by the same two tests
    simp only [methodAt] at hm
    cases mode
    · cases h
    · obtain ⟨_, h⟩ := of_guard h
      by_cases hid : (tb.orgs.any fun o => o.id == newId) = true
      · -- log replay: tables untouched
        rw [if_pos hid] at hm h
        obtain rfl := Option.some.inj hm
        split at h <;> cases h
        exact neutral_of_frame hT rfl rfl rfl rfl rfl rfl
      · rw [if_neg hid] at hm h
        by_cases hname : (tb.orgs.any fun o => o.name == name) = true
        · -- re-align: delete + cascade + insert
          rw [if_pos hname] at hm h
          obtain rfl := Option.some.inj hm
          cases h
          exact global_of_cascade hT rfl rfl
        · -- plain insert
          rw [if_neg hname] at hm h
          obtain rfl := Option.some.inj hm
          cases h
          exact neutral_of_frame hT rfl rfl rfl rfl rfl rfl
  -- the 18 API mutations: `methodAt` is `Op.method?`
  all_goals obtain rfl := Option.some.inj hm
  -- on a success path every guard has failed: peel them all
  case createOrg | updateOrg =>
    repeat replace h := (of_guard h).2
    cases h
    exact neutral_of_frame hT rfl rfl rfl rfl rfl rfl
  case deleteOrg | deleteTeam =>
    repeat replace h := (of_guard h).2
    cases h
    exact global_of_cascade hT rfl rfl
  case createRole | updateRole | deleteRole | createMP | deleteMP =>
    repeat replace h := (of_guard h).2
    cases h
    exact global_of_frame hT rfl rfl rfl rfl
  case createTeam org name newId =>
    obtain ⟨_, h⟩ := of_guard h; obtain ⟨_, h⟩ := of_guard h; obtain ⟨_, h⟩ := of_guard h
    obtain ⟨hfresh, h⟩ := of_guard h
    cases h
    refine ⟨⟨hT.tokLt, fun m hm => ?_⟩, Nat.le_refl _, fun tid _ => ⟨rfl, ?_⟩⟩
    · obtain ⟨t, ht, e⟩ := hT.memTeam m hm
      exact ⟨t, List.mem_cons_of_mem _ ht, e⟩
    · -- memberships reference existing teams, the new id is fresh: nobody is a member of the new team
      refine loadData_of_memberTeams ?_ rfl rfl
      have : (tb.mems.any fun m => m.tok == tid && m.team == newId) = false := by
        rw [List.any_eq_false]
        intro m hm hc
        obtain ⟨t, ht, e⟩ := hT.memTeam m hm
        simp only [Bool.and_eq_true, beq_iff_eq] at hc
        exact hfresh (List.any_eq_true.2 ⟨t, ht, by simp [e, hc.2]⟩)
      unfold memberTeams
      simp [List.filter, this]
  case updateTeam id name en =>
    obtain ⟨_, h⟩ := of_guard h; obtain ⟨_, h⟩ := of_guard h
    split at h
    · cases h
    · obtain ⟨_, h⟩ := of_guard h
      cases h
      refine ⟨⟨hT.tokLt, fun m hm => ?_⟩, Nat.le_refl _, trivial⟩
      obtain ⟨t, ht, e⟩ := hT.memTeam m hm
      refine ⟨_, List.mem_map.2 ⟨t, ht, rfl⟩, ?_⟩
      split <;> exact e
  case addMem tok team newId =>
    have key : ¬ (!hasTeam tb team) = true →
        TInv { tb with mems := ⟨newId, tok, team⟩ :: tb.mems } ∧
          EffectOK .tokenLocal tok tb { tb with mems := ⟨newId, tok, team⟩ :: tb.mems } := by
      intro hteam
      refine ⟨⟨hT.tokLt, fun m hm => ?_⟩, Nat.le_refl _, fun tid _ hne => ⟨rfl, ?_⟩⟩
      · cases hm with
        | head =>
          obtain ⟨t, ht, e⟩ := List.any_eq_true.1 (by simpa using hteam : hasTeam tb team = true)
          exact ⟨t, ht, by simpa using e⟩
        | tail _ hm => exact hT.memTeam m hm
      · refine loadData_of_memberTeams (memberTeams_congr rfl fun t => ?_) rfl rfl
        have : (tok == tid) = false := by simpa using Ne.symm hne
        simp [List.any_cons, this]
    cases mode
    · obtain ⟨hteam, h⟩ := of_guard h; obtain ⟨_, h⟩ := of_guard h; obtain ⟨_, h⟩ := of_guard h
      obtain ⟨_, h⟩ := of_guard h
      cases h
      exact key hteam
    · obtain ⟨_, h⟩ := of_guard h; obtain ⟨hteam, h⟩ := of_guard h; obtain ⟨_, h⟩ := of_guard h
      obtain ⟨_, h⟩ := of_guard h
      cases h
      exact key hteam
  case removeMem tok team =>
    obtain ⟨_, h⟩ := of_guard h
    cases h
    refine ⟨⟨hT.tokLt, fun m hm => hT.memTeam m (List.mem_filter.1 hm).1⟩, Nat.le_refl _, fun tid _ hne => ⟨rfl, ?_⟩⟩
    refine loadData_of_memberTeams (memberTeams_congr rfl fun t => ?_) rfl rfl
    apply any_filter_of_imp
    intro m hq
    simp only [Bool.and_eq_true, beq_iff_eq] at hq
    have : m.tok ≠ tok := fun e => hne (hq.1.symm.trans e)
    simp [this]
  case createToken name perms newId =>
    obtain ⟨_, h⟩ := of_guard h; obtain ⟨_, h⟩ := of_guard h; obtain ⟨_, h⟩ := of_guard h
    obtain ⟨hge, h⟩ := of_guard h
    cases h
    have hge : tb.tokBound ≤ newId := Nat.le_of_not_lt hge
    refine ⟨⟨fun t ht => ?_, hT.memTeam⟩, Nat.le_succ_of_le hge, fun tid hlt => ⟨?_, rfl⟩⟩
    · cases ht with
      | head => exact Nat.lt_succ_self _
      | tail _ ht => exact Nat.lt_succ_of_lt (Nat.lt_of_lt_of_le (hT.tokLt t ht) hge)
    · -- ids below the old bound are not the new id
      have : (newId == tid) = false := by simp only [beq_eq_false_iff_ne]; omega
      simp [tokenInfo, this]
  -- the token ops: an unknown token is reported (direct) or ignored (cluster), without a write either way
  case updateToken id perms =>
    obtain ⟨_, h⟩ := of_guard h
    obtain ⟨_, h⟩ := of_guard h (by cases mode <;> rfl)
    cases h
    exact ⟨⟨tokLt_update hT (g := fun t => { t with perms := perms }) (fun _ => rfl) id, hT.memTeam⟩, Nat.le_refl _,
      fun tid _ hne => ⟨tokenInfo_update_ne (fun t => { t with perms := perms }) (fun _ => rfl) hne, rfl⟩⟩
  case revokeToken id =>
    obtain ⟨_, h⟩ := of_guard h (by cases mode <;> rfl)
    cases h
    exact ⟨⟨tokLt_update hT (g := fun t => { t with enabled := false }) (fun _ => rfl) id, hT.memTeam⟩, Nat.le_refl _,
      tokenInfo_revoked tb id,
      fun tid _ hne => ⟨tokenInfo_update_ne (fun t => { t with enabled := false }) (fun _ => rfl) hne, rfl⟩⟩
  case deleteToken id =>
    obtain ⟨_, h⟩ := of_guard h (by cases mode <;> rfl)
    cases h
    show TInv _ ∧ EffectOK .tokenGone id tb _
    refine ⟨⟨fun t ht => hT.tokLt t (List.mem_filter.1 ht).1, fun m hm => hT.memTeam m (List.mem_filter.1 hm).1⟩,
      Nat.le_refl _, ?_, fun tid _ hne => ⟨?_, ?_⟩⟩
    · unfold tokenInfo
      rw [find_filter_none]
      intro a ha; simpa using ha
    · unfold tokenInfo
      rw [find_filter_of_imp]
      intro a ha; simp only [beq_iff_eq] at ha; simp only [Bool.not_eq_true', beq_eq_false_iff_ne]; omega
    · refine loadData_of_memberTeams (memberTeams_congr rfl fun t => ?_) rfl rfl
      apply any_filter_of_imp
      intro m hq
      simp only [Bool.and_eq_true, beq_iff_eq] at hq
      simp only [Bool.not_eq_true', beq_eq_false_iff_ne]; omega
  case rotateToken id =>
    obtain ⟨_, h⟩ := of_guard h (by cases mode <;> rfl)
    cases h
    exact neutral_of_frame hT rfl rfl rfl rfl rfl rfl

end Arc.C20
