import Arc.Proofs.C20.Effects
/-! C20: permission checks (single and batched, hit and miss) return the policy's decision and
preserve the invariant; every step of the system preserves it, given the per-mutation obligation. -/
namespace Arc.C20

theorem policy_live {tb : Tables} {k : Key} {perms : List Str} (h : tokenInfo tb k.tid = some perms) :
    policy tb k = evalData perms (loadData tb k.tid) k := by
  unfold policy; rw [h]

theorem policy_dead {tb : Tables} {k : Key} (h : tokenInfo tb k.tid = none) :
    policy tb k = ⟨false, .unauth⟩ := by
  unfold policy; rw [h]

theorem permLookup_sound {s : State} (hI : SInv s) {k : Key} {perms : List Str} {d : Dec}
    (hp : tokenInfo s.tb k.tid = some perms) (h : permLookup s k = some d) : d = policy s.tb k := by
  unfold permLookup at h
  cases hl : s.permCache.lookup k with
  | none => rw [hl] at h; cases h
  | some v =>
    obtain ⟨d', e⟩ := v
    rw [hl] at h
    obtain ⟨_, hd⟩ | ⟨_, hd⟩ := ite_cases h
    · cases hd; rw [policy_live hp]; exact (hI.2.1 _ (lookup_mem hl)).2 perms hp
    · cases hd

theorem evictPerm_sub (s : State) : Sub (evictPerm s) s := by
  unfold evictPerm
  split
  · exact sub_refl s
  · split
    · exact ⟨rfl, rfl, fun e he => (List.mem_filter.1 he).1, fun _ h => h⟩
    · exact ⟨rfl, rfl, fun _ h => h, fun _ h => h⟩

theorem evictTok_sub (s : State) : Sub (evictTok s) s := by
  unfold evictTok
  split
  · exact sub_refl s
  · split
    · exact ⟨rfl, rfl, fun _ h => h, fun e he => (List.mem_filter.1 he).1⟩
    · exact ⟨rfl, rfl, fun _ h => h, fun _ h => h⟩

/-- what every part of a check does to the state: the invariant survives, tables and mode stay -/
def Keeps (s s' : State) : Prop := SInv s' ∧ s'.tb = s.tb ∧ s'.mode = s.mode

theorem keeps_refl {s : State} (hI : SInv s) : Keeps s s := ⟨hI, rfl, rfl⟩

theorem keeps_trans {s₁ s₂ s₃ : State} (h : Keeps s₁ s₂) (h' : Keeps s₂ s₃) : Keeps s₁ s₃ :=
  ⟨h'.1, h'.2.1.trans h.2.1, h'.2.2.trans h.2.2⟩

/-- loading stores what the loader computes from the current tables -/
theorem loadTok_keeps {s : State} (hI : SInv s) {tid : Nat} {perms : List Str}
    (hp : tokenInfo s.tb tid = some perms) : Keeps s (loadTok s tid).1 := by
  have hsub := evictTok_sub s
  refine ⟨?_, hsub.tb, hsub.mode⟩
  unfold loadTok SInv
  simp only
  rw [hsub.tb]
  refine ⟨hI.1, fun e he => hI.2.1 e (hsub.perm e he), fun e he => ?_⟩
  cases he with
  | head => exact ⟨tokenInfo_some_lt hI.1 hp, fun _ _ => rfl⟩
  | tail _ he => exact hI.2.2 e (hsub.tok e (List.mem_filter.1 he).1)

theorem getData_spec {s : State} (hI : SInv s) {tid : Nat} {perms : List Str}
    (hp : tokenInfo s.tb tid = some perms) :
    (getData s tid).2 = loadData s.tb tid ∧ Keeps s (getData s tid).1 := by
  unfold getData
  cases hl : s.tokCache.lookup tid with
  | none => exact ⟨rfl, loadTok_keeps hI hp⟩
  | some v =>
    obtain ⟨d, at_⟩ := v
    simp only
    split
    · exact ⟨(hI.2.2 _ (lookup_mem hl)).2 perms hp, keeps_refl hI⟩
    · exact ⟨rfl, loadTok_keeps hI hp⟩

/-- storing the decision just computed from the current tables -/
theorem storePerm_keeps {s : State} (hI : SInv s) {k : Key} {perms : List Str}
    (hp : tokenInfo s.tb k.tid = some perms) :
    Keeps s (storePerm s k (evalData perms (loadData s.tb k.tid) k)) := by
  have hsub := evictPerm_sub s
  refine ⟨?_, hsub.tb, hsub.mode⟩
  unfold storePerm SInv
  simp only
  rw [hsub.tb]
  refine ⟨hI.1, fun e he => ?_, fun e he => hI.2.2 e (hsub.tok e he)⟩
  cases he with
  | head =>
    refine ⟨tokenInfo_some_lt hI.1 hp, fun perms' hp' => ?_⟩
    cases hp.symm.trans hp'; rfl
  | tail _ he => exact hI.2.1 e (hsub.perm e (List.mem_filter.1 he).1)

/-- a miss: evaluate on the loaded data and store the decision -/
theorem miss_spec {s s₁ : State} {k : Key} {perms : List Str} {d : TokData}
    (hp : tokenInfo s.tb k.tid = some perms) (hd : d = loadData s.tb k.tid) (h₁ : Keeps s s₁) :
    evalData perms d k = policy s.tb k ∧ Keeps s (storePerm s₁ k (evalData perms d k)) := by
  subst hd
  refine ⟨(policy_live hp).symm, keeps_trans h₁ ?_⟩
  rw [← h₁.2.1]
  exact storePerm_keeps h₁.1 (k := k) (by rw [h₁.2.1]; exact hp)

theorem checkLive_spec {s : State} (hI : SInv s) {k : Key} {perms : List Str}
    (hp : tokenInfo s.tb k.tid = some perms) :
    (checkLive s perms k).2.1 = policy s.tb k ∧ Keeps s (checkLive s perms k).1 := by
  unfold checkLive
  cases hl : permLookup s k with
  | some d => exact ⟨permLookup_sound hI hp hl, keeps_refl hI⟩
  | none =>
    obtain ⟨hd, h₁⟩ := getData_spec hI hp
    exact miss_spec hp hd h₁

/-- **single check** (request path `VerifyToken` → `CheckPermission`), cache hit or miss -/
theorem checkSingle_spec (s : State) (hI : SInv s) (k : Key) :
    (checkSingle s k).2.1 = policy s.tb k ∧ Keeps s (checkSingle s k).1 := by
  unfold checkSingle
  cases hp : tokenInfo s.tb k.tid with
  | none => exact ⟨(policy_dead hp).symm, keeps_refl hI⟩
  | some perms => exact checkLive_spec hI hp

theorem batchLive_spec {s : State} (hI : SInv s) {k : Key} {perms : List Str}
    (hp : tokenInfo s.tb k.tid = some perms) :
    (batchLive s perms k).2.1 = policy s.tb k ∧ Keeps s (batchLive s perms k).1 := by
  obtain ⟨hd, h₁⟩ := getData_spec hI hp
  unfold batchLive
  simp only
  cases hl : permLookup (getData s k.tid).1 k with
  | some d =>
    have := permLookup_sound h₁.1 (by rw [h₁.2.1]; exact hp) hl
    rw [h₁.2.1] at this
    exact ⟨this, h₁⟩
  | none => exact miss_spec hp hd h₁

theorem batchOne_spec (s : State) (hI : SInv s) (k : Key) :
    (batchOne s k).2.1 = policy s.tb k ∧ Keeps s (batchOne s k).1 := by
  unfold batchOne
  cases hp : tokenInfo s.tb k.tid with
  | none => exact ⟨(policy_dead hp).symm, keeps_refl hI⟩
  | some perms => exact batchLive_spec hI hp

theorem checkBatch_spec (ks : List Key) : ∀ (s : State), SInv s →
    (checkBatch s ks).2.map (·.1) = ks.map (policy s.tb) ∧ Keeps s (checkBatch s ks).1 := by
  induction ks with
  | nil => intro s hI; exact ⟨rfl, keeps_refl hI⟩
  | cons k ks ih =>
    intro s hI
    obtain ⟨h1, h2⟩ := batchOne_spec s hI k
    obtain ⟨r1, r2⟩ := ih (batchOne s k).1 h2.1
    simp only [checkBatch, List.map_cons]
    exact ⟨by rw [r1, h1, h2.2.1], keeps_trans h2 r2⟩

theorem init_inv (mode : Mode) (ttl now : Int) (cap : Nat) : SInv (init mode ttl now cap) :=
  ⟨⟨fun _ h => (List.not_mem_nil h).elim, fun _ h => (List.not_mem_nil h).elim⟩,
   fun _ h => (List.not_mem_nil h).elim, fun _ h => (List.not_mem_nil h).elim⟩

/-- the eviction oracle is not part of the invariant -/
theorem withOracle_inv (s : State) (orc : List Victim) (h : SInv s) : SInv (withOracle s orc) := h

/-- a mutation followed by its generated invalidation preserves the invariant when that invalidation
is sufficient for the mutation's class -/
theorem stepMut_inv {s : State} (hI : SInv s) {op : Op} {m : Method} (hm : methodAt s.tb op = some m)
    (hsuf : ∀ r tb', exec s.mode s.tb op = (r, some tb') → sufficient s.mode m = true) :
    SInv (stepMut s op m).1 ∧ (stepMut s op m).1.mode = s.mode := by
  unfold stepMut
  cases he : exec s.mode s.tb op with
  | mk r o =>
    cases o with
    | none => exact ⟨hI, rfl⟩
    | some tb' =>
      obtain ⟨hT', heff⟩ := exec_effect s.mode s.tb tb' op m r hI.1 hm he
      have hs := hsuf r tb' he
      have hs' : needsNone (classOf m) = true ∨ (covers (classOf m) (invOf s.mode m) = true ∧ strong (invOf s.mode m) = true) := by
        unfold sufficient at hs
        simpa [Bool.or_eq_true, Bool.and_eq_true] using hs
      have hp := invalidate_sub (invOf s.mode m) op.tokArg { s with tb := tb' }
      refine ⟨?_, hp.mode⟩
      show SInv (invalidate (invOf s.mode m) op.tokArg { s with tb := tb' })
      unfold SInv
      rw [hp.tb]
      exact ⟨hT', CInv_mutation (invOf s.mode m) { s with tb := tb' } hs' heff hI.2⟩

theorem cleanup_inv {s : State} (hI : SInv s) : SInv (cleanup s) :=
  SInv_of_sub (s := s)
    ⟨rfl, rfl, fun _ he => (List.mem_filter.1 he).1, fun _ he => (List.mem_filter.1 he).1⟩ hI

/-- joining a cluster only sets `fsmTokFrom`, which no decision reads: a neutral write without invalidation -/
theorem toCluster_inv {s : State} (hI : SInv s) :
    SInv { s with mode := .cluster, tb := { s.tb with fsmTokFrom := s.tb.tokBound } } :=
  ⟨⟨hI.1.tokLt, hI.1.memTeam⟩,
    CInv_mutation (c := .neutral) (t := 0) .none s (.inl rfl) ⟨Nat.le_refl _, fun _ _ => ⟨rfl, rfl⟩⟩ hI.2⟩

/-- one step preserves the invariant, provided the op — if it is a mutation — is one whose generated
invalidation is sufficient; the mode follows `nextMode` -/
theorem step_inv (s : State) (hI : SInv s) (op : Op) (hok : opOk s.mode op = true) :
    SInv (step s op).1 ∧ (step s op).1.mode = nextMode s.mode op := by
  have mutCase : ∀ m, methodAt s.tb op = some m → opOk s.mode op = sufficient s.mode m →
      SInv (stepMut s op m).1 ∧ (stepMut s op m).1.mode = s.mode :=
    fun m hma hk => stepMut_inv hI hma fun _ _ _ => hk ▸ hok
  cases op with
  | advance dt => exact ⟨hI, rfl⟩
  | cleanup => exact ⟨cleanup_inv hI, rfl⟩
  | toCluster =>
    show SInv (match s.mode with
        | .cluster => s
        | .direct => { s with mode := .cluster, tb := { s.tb with fsmTokFrom := s.tb.tokBound } }) ∧
      (match s.mode with
        | .cluster => s
        | .direct => { s with mode := .cluster, tb := { s.tb with fsmTokFrom := s.tb.tokBound } }).mode = Mode.cluster
    cases hmode : s.mode with
    | cluster => exact ⟨hI, hmode⟩
    | direct => exact ⟨toCluster_inv hI, rfl⟩
  | check k orc =>
    have := (checkSingle_spec (withOracle s orc) (withOracle_inv s orc hI) k).2
    exact ⟨this.1, this.2.2⟩
  | batch ks orc =>
    have := (checkBatch_spec ks (withOracle s orc) (withOracle_inv s orc hI)).2
    exact ⟨this.1, this.2.2⟩
  | applyCreateOrg name newId =>
    show SInv (match methodAt s.tb (.applyCreateOrg name newId) with
        | none => (s, Out.res .error)
        | some m => stepMut s (.applyCreateOrg name newId) m).1 ∧
      (match methodAt s.tb (.applyCreateOrg name newId) with
        | none => (s, Out.res .error)
        | some m => stepMut s (.applyCreateOrg name newId) m).1.mode = s.mode
    cases hma : methodAt s.tb (.applyCreateOrg name newId) with
    | none => exact ⟨hI, rfl⟩
    | some m =>
      refine stepMut_inv hI hma (fun r tb' he => ?_)
      -- which of the three paths `m` is; all three are required sufficient in cluster mode
      cases hmode : s.mode with
      | direct => rw [hmode] at he; cases he
      | cluster =>
        rw [hmode] at hok
        simp only [opOk, Bool.and_eq_true] at hok
        simp only [methodAt] at hma
        split at hma
        · injection hma with hma; subst hma; exact hok.1.2
        · split at hma
          · injection hma with hma; subst hma; exact hok.2
          · injection hma with hma; subst hma; exact hok.1.1
  -- the 18 API mutations: `step` runs `stepMut` with the method `Op.method?` names
  | _ => exact mutCase _ rfl rfl

theorem run_inv (ops : List Op) : ∀ (s : State), SInv s → okRun s.mode ops = true → SInv (run s ops) := by
  induction ops with
  | nil => intro s hI _; exact hI
  | cons op ops ih =>
    intro s hI hok
    simp only [okRun, Bool.and_eq_true] at hok
    obtain ⟨h1, h2⟩ := step_inv s hI op hok.1
    exact ih _ h1 (by rw [h2]; exact hok.2)

end Arc.C20
