import Arc.Model.C20
import Arc.Base.Lists
/-! C20: the cache invariant (`CInv`, with the table invariant `SInv`). Removing entries never breaks it
(`Sub`); a change of tables keeps the entries of every token whose reads it leaves alone (`CInv_carry`), so a
mutation followed by an invalidation that covers its class keeps it (`CInv_mutation`). -/
namespace Arc.C20

theorem any_filter_of_imp {α : Type} (l : List α) (p q : α → Bool)
    (h : ∀ a, q a = true → p a = true) : (l.filter p).any q = l.any q := by
  rw [List.any_filter]
  refine List.any_congr rfl fun a => ?_
  cases hq : q a
  · exact Bool.and_false _
  · rw [h a hq]; rfl

theorem find_filter_of_imp {α : Type} (l : List α) (p q : α → Bool)
    (h : ∀ a, q a = true → p a = true) : (l.filter p).find? q = l.find? q := by
  rw [List.find?_filter]
  congr 1; funext a
  cases hq : q a
  · simp
  · simp [h a hq]

theorem find_filter_none {α : Type} (l : List α) (p q : α → Bool)
    (h : ∀ a, q a = true → p a = false) : (l.filter p).find? q = none :=
  List.find?_eq_none.2 fun a ha hq => by have := (List.mem_filter.1 ha).2; rw [h a hq] at this; cases this

theorem tokenInfo_congr (tb tb' : Tables) (h : tb'.tokens = tb.tokens) (tid : Nat) :
    tokenInfo tb' tid = tokenInfo tb tid := by
  unfold tokenInfo; rw [h]

theorem loadData_congr (tb tb' : Tables) (h1 : tb'.teams = tb.teams) (h2 : tb'.roles = tb.roles)
    (h3 : tb'.mps = tb.mps) (h4 : tb'.mems = tb.mems) (tid : Nat) :
    loadData tb' tid = loadData tb tid := by
  unfold loadData memberTeams; rw [h1, h2, h3, h4]

/-- table-level invariants: issued token ids stay below the bound; memberships reference teams. -/
structure TInv (tb : Tables) : Prop where
  tokLt : ∀ t ∈ tb.tokens, t.id < tb.tokBound
  memTeam : ∀ m ∈ tb.mems, ∃ t ∈ tb.teams, t.id = m.team

theorem tokenInfo_some_lt {tb : Tables} (hT : TInv tb) {tid : Nat} {perms : List Str}
    (h : tokenInfo tb tid = some perms) : tid < tb.tokBound := by
  unfold tokenInfo at h
  cases hf : tb.tokens.find? (fun t => t.id == tid) with
  | none => rw [hf] at h; simp at h
  | some t =>
    have hid : t.id = tid := by simpa using List.find?_some hf
    rw [← hid]; exact hT.tokLt t (List.mem_of_find?_eq_some hf)

/-- everything a decision for `tid` reads is the same in `tb'` as in `tb` -/
def SameFor (tb tb' : Tables) (tid : Nat) : Prop :=
  tokenInfo tb' tid = tokenInfo tb tid ∧ loadData tb' tid = loadData tb tid

/-- **the cache invariant**: every entry of either cache (expired or not) that belongs to a token
which currently authenticates equals what the policy / the loader computes from the current tables;
and no entry mentions a token id that has not been issued yet. -/
def CInv (tb : Tables) (pc : List (Key × Dec × Int)) (tc : List (Nat × TokData × Int)) : Prop :=
  (∀ e ∈ pc, e.1.tid < tb.tokBound ∧
      ∀ perms, tokenInfo tb e.1.tid = some perms → e.2.1 = evalData perms (loadData tb e.1.tid) e.1) ∧
  (∀ e ∈ tc, e.1 < tb.tokBound ∧
      ∀ perms, tokenInfo tb e.1 = some perms → e.2.1 = loadData tb e.1)

def SInv (s : State) : Prop := TInv s.tb ∧ CInv s.tb s.permCache s.tokCache

/-- what a successful mutation of class `c` about token `t` guarantees -/
def EffectOK (c : Class) (t : Nat) (tb tb' : Tables) : Prop :=
  tb.tokBound ≤ tb'.tokBound ∧
  match c with
  | .neutral => ∀ tid, tid < tb.tokBound → SameFor tb tb' tid
  | .tokenLocal => ∀ tid, tid < tb.tokBound → tid ≠ t → SameFor tb tb' tid
  | .tokenGone => tokenInfo tb' t = none ∧ ∀ tid, tid < tb.tokBound → tid ≠ t → SameFor tb tb' tid
  | .global => True

/-- `s'` has the tables and mode of `s`, and its caches hold only entries of the caches of `s`: what
capacity eviction, the TTL sweep and every invalidation do. Removing entries never breaks the invariant. -/
structure Sub (s' s : State) : Prop where
  tb : s'.tb = s.tb
  mode : s'.mode = s.mode
  perm : ∀ e ∈ s'.permCache, e ∈ s.permCache
  tok : ∀ e ∈ s'.tokCache, e ∈ s.tokCache

theorem sub_refl (s : State) : Sub s s := ⟨rfl, rfl, fun _ h => h, fun _ h => h⟩

theorem sub_trans {s₁ s₂ s₃ : State} (h : Sub s₃ s₂) (h' : Sub s₂ s₁) : Sub s₃ s₁ :=
  ⟨h.tb.trans h'.tb, h.mode.trans h'.mode, fun e he => h'.perm e (h.perm e he), fun e he => h'.tok e (h.tok e he)⟩

theorem SInv_of_sub {s s' : State} (h : Sub s' s) (hI : SInv s) : SInv s' := by
  unfold SInv; rw [h.tb]
  exact ⟨hI.1, fun e he => hI.2.1 e (h.perm e he), fun e he => hI.2.2 e (h.tok e he)⟩

theorem invalidateTokenWith_sub (drops : Bool) (scan : Scan) (t : Nat) (s : State) :
    Sub (invalidateTokenWith drops scan t s) s := by
  have h1 : Sub (if drops then dropTokData t s else s) s := by
    cases drops
    · exact sub_refl s
    · exact ⟨rfl, rfl, fun _ h => h, fun _ h => (List.mem_filter.1 h).1⟩
  have h2 : ∀ s₁, Sub (dropTokPerm t s₁) s₁ := fun _ => ⟨rfl, rfl, fun _ h => (List.mem_filter.1 h).1, fun _ h => h⟩
  unfold invalidateTokenWith
  cases scan
  · exact sub_trans (h2 _) h1
  · simp only; split
    · exact sub_trans (h2 _) h1
    · exact h1
  · exact h1

theorem invalidate_sub (i : Inv) (t : Nat) (s : State) : Sub (invalidate i t s) s := by
  cases i with
  | none => exact sub_refl s
  | token => exact invalidateTokenWith_sub tokDropsData tokPermScan t s
  | all =>
    exact ⟨rfl, rfl, fun _ h => ((List.mem_ite_nil_left (p := allClearsPerm = true)).1 h).2,
      fun _ h => ((List.mem_ite_nil_left (p := allClearsData = true)).1 h).2⟩

/-- a strong `InvalidateTokenCache` leaves no entry of token `t` in either cache -/
theorem invalidate_token_strong (t : Nat) (s : State) (h : strong .token = true) :
    (∀ e ∈ (invalidate .token t s).permCache, e ∈ s.permCache ∧ e.1.tid ≠ t) ∧
    (∀ e ∈ (invalidate .token t s).tokCache, e ∈ s.tokCache ∧ e.1 ≠ t) := by
  simp only [strong, Bool.and_eq_true, beq_iff_eq] at h
  simp only [invalidate, invalidateTokenWith, h.1, h.2, dropTokData, dropTokPerm, if_true]
  exact ⟨fun e he => ⟨(List.mem_filter.1 he).1, bne_iff_ne.1 (List.mem_filter.1 he).2⟩,
    fun e he => ⟨(List.mem_filter.1 he).1, bne_iff_ne.1 (List.mem_filter.1 he).2⟩⟩

theorem invalidate_all_strong (t : Nat) (s : State) (h : strong .all = true) :
    (invalidate .all t s).permCache = [] ∧ (invalidate .all t s).tokCache = [] := by
  simp only [strong, Bool.and_eq_true] at h
  simp [invalidate, invalidateAllWith, h.1, h.2]

/-- Entries survive a change of tables as long as what their token reads does not change: an entry stays
right if its token reads the same in `tb'`, and is not constrained if its token no longer authenticates. -/
theorem CInv_carry {tb tb' : Tables} {pc pc' : List (Key × Dec × Int)} {tc tc' : List (Nat × TokData × Int)}
    (h : CInv tb pc tc) (hb : tb.tokBound ≤ tb'.tokBound) (keep : Nat → Prop)
    (hk : ∀ tid, tid < tb.tokBound → keep tid → SameFor tb tb' tid ∨ tokenInfo tb' tid = none)
    (hp : ∀ e ∈ pc', e ∈ pc ∧ keep e.1.tid) (ht : ∀ e ∈ tc', e ∈ tc ∧ keep e.1) : CInv tb' pc' tc' := by
  have key : ∀ tid, tid < tb.tokBound → keep tid → tid < tb'.tokBound ∧
      ∀ perms, tokenInfo tb' tid = some perms → tokenInfo tb tid = some perms ∧ loadData tb' tid = loadData tb tid := by
    intro tid hlt hkeep
    refine ⟨Nat.lt_of_lt_of_le hlt hb, fun perms hperms => ?_⟩
    rcases hk tid hlt hkeep with hs | hgone
    · exact ⟨hs.1 ▸ hperms, hs.2⟩
    · cases hgone.symm.trans hperms
  refine ⟨fun e he => ?_, fun e he => ?_⟩
  · obtain ⟨hlt, hval⟩ := h.1 e (hp e he).1
    obtain ⟨hlt', hs⟩ := key _ hlt (hp e he).2
    exact ⟨hlt', fun perms hperms => by obtain ⟨h1, h2⟩ := hs perms hperms; rw [h2]; exact hval perms h1⟩
  · obtain ⟨hlt, hval⟩ := h.2 e (ht e he).1
    obtain ⟨hlt', hs⟩ := key _ hlt (ht e he).2
    exact ⟨hlt', fun perms hperms => by obtain ⟨h1, h2⟩ := hs perms hperms; rw [h2]; exact hval perms h1⟩

/-- **The lifting lemma.** If the mutation needs no invalidation, or the invalidation `i` covers its
class (a finite check on the generated table) AND the invalidator really clears both caches
unconditionally (generated structure facts), and the mutation's effect on the tables is within its
class, then the cache invariant survives the mutation followed by that invalidation. -/
theorem CInv_mutation {c : Class} {t : Nat} {tb tb' : Tables} (i : Inv) (s : State)
    (hsuf : needsNone c = true ∨ (covers c i = true ∧ strong i = true))
    (heff : EffectOK c t tb tb') (h : CInv tb s.permCache s.tokCache) :
    CInv tb' (invalidate i t s).permCache (invalidate i t s).tokCache := by
  obtain ⟨hb, heff⟩ := heff
  have hsub := invalidate_sub i t s
  -- when no issued token reads anything else afterwards, it is enough that invalidation only removes entries
  have stays : (∀ tid, tid < tb.tokBound → SameFor tb tb' tid ∨ tokenInfo tb' tid = none) →
      CInv tb' (invalidate i t s).permCache (invalidate i t s).tokCache :=
    fun hk => CInv_carry h hb (fun _ => True) (fun tid hlt _ => hk tid hlt)
      (fun e he => ⟨hsub.perm e he, trivial⟩) (fun e he => ⟨hsub.tok e he, trivial⟩)
  have emptied : strong .all = true → CInv tb' (invalidate .all t s).permCache (invalidate .all t s).tokCache := by
    intro hs
    obtain ⟨hp, ht⟩ := invalidate_all_strong t s hs
    rw [hp, ht]; exact ⟨fun _ he => (List.not_mem_nil he).elim, fun _ he => (List.not_mem_nil he).elim⟩
  cases c with
  | neutral => exact stays fun tid hlt => .inl (heff tid hlt)
  | tokenGone =>
    exact stays fun tid hlt => if e : tid = t then .inr (e ▸ heff.1) else .inl (heff.2 tid hlt e)
  | tokenLocal =>
    obtain ⟨hcov, hstrong⟩ := hsuf.resolve_left nofun
    cases i with
    | none => cases hcov
    | all => exact emptied hstrong
    | token =>
      -- the entries of `t`, the only token whose reads change, are gone
      obtain ⟨hp, ht⟩ := invalidate_token_strong t s hstrong
      exact CInv_carry h hb (· ≠ t) (fun tid hlt hne => .inl (heff tid hlt hne)) hp ht
  | global =>
    obtain ⟨hcov, hstrong⟩ := hsuf.resolve_left nofun
    cases i with
    | all => exact emptied hstrong
    | none | token => cases hcov

end Arc.C20
