import Arc.Model.C08
/-! Path model: `Clean` as a stack machine over the `/`-separated fields, cleaned absolute paths as
lists of real elements (`CleanAbs`), and why `Rel` answers with a leading `..` as soon as one level
of the base is left. -/
namespace Arc.C08

/-- a path element as `Clean` leaves it: non-empty, not `.`, not `..`, no separator -/
def GoodSeg (s : Bytes) : Prop := s ≠ [] ∧ s ≠ dot ∧ s ≠ dotdot ∧ (47 : UInt8) ∉ s

/-- `base` is an absolute, cleaned path: `/` followed by good elements joined by `/` -/
def CleanAbs (base : Bytes) (bs : List Bytes) : Prop :=
  base = renderAbs bs ∧ ∀ s ∈ bs, GoodSeg s

theorem splitSlash_ne_nil (p : Bytes) : splitSlash p ≠ [] := by
  cases p with
  | nil => simp [splitSlash]
  | cons c r =>
    unfold splitSlash
    split
    · simp
    · split <;> simp

theorem splitSlash_noSlash (p : Bytes) : ∀ s ∈ splitSlash p, (47 : UInt8) ∉ s := by
  induction p with
  | nil => simp [splitSlash]
  | cons c r ih =>
    unfold splitSlash
    split
    · exact List.forall_mem_cons.mpr ⟨List.not_mem_nil, ih⟩
    · rename_i hc
      have hc' : (47 : UInt8) ≠ c := fun e => hc e.symm
      split
      · exact List.forall_mem_singleton.mpr (by simp [hc'])
      · rename_i s0 ss heq
        obtain ⟨h0, hss⟩ := List.forall_mem_cons.mp (heq ▸ ih)
        exact List.forall_mem_cons.mpr ⟨by simp [hc', h0], hss⟩

/-- a separator-free prefix goes onto the first field of what follows -/
theorem splitSlash_append (s t x : Bytes) (xs : List Bytes) (hs : (47 : UInt8) ∉ s)
    (ht : splitSlash t = x :: xs) : splitSlash (s ++ t) = (s ++ x) :: xs := by
  induction s with
  | nil => exact ht
  | cons c s' ih =>
    have hc : c ≠ 47 := fun e => hs (e ▸ List.mem_cons_self)
    simp [splitSlash, hc, ih (fun e => hs (List.mem_cons_of_mem _ e))]

theorem splitSlash_joinSlash (segs : List Bytes) (hne : segs ≠ [])
    (h : ∀ s ∈ segs, (47 : UInt8) ∉ s) : splitSlash (joinSlash segs) = segs := by
  induction segs with
  | nil => exact absurd rfl hne
  | cons s rest ih =>
    have hs := h s List.mem_cons_self
    cases rest with
    | nil => simpa [joinSlash] using splitSlash_append s [] [] [] hs rfl
    | cons t ss =>
      have := splitSlash_append s (47 :: joinSlash (t :: ss)) [] _ hs rfl
      rw [joinSlash, this, List.append_nil, ih (by simp) (fun x hx => h x (List.mem_cons_of_mem _ hx))]

theorem joinSlash_append (a b : List Bytes) (ha : a ≠ []) (hb : b ≠ []) :
    joinSlash (a ++ b) = joinSlash a ++ 47 :: joinSlash b := by
  induction a with
  | nil => exact absurd rfl ha
  | cons x rest ih =>
    cases rest with
    | nil =>
      cases b with
      | nil => exact absurd rfl hb
      | cons y ys => simp [joinSlash]
    | cons z zs =>
      have := ih (by simp)
      simp only [List.cons_append] at this ⊢
      simp [joinSlash, this]

theorem joinSlash_snoc_append (l : List Bytes) (x suf : Bytes) :
    joinSlash (l ++ [x]) ++ suf = joinSlash (l ++ [x ++ suf]) := by
  cases l with
  | nil => rfl
  | cons a l' =>
    rw [joinSlash_append _ [x] (List.cons_ne_nil _ _) (List.cons_ne_nil _ _),
      joinSlash_append _ [x ++ suf] (List.cons_ne_nil _ _) (List.cons_ne_nil _ _), List.append_assoc]
    rfl

theorem pushSeg_skip {r : Bool} {st : List Bytes} {seg : Bytes} (h : seg = [] ∨ seg = dot) :
    pushSeg r st seg = st := by
  rcases h with rfl | rfl <;> rfl

theorem pushSeg_dotdot_cons (r : Bool) (top : Bytes) (rest : List Bytes) :
    pushSeg r (top :: rest) dotdot = if top = dotdot then dotdot :: top :: rest else rest := rfl

theorem pushSeg_push {r : Bool} {st : List Bytes} {s : Bytes} (h1 : s ≠ []) (h2 : s ≠ dot)
    (h3 : s ≠ dotdot) : pushSeg r st s = s :: st := by
  unfold pushSeg
  rw [if_neg h1, if_neg h2, if_neg h3]

theorem foldl_push_good (r : Bool) (segs acc : List Bytes) (h : ∀ s ∈ segs, GoodSeg s) :
    segs.foldl (pushSeg r) acc = segs.reverse ++ acc := by
  induction segs generalizing acc with
  | nil => rfl
  | cons s rest ih =>
    have hs := h s List.mem_cons_self
    rw [List.foldl_cons, pushSeg_push hs.1 hs.2.1 hs.2.2.1,
      ih _ (fun x hx => h x (List.mem_cons_of_mem _ hx)), List.reverse_cons, List.append_assoc]
    rfl

theorem pushSeg_rooted_good (st : List Bytes) (seg : Bytes) (hst : ∀ x ∈ st, GoodSeg x)
    (hseg : (47 : UInt8) ∉ seg) : ∀ x ∈ pushSeg true st seg, GoodSeg x := by
  by_cases h1 : seg = [] ∨ seg = dot
  · rw [pushSeg_skip h1]; exact hst
  by_cases h3 : seg = dotdot
  · subst h3
    cases st with
    | nil => exact nofun
    | cons top rest =>
      -- `top` is a real element, so `..` pops it
      rw [pushSeg_dotdot_cons, if_neg (hst top List.mem_cons_self).2.2.1]
      exact fun x hx => hst x (List.mem_cons_of_mem _ hx)
  · have hg : GoodSeg seg := ⟨fun e => h1 (.inl e), fun e => h1 (.inr e), h3, hseg⟩
    rw [pushSeg_push hg.1 hg.2.1 h3]
    exact List.forall_mem_cons.mpr ⟨hg, hst⟩

theorem cleanStack_rooted_good (p : Bytes) : ∀ x ∈ cleanStack true (splitSlash p), GoodSeg x :=
  fun x hx => List.foldlRecOn (motive := fun st => ∀ x ∈ st, GoodSeg x) (splitSlash p) (pushSeg true)
    (List.forall_mem_nil _)
    (fun st hst seg hseg => pushSeg_rooted_good st seg hst (splitSlash_noSlash p seg hseg))
    x (List.mem_reverse.mp hx)

theorem isRooted_renderAbs (st : List Bytes) : isRooted (renderAbs st) = true := rfl

/-- a rendered path splits into an empty field (before the leading `/`) and its elements; the
root `/` alone gives two empty fields -/
theorem splitSlash_renderAbs {st : List Bytes} (h : ∀ s ∈ st, GoodSeg s) :
    splitSlash (renderAbs st) = [] :: if st = [] then [[]] else st := by
  have h0 : splitSlash (renderAbs st) = [] :: splitSlash (joinSlash st) := rfl
  rw [h0]
  split
  · subst st; rfl
  · rw [splitSlash_joinSlash st ‹_› (fun s hs => (h s hs).2.2.2)]

theorem cleanStack_renderAbs {st : List Bytes} (h : ∀ s ∈ st, GoodSeg s) :
    cleanStack true (splitSlash (renderAbs st)) = st := by
  unfold cleanStack
  rw [splitSlash_renderAbs h, List.foldl_cons, pushSeg_skip (.inl rfl)]
  split
  · subst st; rfl
  · rw [foldl_push_good true st [] h, List.append_nil, List.reverse_reverse]

theorem clean_renderAbs {st : List Bytes} (h : ∀ s ∈ st, GoodSeg s) :
    clean (renderAbs st) = renderAbs st := by
  have hne : renderAbs st ≠ [] := by simp [renderAbs]
  unfold clean
  simp only [hne, if_false, isRooted_renderAbs, if_true]
  rw [cleanStack_renderAbs h]

theorem clean_rooted (p : Bytes) (h : isRooted p = true) :
    clean p = renderAbs (cleanStack true (splitSlash p)) := by
  have hne : p ≠ [] := by intro e; subst e; simp [isRooted] at h
  unfold clean
  simp [hne, h]

theorem segsOf_renderAbs {st : List Bytes} (h : ∀ s ∈ st, GoodSeg s) :
    segsOf (renderAbs st) = st := by
  unfold segsOf
  rw [splitSlash_renderAbs h, List.filter_cons_of_neg (by decide)]
  split
  · subst st; rfl
  · exact List.filter_eq_self.mpr fun s hs => bne_iff_ne.mpr (h s hs).1

theorem renderAbs_inj {as bs : List Bytes} (ha : ∀ s ∈ as, GoodSeg s) (hb : ∀ s ∈ bs, GoodSeg s)
    (h : renderAbs as = renderAbs bs) : as = bs := by
  rw [← segsOf_renderAbs ha, ← segsOf_renderAbs hb, h]

theorem stripCommon_spec (bs ts : List Bytes) :
    ∃ common, bs = common ++ (stripCommon bs ts).1 ∧ ts = common ++ (stripCommon bs ts).2 := by
  induction bs generalizing ts with
  | nil => exact ⟨[], by simp [stripCommon]⟩
  | cons b bs' ih =>
    cases ts with
    | nil => exact ⟨[], by simp [stripCommon]⟩
    | cons t ts' =>
      unfold stripCommon
      by_cases hbt : b = t
      · subst hbt
        obtain ⟨c, h1, h2⟩ := ih ts'
        rw [if_pos rfl]
        exact ⟨b :: c, congrArg (b :: ·) h1, congrArg (b :: ·) h2⟩
      · rw [if_neg hbt]; exact ⟨[], rfl, rfl⟩

theorem joinSlash_dotdot_cons (tl : List Bytes) : ∃ rest, joinSlash (dotdot :: tl) = 46 :: 46 :: rest := by
  cases tl with
  | nil => exact ⟨[], rfl⟩
  | cons t ss => exact ⟨47 :: joinSlash (t :: ss), rfl⟩

/-- an unrooted stack whose bottom element is `..` keeps it: nothing pops a `..` -/
theorem pushSeg_keeps_bottom (st : List Bytes) (seg : Bytes) (h : ∃ init, st = init ++ [dotdot]) :
    ∃ init, pushSeg false st seg = init ++ [dotdot] := by
  obtain ⟨init, rfl⟩ := h
  by_cases h1 : seg = [] ∨ seg = dot
  · exact ⟨init, pushSeg_skip h1⟩
  by_cases h3 : seg = dotdot
  · subst h3
    cases init with
    | nil => exact ⟨[dotdot], rfl⟩
    | cons a init' =>
      rw [List.cons_append, pushSeg_dotdot_cons]
      by_cases ha : a = dotdot
      · exact ⟨dotdot :: a :: init', by rw [if_pos ha]; rfl⟩
      · exact ⟨init', if_neg ha⟩
  · exact ⟨seg :: init, pushSeg_push (fun e => h1 (.inl e)) (fun e => h1 (.inr e)) h3⟩

/-- going up at least one level makes `Rel`'s answer start with `..` -/
theorem clean_up_has_dotdot_prefix (L : List Bytes) (h : ∀ s ∈ L, (47 : UInt8) ∉ s) :
    hasDotDotPrefix (clean (joinSlash (dotdot :: L))) = true := by
  obtain ⟨rest, hj⟩ := joinSlash_dotdot_cons L
  obtain ⟨init, hinit⟩ : ∃ init, (dotdot :: L).foldl (pushSeg false) [] = init ++ [dotdot] :=
    List.foldlRecOn (motive := fun st => ∃ init, st = init ++ [dotdot]) L (pushSeg false) ⟨[], rfl⟩
      (fun st h seg _ => pushSeg_keeps_bottom st seg h)
  have hstack : cleanStack false (splitSlash (joinSlash (dotdot :: L))) = dotdot :: init.reverse := by
    rw [cleanStack, splitSlash_joinSlash _ (List.cons_ne_nil _ _) (List.forall_mem_cons.mpr ⟨by decide, h⟩),
      hinit, List.reverse_append]
    rfl
  obtain ⟨rest', hj'⟩ := joinSlash_dotdot_cons init.reverse
  unfold clean
  rw [hstack, hj', hj, if_neg (List.cons_ne_nil _ _),
    if_neg (show ¬isRooted (46 :: 46 :: rest) = true from Bool.false_ne_true), if_neg (List.cons_ne_nil _ _)]
  rfl

end Arc.C08
