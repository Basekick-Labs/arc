import Arc.Model.C08
/-! File-system model: what an op sequence leaves at a path it never names, what the `write(2)`
pieces add up to, and the crash prefixes of a sequence whose only op on the final path is one
`rename`. -/
namespace Arc.C08

theorem step_untouched {fs fs' : FS} {o : Op} {f : Bytes} (h : o.touches f = false)
    (hs : step fs o = some fs') : fs' f = fs f := by
  have ne {p : Bytes} (hp : decide (p = f) = false) : f ≠ p := fun e => of_decide_eq_false hp e.symm
  cases o with
  | mkdirAll p | sync p | close p => exact Option.some.inj hs ▸ rfl
  | openTrunc p | remove p => exact Option.some.inj hs ▸ if_neg (ne h)
  | openAppend p =>
    simp only [step] at hs
    split at hs
    · exact Option.some.inj hs ▸ rfl
    · cases hs
  | createExcl p =>
    simp only [step] at hs
    split at hs
    · cases hs
    · exact Option.some.inj hs ▸ if_neg (ne h)
  | write p ch =>
    simp only [step] at hs
    split at hs
    · exact Option.some.inj hs ▸ if_neg (ne h)
    · cases hs
  | rename s d =>
    have h' := Bool.or_eq_false_iff.mp h
    simp only [step] at hs
    split at hs
    · exact Option.some.inj hs ▸ (if_neg (ne h'.2)).trans (if_neg (ne h'.1))
    · cases hs

theorem run_untouched {ops : List Op} {fs : FS} {f : Bytes}
    (h : ∀ o ∈ ops, o.touches f = false) : run fs ops f = fs f := by
  induction ops generalizing fs with
  | nil => rfl
  | cons o os ih =>
    unfold run
    cases hs : step fs o with
    | none => rfl
    | some fs' =>
      exact (ih (fun o' ho' => h o' (List.mem_cons_of_mem _ ho'))).trans
        (step_untouched (h o List.mem_cons_self) hs)

/-- ops behind a prefix `a` that leave `f` alone do not show at `f`, whether or not `a` runs through -/
theorem run_append_untouched {a b : List Op} {fs : FS} {f : Bytes}
    (h : ∀ o ∈ b, o.touches f = false) : run fs (a ++ b) f = run fs a f := by
  induction a generalizing fs with
  | nil => exact run_untouched h
  | cons o os ih =>
    simp only [List.cons_append, run]
    cases step fs o with
    | none => rfl
    | some fs' => exact ih

theorem run_cons_of_step {fs fs' : FS} {o : Op} (h : step fs o = some fs') (os : List Op) :
    run fs (o :: os) = run fs' os := by
  simp only [run, h]

theorem FS.set_set (fs : FS) (p a b : Bytes) : (fs.set p a).set p b = fs.set p b := by
  funext q
  by_cases h : q = p <;> simp [FS.set, h]

/-- the successive `write(2)` calls append the chunks to the file they are issued on -/
theorem run_writes (t : Bytes) (chunks : List Bytes) (rest : List Op) (fs : FS) (c : Bytes)
    (h : fs t = some c) :
    run fs (chunks.map (fun ch => Op.write t ch) ++ rest) = run (fs.set t (c ++ chunks.flatten)) rest := by
  induction chunks generalizing fs c with
  | nil =>
    have : fs.set t (c ++ [].flatten) = fs := by
      funext q
      by_cases hq : q = t <;> simp [FS.set, hq, h]
    rw [this]; rfl
  | cons ch chs ih =>
    simp only [List.map_cons, List.cons_append, run, step, h]
    rw [ih _ (c ++ ch) (if_pos rfl), FS.set_set, List.flatten_cons, List.append_assoc]

theorem spares_pair {f : Bytes} {a b : Op} (ha : a.touches f = false) (hb : b.touches f = false) :
    ∀ o ∈ [a, b], o.touches f = false :=
  List.forall_mem_cons.mpr ⟨ha, List.forall_mem_singleton.mpr hb⟩

/-- the staging part of a write procedure leaves the final path alone: writes and `close` go to the
staging name `t` -/
theorem staging_spares {t f : Bytes} (htf : t ≠ f) {pre : List Op} {chunks : List Bytes}
    (hpre : ∀ o ∈ pre, o.touches f = false) :
    ∀ o ∈ pre ++ chunks.map (fun ch => Op.write t ch) ++ [Op.close t], o.touches f = false :=
  List.forall_mem_append.mpr ⟨List.forall_mem_append.mpr
    ⟨hpre, List.forall_mem_map.mpr fun _ _ => decide_eq_false htf⟩, List.forall_mem_singleton.mpr rfl⟩

/-- `k` is not bounded: a prefix longer than the sequence is the whole of it -/
theorem mem_crashStates {fs0 : FS} {ops : List Op} {st : FS} :
    st ∈ crashStates fs0 ops ↔ ∃ k, st = run fs0 (ops.take k) := by
  refine ⟨fun h => ?_, fun ⟨k, hk⟩ => ?_⟩
  · obtain ⟨k, _, rfl⟩ := List.mem_map.mp h
    exact ⟨k, rfl⟩
  · refine List.mem_map.mpr ⟨min k ops.length, List.mem_range.mpr (by omega), ?_⟩
    rw [hk, ← List.take_eq_take_min]

/-- prefixing an op sequence with an `mkdirAll` adds no new crash state -/
theorem crashStates_mkdir_cons {fs0 : FS} {d : Bytes} {ops : List Op} {st : FS}
    (h : st ∈ crashStates fs0 (Op.mkdirAll d :: ops)) : st ∈ crashStates fs0 ops := by
  obtain ⟨k, rfl⟩ := mem_crashStates.mp h
  cases k with
  | zero => exact mem_crashStates.mpr ⟨0, rfl⟩
  | succ k => exact mem_crashStates.mpr ⟨k, rfl⟩

/-- The staging lemma: if `last` is the only op of the sequence that names the final path `f`, then
in every crash prefix `f` is untouched or holds what `last` put there. -/
theorem staged_atomic {fs0 : FS} {A : List Op} {last : Op} {B : List Op} {f : Bytes}
    (hA : ∀ o ∈ A, o.touches f = false) (hB : ∀ o ∈ B, o.touches f = false) :
    ∀ st ∈ crashStates fs0 (A ++ last :: B), st f = fs0 f ∨ st f = run fs0 (A ++ [last]) f := by
  intro st hst
  obtain ⟨k, rfl⟩ := mem_crashStates.mp hst
  by_cases hk : k ≤ A.length
  · left
    rw [List.take_append_of_le_length hk]
    exact run_untouched (fun o ho => hA o (List.mem_of_mem_take ho))
  · right
    obtain ⟨j, rfl⟩ : ∃ j, k = A.length + (j + 1) := ⟨k - A.length - 1, by omega⟩
    rw [List.take_length_add_append, List.take_succ_cons, List.append_cons]
    exact run_append_untouched (fun o ho => hB o (List.mem_of_mem_take ho))

end Arc.C08
