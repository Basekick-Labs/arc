import Arc.Model.C17
/-! C17 part B: Kleene logic and the LIKE optimizer's reorderings. Both move one factor of a conjunction
to its front, and `and3` is commutative and associative. -/
namespace Arc.C17

theorem and3_comm (a b : B3) : and3 a b = and3 b a := by
  rcases a with _ | (_ | _) <;> rcases b with _ | (_ | _) <;> rfl

theorem and3_assoc (a b c : B3) : and3 (and3 a b) c = and3 a (and3 b c) := by
  rcases a with _ | (_ | _) <;> rcases b with _ | (_ | _) <;> rcases c with _ | (_ | _) <;> rfl

theorem and3_left_comm (a b c : B3) : and3 a (and3 b c) = and3 b (and3 a c) := by
  rw [← and3_assoc, and3_comm a b, and3_assoc]

theorem or3_comm (a b : B3) : or3 a b = or3 b a := by
  rcases a with _ | (_ | _) <;> rcases b with _ | (_ | _) <;> rfl

theorem evalConj_cons (v : Atom → B3) (e : Expr) (c : List Expr) :
    evalConj v (e :: c) = and3 (evalE v e) (evalConj v c) := rfl

theorem evalW_cons (v : Atom → B3) (c : List Expr) (w : Where) :
    evalW v (c :: w) = or3 (evalConj v c) (evalW v w) := rfl

theorem evalConj_append_single (v : Atom → B3) (c : List Expr) (e : Expr) :
    evalConj v (c ++ [e]) = and3 (evalE v e) (evalConj v c) := by
  induction c with
  | nil => rfl
  | cons x c ih =>
    rw [List.cons_append, evalConj_cons, ih, evalConj_cons, and3_left_comm]

theorem splitLast_eq {α : Type} {l i : List α} {x : α} (h : splitLast l = some (i, x)) :
    l = i ++ [x] := by
  fun_induction splitLast l generalizing i with
  | case1 => cases h
  | case2 y => cases h; rfl
  | case3 a b l i' l' heq ih => cases h; rw [ih heq]; rfl
  | case4 => cases h

theorem reorder1_length (w : Where) : (reorder1 w).length = w.length := by
  unfold reorder1
  split
  · split <;> rfl
  · rfl

theorem reorder1_eval (v : Atom → B3) (w : Where) : evalW v (reorder1 w) = evalW v w := by
  unfold reorder1
  split
  · split
    · simp only [evalW_cons, evalConj_cons]
      rw [and3_left_comm]
    · rfl
  · rfl

theorem reorder2_eval (v : Atom → B3) (w : Where) : evalW v (reorder2 w) = evalW v w := by
  unfold reorder2
  split
  · rfl
  · rename_i ds cl hw
    have hw' := splitLast_eq hw
    split
    · rfl
    · rename_i c f heq
      have hcl := splitLast_eq heq
      split
      · rename_i hcond
        -- the `OR` guard leaves one conjunction in front of the empty check
        have hds : ds = [] := by
          simp [middleHasOr] at hcond
          exact hcond.1.2.1
        subst hds
        simp only [List.nil_append] at hw' ⊢
        subst hw'
        subst hcl
        simp only [evalW_cons, evalConj_cons, evalConj_append_single]
      · rfl

theorem optimize_eval (endOk : Bool) (v : Atom → B3) (w : Where) :
    evalW v (optimize endOk w) = evalW v w := by
  unfold optimize
  split
  · rfl
  · simp only
    split
    · rw [reorder2_eval, reorder1_eval]
    · exact reorder1_eval v w

end Arc.C17
