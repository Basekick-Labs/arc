import Arc.Model.C17
import Arc.Proofs.C17.Time
/-! C17 part A: the integer-µs floor template of the 3-argument `time_bucket` rewrite.
`((y % W) + W) % W` with DuckDB's truncating `%` is the flooring remainder, `t - (t - O) mod W` is the bucket of
`t`, and an origin reduced modulo the width gives the same buckets. -/
namespace Arc.C17

theorem tmod_cases (a W : Int) (hW : 0 < W) : Int.tmod a W = a % W ∨ Int.tmod a W = a % W - W := by
  rw [Int.tmod_eq_emod]
  split
  · exact Or.inl (Int.sub_zero _)
  · exact Or.inr (by rw [Int.natAbs_of_nonneg (Int.le_of_lt hW)])

theorem tmod_floormod (y W : Int) (hW : 0 < W) : Int.tmod (Int.tmod y W + W) W = y % W := by
  have hr0 : 0 ≤ y % W := Int.emod_nonneg y (Int.ne_of_gt hW)
  have hr1 : y % W < W := Int.emod_lt_of_pos y hW
  have hself : (y % W) % W = y % W := Int.emod_eq_of_lt hr0 hr1
  rcases tmod_cases y W hW with h | h
  · rw [h, Int.tmod_eq_emod_of_nonneg (by omega), Int.add_emod_right, hself]
  · rw [h, Int.sub_add_cancel, Int.tmod_eq_emod_of_nonneg hr0, hself]

theorem timeBucket_origin_tmod (W O t : Int) (hW : 0 < W) :
    timeBucket W (Int.tmod O W) t = timeBucket W O t := by
  rw [Int.tmod_def, Int.sub_eq_add_neg, ← Int.mul_neg, timeBucket_add_mul _ _ _ _ (Int.ne_of_gt hW)]

theorem timeBucket_floormod (W O t : Int) : t - (t - O) % W = timeBucket W O t := by
  unfold timeBucket
  have := Int.mul_ediv_add_emod (t - O) W
  rw [Int.mul_comm] at this
  omega

/-- value of the floor template under the exact semantics: DuckDB's `time_bucket`, for every row. -/
theorem rewrite3_floor (o s t : Int) (hs : 0 < s) :
    rewrite3 semX tmpl3Floor o s t = timeBucket (s * usPerSec) (o * usPerSec) t := by
  have hW : 0 < s * usPerSec := Int.mul_pos hs (by decide)
  simp only [rewrite3, tmpl3Floor, evalR, semX, toTimestampX]
  have hu : (1000000 : Int) = usPerSec := rfl
  rw [hu, tmod_floormod _ _ hW, timeBucket_floormod, timeBucket_origin_tmod _ _ _ hW,
    timeBucket_whole, Int.mul_tdiv_cancel _ (by decide)]

end Arc.C17
