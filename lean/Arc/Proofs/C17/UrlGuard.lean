import Arc.Model.C17
import Arc.Proofs.C17.Url
/-! C17 part C: the guarded CASE of `buildURLDomainCASEExact` equals the regex call on every byte string
(canonical patterns). The guard of an arm says in string functions what the regex says about the text
behind the prefix; after that both sides are nested `if`s over the same tests. -/
namespace Arc.C17

theorem fromSlash_isEmpty (l : Bytes) : (fromSlash l).isEmpty = !l.contains slash := by
  induction l with
  | nil => rfl
  | cons a tl ih =>
    by_cases h : a = slash
    · subst h; simp [fromSlash, List.dropWhile]
    · have h' : (a != slash) = true := bne_iff_ne.2 h
      have h2 : (slash == a) = false := beq_false_of_ne (Ne.symm h)
      unfold fromSlash at ih ⊢
      simp only [List.dropWhile, h', List.contains_cons, h2, Bool.false_or]
      exact ih

/-- REGEXP_EXTRACT form: "a character that is no '/' follows" = the host `[^/]+` is not empty -/
theorem armOk_false (x s : Bytes) : armOk false x s = !(upToSlash x).isEmpty := by
  cases x with
  | nil => rfl
  | cons a tl =>
    by_cases h : a = slash
    · subst h; simp [armOk, upToSlash]
    · have h' : (a != slash) = true := bne_iff_ne.2 h
      simp [armOk, upToSlash, List.takeWhile, h', h]

/-- REGEXP_REPLACE form, for a part `x` of the text `s`: the guard is `([^/]+)/.*$` matching at `x`,
with "no newline in the whole text" for "no newline behind the '/'". -/
theorem armOk_true (x s : Bytes) (hsub : ∀ b ∈ x, b ∈ s) :
    armOk true x s = (tailOk x && !s.contains nl) := by
  cases x with
  | nil => rfl
  | cons a tl =>
    by_cases h : a = slash
    · subst h; simp [armOk, tailOk, upToSlash]
    · have h' : (a != slash) = true := bne_iff_ne.2 h
      have hA : armOk true (a :: tl) s = (tl.contains slash && !s.contains nl) := by simp [armOk, h]
      have hT : tailOk (a :: tl) = (tl.contains slash && !((fromSlash tl).drop 1).contains nl) := by
        have e : fromSlash (a :: tl) = fromSlash tl := by simp [fromSlash, List.dropWhile, h']
        simp [tailOk, upToSlash, List.takeWhile, h', e, fromSlash_isEmpty]
      rw [hA, hT]
      cases hn : s.contains nl with
      | true => simp
      | false =>
        have : ((fromSlash tl).drop 1).contains nl = false := Bool.eq_false_iff.2 fun hc => by
          have hm : nl ∈ (fromSlash tl).drop 1 := by simpa [-List.drop_one] using hc
          have := hsub nl (List.mem_cons_of_mem _
            ((List.dropWhile_sublist _).subset ((List.drop_sublist _ _).subset hm)))
          simp [this] at hn
        rw [this]; simp

theorem caseGuarded_scheme (ns : Bool) (orig : Bytes → Bytes) {s r : Bytes} (h : stripScheme s = some r) :
    caseGuarded ns orig expectedArms s =
      if (bWww.isPrefixOf r && armOk ns (r.drop 4) s) = true then upToSlash (r.drop 4)
      else if armOk ns r s = true then upToSlash r else orig s := by
  rcases stripScheme_some h with rfl | rfl <;>
    simp [caseGuarded, expectedArms, bHttps, bHttp, bWww, List.isPrefixOf] <;> rfl

theorem caseGuarded_noscheme (ns : Bool) (orig : Bytes → Bytes) {s : Bytes} (h : stripScheme s = none) :
    caseGuarded ns orig expectedArms s = orig s := by
  simp [caseGuarded, expectedArms, isPrefixOf_append, stripScheme_none h]

theorem replace_guarded (s : Bytes) : caseGuarded true regexReplace expectedArms s = regexReplace s := by
  cases hs : stripScheme s with
  | none => exact caseGuarded_noscheme _ _ hs
  | some r =>
    have hmem : ∀ b ∈ r, b ∈ s := by rcases stripScheme_some hs with rfl | rfl <;> simp +contextual
    rw [caseGuarded_scheme _ _ hs, armOk_true _ s hmem,
      armOk_true _ s fun b hb => hmem b ((List.drop_sublist _ _).subset hb)]
    simp only [regexReplace, hs]
    cases bWww.isPrefixOf r <;> cases tailOk (r.drop 4) <;> cases tailOk r <;> cases s.contains nl <;> rfl

theorem extract_guarded (s : Bytes) : caseGuarded false regexExtract expectedArms s = regexExtract s := by
  cases hs : stripScheme s with
  | none => exact caseGuarded_noscheme _ _ hs
  | some r =>
    rw [caseGuarded_scheme _ _ hs, armOk_false, armOk_false]
    simp only [regexExtract, hs]
    cases bWww.isPrefixOf r <;> cases (upToSlash (r.drop 4)).isEmpty <;> cases (upToSlash r).isEmpty <;> rfl

end Arc.C17
