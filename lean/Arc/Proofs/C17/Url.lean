import Arc.Model.C17
/-! C17 part C: URL-domain regex vs the unguarded CASE on byte strings. A text with a scheme is the scheme
followed by the remainder, so every prefix test of the CASE arms can be computed; `ExtractOk` / `ReplaceOk`
say where the two sides then agree. -/
namespace Arc.C17

theorem isPrefixOf_append (p q s : Bytes) :
    (p ++ q).isPrefixOf s = (p.isPrefixOf s && q.isPrefixOf (s.drop p.length)) := by
  induction p generalizing s with
  | nil => simp
  | cons a p ih =>
    cases s with
    | nil => simp
    | cons b s =>
      simp only [List.cons_append, List.length_cons, List.drop_succ_cons, List.isPrefixOf, ih, Bool.and_assoc]

theorem stripScheme_some {s r : Bytes} (h : stripScheme s = some r) : s = bHttps ++ r ∨ s = bHttp ++ r := by
  unfold stripScheme at h
  by_cases h1 : bHttps.isPrefixOf s = true
  · rw [if_pos h1] at h; cases h
    exact Or.inl (List.prefix_iff_eq_append.1 (List.isPrefixOf_iff_prefix.1 h1)).symm
  rw [if_neg h1] at h
  by_cases h2 : bHttp.isPrefixOf s = true
  · rw [if_pos h2] at h; cases h
    exact Or.inr (List.prefix_iff_eq_append.1 (List.isPrefixOf_iff_prefix.1 h2)).symm
  · rw [if_neg h2] at h; cases h

theorem stripScheme_none {s : Bytes} (h : stripScheme s = none) :
    bHttps.isPrefixOf s = false ∧ bHttp.isPrefixOf s = false := by
  unfold stripScheme at h
  by_cases h1 : bHttps.isPrefixOf s = true
  · rw [if_pos h1] at h; cases h
  rw [if_neg h1] at h
  by_cases h2 : bHttp.isPrefixOf s = true
  · rw [if_pos h2] at h; cases h
  · exact ⟨Bool.eq_false_iff.2 h1, Bool.eq_false_iff.2 h2⟩

/-- the `www.`-stripped remainder used by the CASE arms. -/
def host (r : Bytes) : Bytes := if bWww.isPrefixOf r then r.drop 4 else r

theorem caseExpr_scheme {s r : Bytes} (h : stripScheme s = some r) : caseExpr s = upToSlash (host r) := by
  rw [host, apply_ite upToSlash]
  rcases stripScheme_some h with rfl | rfl <;> simp [caseExpr, bHttps, bHttp, bWww, List.isPrefixOf]

theorem caseExpr_noscheme {s : Bytes} (h : stripScheme s = none) : caseExpr s = upToSlash s := by
  simp [caseExpr, isPrefixOf_append, stripScheme_none h]

theorem upToSlash_www {r : Bytes} (h : bWww.isPrefixOf r = true) :
    upToSlash r = bWww ++ upToSlash (r.drop 4) := by
  have : bWww ++ r.drop 4 = r := List.prefix_iff_eq_append.1 (List.isPrefixOf_iff_prefix.1 h)
  generalize r.drop 4 = t at *
  subst this
  simp [upToSlash, bWww, slash, List.takeWhile]

theorem upToSlash_www_ne {r : Bytes} (h : bWww.isPrefixOf r = true) :
    upToSlash (r.drop 4) ≠ upToSlash r := by
  intro he
  have := congrArg List.length (upToSlash_www h)
  rw [← he] at this
  simp [bWww] at this
  omega

theorem upToSlash_www_ne_nil {r : Bytes} (h : bWww.isPrefixOf r = true) : upToSlash r ≠ [] := by
  rw [upToSlash_www h]; simp [bWww]

/-- exact agreement condition for `REGEXP_EXTRACT(s, '^https?://(?:www\.)?([^/]+)', 1)`. -/
def ExtractOk (s : Bytes) : Prop :=
  match stripScheme s with
  | none => upToSlash s = []
  | some r => ¬ (bWww.isPrefixOf r = true ∧ upToSlash (r.drop 4) = [])

/-- exact agreement condition for `REGEXP_REPLACE(s, '^https?://(?:www\.)?([^/]+)/.*$', '\1')`. -/
def ReplaceOk (s : Bytes) : Prop :=
  match stripScheme s with
  | none => upToSlash s = s
  | some r => tailOk (host r) = true

instance (s : Bytes) : Decidable (ExtractOk s) := by
  unfold ExtractOk; cases stripScheme s <;> exact inferInstance
instance (s : Bytes) : Decidable (ReplaceOk s) := by
  unfold ReplaceOk; cases stripScheme s <;> exact inferInstance

theorem extract_exact (s : Bytes) : caseExpr s = regexExtract s ↔ ExtractOk s := by
  unfold ExtractOk regexExtract
  cases hs : stripScheme s with
  | none => simp only [caseExpr_noscheme hs]
  | some r =>
    simp only [caseExpr_scheme hs, host]
    by_cases hw : bWww.isPrefixOf r = true
    · have := upToSlash_www_ne_nil hw
      by_cases hd : upToSlash (r.drop 4) = [] <;> simp [hw, hd, Ne.symm this]
    · simp [hw]

/-- the CASE value is shorter than a text with a scheme -/
theorem case_ne_self {s r : Bytes} (hs : stripScheme s = some r) : upToSlash (host r) ≠ s := by
  intro he
  have h2 : (upToSlash (host r)).length ≤ (host r).length := (List.takeWhile_prefix _).length_le
  have h3 : (host r).length ≤ r.length := by
    unfold host; split
    · simp
    · exact Nat.le_refl _
  rw [he] at h2
  rcases stripScheme_some hs with rfl | rfl <;> simp [bHttps, bHttp] at h2 <;> omega

theorem replace_exact (s : Bytes) : caseExpr s = regexReplace s ↔ ReplaceOk s := by
  unfold ReplaceOk regexReplace
  cases hs : stripScheme s with
  | none => simp only [caseExpr_noscheme hs]
  | some r =>
    have hne := case_ne_self hs
    simp only [caseExpr_scheme hs]
    unfold host at hne ⊢
    by_cases hw : bWww.isPrefixOf r = true
    · have h1 := upToSlash_www_ne hw
      simp only [hw, if_true] at hne ⊢
      by_cases h4 : tailOk (r.drop 4) = true <;> by_cases ht : tailOk r = true <;> simp [h4, ht, hne, h1]
    · simp only [hw, Bool.false_eq_true, if_false] at hne ⊢
      by_cases ht : tailOk r = true <;> simp [ht, hne]

theorem caseArms_expected (s : Bytes) : caseArms expectedArms s = caseExpr s := by
  simp [caseArms, expectedArms, caseExpr]

end Arc.C17
