import Arc.Model.C17
/-! C17 part A: integer arithmetic of the epoch rewrites. Every `*_exact` statement about the epoch
templates reduces to `tdiv_floor_iff`: the rewrite truncates the rounded second count where DuckDB floors
the exact one. -/
namespace Arc.C17

/-- when truncating division of the (possibly rounded-up) second count equals flooring division of
the exact second count. -/
def Exact (n up s : Int) : Prop :=
  (0 ≤ n + up ∧ (up = 0 ∨ (n + up) % s ≠ 0)) ∨ (n + up < 0 ∧ up = 0 ∧ n % s = 0)

instance (n up s : Int) : Decidable (Exact n up s) := by unfold Exact; exact inferInstance

/-- truncating division by a positive number is flooring division, plus one below zero off the
multiples -/
theorem tdiv_pos (m s : Int) (hs : 0 < s) :
    Int.tdiv m s = m / s + if 0 ≤ m ∨ m % s = 0 then 0 else 1 := by
  simp only [Int.tdiv_eq_ediv, Int.sign_eq_one_of_pos hs, Int.dvd_iff_emod_eq_zero]

theorem succ_ediv (n s : Int) (hs : 0 < s) : (n + 1) / s = n / s + if (n + 1) % s = 0 then 1 else 0 := by
  have hd := Int.mul_ediv_add_emod n s
  have hr0 := Int.emod_nonneg n (Int.ne_of_gt hs)
  have hr1 := Int.emod_lt_of_pos n hs
  by_cases hlast : n % s + 1 < s
  · obtain ⟨h1, h2⟩ := (Int.ediv_emod_unique (a := n + 1) hs).2
      ⟨show n % s + 1 + s * (n / s) = n + 1 by omega, by omega, hlast⟩
    rw [h1, h2, if_neg (by omega)]; omega
  · obtain ⟨h1, h2⟩ := (Int.ediv_emod_unique (a := n + 1) hs).2
      ⟨show 0 + s * (n / s + 1) = n + 1 by rw [Int.mul_add, Int.mul_one]; omega, Int.le_refl 0, hs⟩
    rw [h1, h2, if_pos rfl]

theorem tdiv_floor_iff (n up s : Int) (hs : 0 < s) (hup : up = 0 ∨ up = 1) :
    Int.tdiv (n + up) s = n / s ↔ Exact n up s := by
  unfold Exact
  rw [tdiv_pos _ _ hs]
  rcases hup with rfl | rfl
  · rw [Int.add_zero]; omega
  · rw [succ_ediv n s hs]; omega

/-- `up` of a timestamp as an integer. -/
def upOf (t : Int) : Int := if roundsUp t then 1 else 0

theorem upOf_cases (t : Int) : upOf t = 0 ∨ upOf t = 1 := by
  unfold upOf; split <;> simp

theorem epochBigintX_eq (t : Int) : epochBigintX t = secOf t + upOf t := rfl

theorem upOf_zero_of_frac_lt (t : Int) (h : fracOf t < 500000) : upOf t = 0 := by
  have h1 : ¬ (fracOf t > 500000) := by omega
  have h2 : ¬ (fracOf t = 500000) := by omega
  rw [upOf, roundsUp, decide_eq_false h1, decide_eq_false h2]; rfl

/-- from the epoch on and below the half second nothing is rounded and nothing is negative -/
theorem exact_of_nonneg {t : Int} (s : Int) (hge : 0 ≤ t) (hfrac : fracOf t < 500000) :
    Exact (secOf t) (upOf t) s := by
  rw [upOf_zero_of_frac_lt t hfrac]
  exact Or.inl ⟨Int.add_nonneg (Int.ediv_nonneg hge (by decide)) (Int.le_refl 0), Or.inl rfl⟩

/-- flooring by a width of `s` whole seconds only looks at the whole seconds. -/
theorem floor_us (t s : Int) : t / (s * usPerSec) = secOf t / s := by
  unfold secOf
  rw [Int.mul_comm s usPerSec]
  exact Int.ediv_mul_of_nonneg (by unfold usPerSec; omega)

theorem secOf_sub (t o : Int) : secOf (t - o * usPerSec) = secOf t - o := by
  rw [secOf, secOf, Int.sub_eq_add_neg, ← Int.neg_mul, Int.add_mul_ediv_right _ _ (by decide),
    Int.sub_eq_add_neg]

theorem rewrite3_tmpl3 (o s t : Int) :
    rewrite3 semX tmpl3 o s t = (o + Int.tdiv (secOf t - o + upOf t) s * s) * usPerSec := by
  simp only [rewrite3, tmpl3, evalR, semX, toTimestampX, epochBigintX_eq]
  have : secOf t + upOf t - o = secOf t - o + upOf t := by omega
  rw [this]

theorem rewrite2_tmpl2 (s t : Int) :
    rewrite2 semX tmpl2 s t = (Int.tdiv (secOf t + upOf t) s * s) * usPerSec := by
  simp only [rewrite2, tmpl2, evalR, semX, toTimestampX, epochBigintX_eq]

theorem timeBucket_whole (o s t : Int) :
    timeBucket (s * usPerSec) (o * usPerSec) t = (o + (secOf t - o) / s * s) * usPerSec := by
  unfold timeBucket
  rw [floor_us, secOf_sub, Int.add_mul, Int.mul_assoc]

theorem tb3_iff (o s t : Int) (hs : 0 < s) :
    rewrite3 semX tmpl3 o s t = timeBucket (s * usPerSec) (o * usPerSec) t ↔
      Exact (secOf t - o) (upOf t) s := by
  rw [rewrite3_tmpl3, timeBucket_whole, Int.mul_eq_mul_right_iff (by decide), Int.add_right_inj,
    Int.mul_eq_mul_right_iff (Int.ne_of_gt hs)]
  exact tdiv_floor_iff _ _ s hs (upOf_cases t)

/-- the 2-argument and `date_trunc` template is the 3-argument one at origin 0 -/
theorem tb2_iff (s t : Int) (hs : 0 < s) :
    rewrite2 semX tmpl2 s t = t / (s * usPerSec) * (s * usPerSec) ↔ Exact (secOf t) (upOf t) s := by
  have h := tb3_iff 0 s t hs
  have e : rewrite3 semX tmpl3 0 s t = rewrite2 semX tmpl2 s t := by
    simp [rewrite3, rewrite2, tmpl3, tmpl2, evalR]
  rwa [e, Int.zero_mul, Int.sub_zero, timeBucket, Int.sub_zero, Int.zero_add] at h

/-- shifting the origin by a multiple of the width does not change the buckets -/
theorem timeBucket_add_mul (W O k t : Int) (hW : W ≠ 0) :
    timeBucket W (O + W * k) t = timeBucket W O t := by
  unfold timeBucket
  have e : t - (O + W * k) = t - O + W * (-k) := by rw [Int.mul_neg]; omega
  rw [e, Int.add_mul_ediv_left _ _ hW, Int.add_mul, Int.neg_mul, Int.mul_comm k W]; omega

theorem timeBucket_shift (W k t : Int) (hW : W ≠ 0) : timeBucket W (W * k) t = t / W * W := by
  simpa [timeBucket] using timeBucket_add_mul W 0 k t hW

end Arc.C17
