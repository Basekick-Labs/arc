import Arc.Proofs.C15.Round
import Arc.Base.Lists
/-! C15, mask → unmask round trip, part 2: the single pass over the masked text. It copies each clean
stretch byte by byte (no placeholder can start there) and replaces each placeholder by the original
it was issued for (no other mask matches there, and placeholder numbers are never reused). -/
namespace Arc.C15

/-- raw bytes and comments: neither masked nor a boundary of a clean stretch -/
def Seg.plain : Seg → Bool
  | .str _ | .ident _ => false
  | _ => true

theorem render_plain {sg : Seg} (h : sg.plain = true) (n : Nat) (im : List (Bytes × Bytes)) (r : List Seg) :
    render n im (sg :: r) = (sg.bytes ++ (render n im r).1, (render n im r).2) := by
  cases sg <;> first | rfl | cases h

theorem runsClean_plain {sg : Seg} (h : sg.plain = true) (cur : Bytes) (r : List Seg) :
    runsClean cur (sg :: r) = runsClean (cur ++ sg.bytes) r := by
  cases sg <;> first | rfl | cases h

/-- No placeholder starts at a byte of the clean stretch that precedes the rendering of `segs` (`x`: the
part of the stretch already passed, `w`: the rest of it): the stretch goes on through the plain segments and
ends at the text's end or at a placeholder. -/
theorem clean_render (segs : List Seg) : ∀ (n : Nat) (im : List (Bytes × Bytes)) (x w : Bytes),
    (∀ e ∈ im, IsPh e.2) → runsClean (x ++ w) segs = true → w ≠ [] → ∀ p, IsPh p →
    p.isPrefixOf (w ++ (render n im segs).1) = false := by
  induction segs with
  | nil => exact fun n im x w _ h hw p hp =>
      no_ph_in_clean hp (runClean_append_right x w h) hw (Or.inl rfl)
  | cons sg segs ih =>
    intro n im x w him h hw p hp
    have stop : ∀ q rest, IsPh q → runClean (x ++ w) = true → p.isPrefixOf (w ++ (q ++ rest)) = false :=
      fun q rest hq hc => no_ph_in_clean hp (runClean_append_right x w hc) hw (isPh_tailOK hq rest)
    cases sg with
    | str o =>
      simp only [runsClean, Bool.and_eq_true] at h
      exact stop _ _ ⟨n, Or.inl rfl⟩ h.1
    | ident o =>
      simp only [runsClean, Bool.and_eq_true] at h
      simp only [render]
      cases hl : im.lookup o with
      | some q => exact stop _ _ (him _ (lookup_mem hl)) h.1
      | none => exact stop _ _ ⟨n, Or.inr rfl⟩ h.1
    | _ =>
      rw [runsClean_plain rfl, List.append_assoc] at h
      rw [render_plain rfl, ← List.append_assoc]
      exact ih n im x _ him h (by simp [hw]) p hp

theorem findMask_none {Mall : List Mask} {X : Bytes} (hno : ∀ m ∈ Mall, m.ph.isPrefixOf X = false) :
    findMask X Mall = none := by
  induction Mall with
  | nil => rfl
  | cons m Mall ih =>
    simp only [findMask, hno m List.mem_cons_self, Bool.and_false, Bool.false_eq_true, if_false]
    exact ih fun m' hm' => hno m' (List.mem_cons_of_mem _ hm')

theorem unmaskF_copy {Mall : List Mask} {R : Bytes} (P : Bytes) : ∀ (g : Nat),
    (∀ x w, P = x ++ w → w ≠ [] → ∀ m ∈ Mall, m.ph.isPrefixOf (w ++ R) = false) →
    unmaskF Mall (P.length + g) (P ++ R) = P ++ unmaskF Mall g R := by
  induction P with
  | nil => intro g _; simp
  | cons c P ih =>
    intro g h
    have hnone := findMask_none (h [] _ rfl (List.cons_ne_nil _ _))
    rw [List.length_cons, Nat.add_right_comm]
    simp only [List.cons_append, unmaskF] at hnone ⊢
    rw [hnone, ih g fun x w e => h (c :: x) w (by rw [e, List.cons_append])]

theorem findMask_hit {Mall : List Mask} (hsh : ∀ m ∈ Mall, IsPh m.ph) {ph : Bytes} (rest : Bytes)
    (hmem : ∃ m ∈ Mall, m.ph = ph) : ∃ m ∈ Mall, findMask (ph ++ rest) Mall = some m ∧ m.ph = ph := by
  induction Mall with
  | nil => obtain ⟨m, hm, _⟩ := hmem; cases hm
  | cons m0 Mall ih =>
    have h0 := hsh m0 List.mem_cons_self
    cases hp : m0.ph.isPrefixOf (ph ++ rest) with
    | true =>
      have hne : m0.ph.isEmpty = false := by simpa using isPh_ne_nil h0
      obtain ⟨m, hm, rfl⟩ := hmem
      exact ⟨m0, List.mem_cons_self, by simp [findMask, hp, hne], ph_prefix_free _ _ _ h0 (hsh m hm) hp⟩
    | false =>
      obtain ⟨m, hm, hmp⟩ := hmem
      rcases List.mem_cons.1 hm with rfl | hm
      · rw [hmp, List.isPrefixOf_iff_prefix.2 (List.prefix_append _ _)] at hp; cases hp
      · obtain ⟨m', hm', hf, he⟩ := ih (fun m' hm' => hsh m' (List.mem_cons_of_mem _ hm')) ⟨m, hm, hmp⟩
        exact ⟨m', List.mem_cons_of_mem _ hm', by simp [findMask, hp, hf], he⟩

theorem unmaskF_ph {Mall : List Mask} (hsh : ∀ m ∈ Mall, IsPh m.ph)
    (huniq : ∀ m ∈ Mall, ∀ m' ∈ Mall, m.ph = m'.ph → m.orig = m'.orig)
    {ph o : Bytes} (rest : Bytes) {isId : Bool} (g : Nat) (hmem : (⟨ph, o, isId⟩ : Mask) ∈ Mall) :
    unmaskF Mall (g + 1) (ph ++ rest) = o ++ unmaskF Mall g rest := by
  obtain ⟨m, hm, hf, rfl⟩ := findMask_hit hsh rest ⟨_, hmem, rfl⟩
  have ho : m.orig = o := huniq m hm _ hmem rfl
  cases hc : m.ph with
  | nil => exact absurd hc (isPh_ne_nil (hsh m hm))
  | cons c t =>
    rw [hc] at hf
    simp only [List.cons_append, unmaskF] at hf ⊢
    simp [hf, hc, ho]

/-- the masks `render` emits are numbered consecutively from the current counter -/
theorem render_masks_no (segs : List Seg) : ∀ (n : Nat) (im : List (Bytes × Bytes)) (pre post : List Mask)
    (m : Mask), (render n im segs).2 = pre ++ m :: post → PhNo (n + pre.length) m.ph := by
  induction segs with
  | nil => intro n im pre post m h; cases pre <;> cases h
  | cons sg segs ih =>
    intro n im pre post m h
    have emit : ∀ m0 im', PhNo n m0.ph → m0 :: (render (n + 1) im' segs).2 = pre ++ m :: post →
        PhNo (n + pre.length) m.ph := by
      intro m0 im' h0 h
      cases pre with
      | nil => cases h; exact h0
      | cons a pre =>
        rw [List.length_cons, ← Nat.add_assoc, Nat.add_right_comm]
        exact ih (n + 1) im' pre post m (List.cons.inj h).2
    cases sg with
    | str o => exact emit _ im (Or.inl rfl) h
    | ident o =>
      simp only [render] at h
      cases hl : im.lookup o with
      | some p => rw [hl] at h; exact ih n im pre post m h
      | none => rw [hl] at h; exact emit _ _ (Or.inr rfl) h
    | _ => rw [render_plain rfl] at h; exact ih n im pre post m h

theorem render_masks_isPh (segs : List Seg) (n : Nat) (im : List (Bytes × Bytes)) :
    ∀ m ∈ (render n im segs).2, IsPh m.ph := fun m h => by
  obtain ⟨pre, post, hd⟩ := List.append_of_mem h
  exact ⟨_, render_masks_no segs n im _ _ _ hd⟩

/-- same placeholder, same number, same place in the list -/
theorem render_masks_uniq (segs : List Seg) (n : Nat) (im : List (Bytes × Bytes)) :
    ∀ m ∈ (render n im segs).2, ∀ m' ∈ (render n im segs).2, m.ph = m'.ph → m.orig = m'.orig := by
  intro m h m' h' e
  obtain ⟨pre, post, hd⟩ := List.append_of_mem h
  obtain ⟨pre', post', hd'⟩ := List.append_of_mem h'
  have hl := phNo_unique (render_masks_no segs n im _ _ _ hd) (e ▸ render_masks_no segs n im _ _ _ hd')
  have := (List.append_inj (hd.symm.trans hd') (Nat.add_left_cancel hl)).2
  rw [(List.cons.inj this).1]

/-- `Mall`: all masks of the query; `im`: the identifier placeholders issued so far; `cur`: the clean
stretch that precedes `segs`. -/
theorem roundtrip_gen (Mall : List Mask) (hsh : ∀ m ∈ Mall, IsPh m.ph)
    (huniq : ∀ m ∈ Mall, ∀ m' ∈ Mall, m.ph = m'.ph → m.orig = m'.orig) (segs : List Seg) :
    ∀ (n : Nat) (im : List (Bytes × Bytes)) (cur : Bytes) (g : Nat),
    (∀ e ∈ im, (⟨e.2, e.1, true⟩ : Mask) ∈ Mall) →
    (∀ m ∈ (render n im segs).2, m ∈ Mall) → runsClean cur segs = true →
    (render n im segs).1.length < g → unmaskF Mall g (render n im segs).1 = segBytes segs := by
  induction segs with
  | nil =>
    intro n im cur g _ _ _ hg
    cases g with
    | zero => cases hg
    | succ g => rfl
  | cons sg segs ih =>
    intro n im cur g him hM hc hg
    -- a placeholder for the token `o`, then the rendering `R` of the remaining segments
    have token : ∀ (ph o R : Bytes) (isId : Bool), (⟨ph, o, isId⟩ : Mask) ∈ Mall →
        (ph ++ R).length < g → (∀ g', R.length < g' → unmaskF Mall g' R = segBytes segs) →
        unmaskF Mall g (ph ++ R) = o ++ segBytes segs := by
      intro ph o R isId hmem hg hR
      cases g with
      | zero => cases hg
      | succ g =>
        rw [unmaskF_ph hsh huniq R g hmem, hR g]
        have : 0 < ph.length := List.length_pos_iff.2 (isPh_ne_nil (hsh _ hmem))
        rw [List.length_append] at hg; omega
    cases sg with
    | str o =>
      simp only [runsClean, Bool.and_eq_true] at hc
      exact token _ o _ false (hM _ List.mem_cons_self) hg fun g' =>
        ih (n + 1) im [] g' him (fun m hm => hM m (List.mem_cons_of_mem _ hm)) hc.2
    | ident o =>
      simp only [runsClean, Bool.and_eq_true] at hc
      simp only [render] at hg hM ⊢
      cases hl : im.lookup o with
      | some p =>
        simp only [hl] at hg hM ⊢
        exact token p o _ true (him _ (lookup_mem hl)) hg fun g' => ih n im [] g' him hM hc.2
      | none =>
        simp only [hl] at hg hM ⊢
        have hhead : (⟨phIdent n, o, true⟩ : Mask) ∈ Mall := hM _ List.mem_cons_self
        refine token _ o _ true hhead hg fun g' => ih (n + 1) _ [] g' ?_
          (fun m hm => hM m (List.mem_cons_of_mem _ hm)) hc.2
        intro e he
        rcases List.mem_cons.1 he with rfl | he
        · exact hhead
        · exact him e he
    | _ =>
      rw [runsClean_plain rfl] at hc
      rw [render_plain rfl] at hg hM ⊢
      simp only [List.length_append] at hg
      obtain ⟨g', rfl⟩ := Nat.exists_eq_add_of_le (Nat.le_of_lt (Nat.lt_of_le_of_lt (Nat.le_add_right _ _) hg))
      rw [unmaskF_copy _ g' fun x w e hw m hm => clean_render segs n im (cur ++ x) w
          (fun e he => hsh _ (him e he)) (by rw [List.append_assoc, ← e]; exact hc) hw _ (hsh m hm),
        ih n im _ g' him hM hc (by omega)]
      rfl

/-- **round trip**: if no placeholder look-alike fragment occurs outside the masked tokens, unmasking
the masked text returns the input. -/
theorem roundtrip_segs (segs : List Seg) (hc : runsClean [] segs = true) :
    unmask (render 0 [] segs).1 (render 0 [] segs).2 = segBytes segs :=
  roundtrip_gen _ (render_masks_isPh segs 0 [])
    (render_masks_uniq segs 0 []) segs 0 [] [] _ (fun _ he => nomatch he) (fun _ hm => hm) hc
    (Nat.lt_succ_self _)

end Arc.C15
