import Arc.Model.C15
/-! C15: every scanner returns a split of its input, so each tokenizer cuts a non-empty token off the
front of the text and the segments partition the text. The `if` chains of the tokenizers are taken apart
arm by arm with `iteInduction`: `split` is very slow on them (the `match` on `dollarTok` inside). -/
namespace Arc.C15

theorem lBody_split (q : UInt8) (t : Bytes) : (lBody q t).1 ++ (lBody q t).2 = t := by
  fun_induction lBody q t <;> simp_all +zetaDelta

theorem lEBody_split (t : Bytes) : (lEBody t).1 ++ (lEBody t).2 = t := by
  fun_induction lEBody t <;> simp_all +zetaDelta

theorem sBlock_split (t : Bytes) : (sBlock t).1 ++ (sBlock t).2 = t := by
  fun_induction sBlock t <;> simp_all +zetaDelta

theorem lBlock_split (d : Nat) (t : Bytes) : (lBlock d t).1 ++ (lBlock d t).2 = t := by
  fun_induction lBlock d t <;> simp_all +zetaDelta

theorem spanP_split (p : UInt8 → Bool) (l : Bytes) : (spanP p l).1 ++ (spanP p l).2 = l := by
  fun_induction spanP p l <;> simp_all +zetaDelta

theorem tagScan_split {st ct : UInt8 → Bool} {first : Bool} {t tag body : Bytes}
    (h : tagScan st ct first t = some (tag, body)) : tag ++ DOLLAR :: body = t := by
  fun_induction tagScan st ct first t generalizing tag body
  · cases h
  · cases h; rfl
  · rename_i hs ih
    cases h
    rw [List.cons_append, ih hs]
  · cases h
  · cases h

theorem splitSub_split {pat t a b : Bytes} (h : splitSub pat t = some (a, b)) : a ++ b = t := by
  fun_induction splitSub pat t generalizing a b
  · cases h
  · rename_i hp
    cases h
    exact List.prefix_iff_eq_append.1 (List.isPrefixOf_iff_prefix.1 hp)
  · rename_i hs ih
    cases h
    rw [List.cons_append, ih hs]
  · cases h

/-- `sg`, `rest` is a cut of `c :: t`: the token starts with `c` and the two partition the text. -/
def Cut (c : UInt8) (t : Bytes) (sg : Seg) (rest : Bytes) : Prop := ∃ a, sg.bytes = c :: a ∧ a ++ rest = t

theorem dollarTok_cut {st ct : UInt8 → Bool} {t tok rest : Bytes}
    (h : dollarTok st ct t = some (tok, rest)) : Cut DOLLAR t (.str tok) rest := by
  unfold dollarTok at h
  split at h
  · cases h
  · rename_i tag body htag
    split at h
    · rename_i b r hs
      cases h
      exact ⟨_, rfl, by
        rw [← tagScan_split htag, ← splitSub_split hs]; exact List.append_assoc tag (DOLLAR :: b) rest⟩
    · cases h; exact ⟨_, rfl, List.append_nil _⟩

theorem head?_tail {t : Bytes} {x : UInt8} (h : t.head? = some x) : x :: t.tail = t := by
  obtain ⟨_, rfl⟩ := List.head?_eq_some_iff.1 h; rfl

section arms
variable (c : UInt8) (t : Bytes)

theorem cut_raw : Cut c t (.raw c) t := ⟨[], rfl, rfl⟩

theorem cut_quote (q : UInt8) (mk : Bytes → Seg) (hmk : ∀ o, (mk o).bytes = o) :
    Cut c t (mk (c :: (lBody q t).1)) (lBody q t).2 := ⟨_, hmk _, lBody_split q t⟩

theorem cut_estring (h : t.head? = some QUOTE) :
    Cut c t (.str (c :: QUOTE :: (lEBody t.tail).1)) (lEBody t.tail).2 :=
  ⟨_, rfl, by rw [List.cons_append, lEBody_split, head?_tail h]⟩

theorem cut_line (p : UInt8 → Bool) (hp : p c = true) :
    Cut c t (.lcom (spanP p (c :: t)).1) (spanP p (c :: t)).2 := by
  simp only [spanP, hp, if_true]
  exact ⟨_, rfl, spanP_split p t⟩

theorem cut_block (blk : Bytes → Bytes × Bytes) (hb : ∀ u, (blk u).1 ++ (blk u).2 = u)
    (h : t.head? = some STAR) : Cut c t (.bcom (c :: STAR :: (blk t.tail).1)) (blk t.tail).2 :=
  ⟨_, rfl, by rw [List.cons_append, hb, head?_tail h]⟩
end arms

theorem mTok_cut (prev c : UInt8) (t : Bytes) : Cut c t (mTok prev c t).1 (mTok prev c t).2 := by
  have ite {p} [Decidable p] {a b} := @iteInduction _ p _ (fun r : Seg × Bytes => Cut c t r.1 r.2) a b
  unfold mTok
  refine ite (fun h1 => ite (fun _ => cut_raw c t) fun _ => ?_) fun _ => ite (fun h2 => ?_) fun _ =>
    ite (fun h3 => cut_line c t _ (by rw [h3.1]; rfl)) fun _ =>
    ite (fun h4 => cut_block c t _ (lBlock_split 1) h4.2) fun _ =>
    ite (fun _ => cut_quote c t _ .str fun _ => rfl) fun _ =>
    ite (fun _ => cut_quote c t _ .ident fun _ => rfl) fun _ => cut_raw c t
  · rcases hd : dollarTok lTagStart lTagCont t with _ | ⟨tok, rest⟩
    · exact cut_raw c t
    · exact h1 ▸ dollarTok_cut hd
  · simp only [Bool.and_eq_true, decide_eq_true_eq] at h2
    exact cut_estring c t h2.1.2

theorem sTok_cut (c : UInt8) (t : Bytes) : Cut c t (sTok c t).1 (sTok c t).2 :=
  have ite {p} [Decidable p] {a b} := @iteInduction _ p _ (fun r : Seg × Bytes => Cut c t r.1 r.2) a b
  ite (fun h1 => cut_line c t _ (by rw [h1.1]; rfl)) fun _ =>
    ite (fun h2 => cut_block c t _ sBlock_split h2.2) fun _ => cut_raw c t

theorem lTok_cut (inId : Bool) (c : UInt8) (t : Bytes) :
    Cut c t (lTok inId c t).1 (lTok inId c t).2.1 := by
  have ite {p} [Decidable p] {a b} := @iteInduction _ p _ (fun r : Seg × Bytes × Bool => Cut c t r.1 r.2.1) a b
  unfold lTok
  refine ite (fun _ => cut_raw c t) fun _ =>
    ite (fun _ => cut_quote c t _ .str fun _ => rfl) fun _ =>
    ite (fun _ => cut_quote c t _ .ident fun _ => rfl) fun _ => ite (fun h3 => ?_) fun _ =>
    ite (fun h4 => ?_) fun _ => ite (fun h5 => cut_line c t _ (by rw [h5.1]; rfl)) fun _ =>
    ite (fun h6 => cut_block c t _ (lBlock_split 1) h6.2) fun _ => cut_raw c t
  · simp only [Bool.and_eq_true, decide_eq_true_eq] at h3
    exact cut_estring c t h3.2
  · rcases hd : dollarTok lTagStart lTagCont t with _ | ⟨tok, rest⟩
    · exact cut_raw c t
    · exact h4 ▸ dollarTok_cut hd

/-- one turn of a tokenizer loop with fuel `f + 1` on `c :: t` -/
theorem segBytes_cons_cut {f : Nat} {c : UInt8} {t rest : Bytes} {sg : Seg} {l : List Seg}
    (hc : Cut c t sg rest) (h : (c :: t).length ≤ f + 1) (ih : rest.length ≤ f → segBytes l = rest) :
    segBytes (sg :: l) = c :: t := by
  obtain ⟨a, ha, rfl⟩ := hc
  have hr := Nat.le_trans (List.sublist_append_right a rest).length_le (Nat.le_of_succ_le_succ h)
  rw [segBytes, List.flatMap_cons, ← segBytes, ih hr, ha, List.cons_append]

theorem mSegsF_bytes (f : Nat) (prev : UInt8) (s : Bytes) (h : s.length ≤ f) :
    segBytes (mSegsF f prev s) = s := by
  fun_induction mSegsF f prev s with
  | case1 => exact (List.eq_nil_of_length_eq_zero (Nat.le_zero.1 h)).symm
  | case2 => rfl
  | case3 f prev c t r ih => exact segBytes_cons_cut (mTok_cut prev c t) h ih

theorem sSegsF_bytes (f : Nat) (s : Bytes) (h : s.length ≤ f) : segBytes (sSegsF f s) = s := by
  fun_induction sSegsF f s with
  | case1 => exact (List.eq_nil_of_length_eq_zero (Nat.le_zero.1 h)).symm
  | case2 => rfl
  | case3 f c t r ih => exact segBytes_cons_cut (sTok_cut c t) h ih

theorem lSegsF_bytes (f : Nat) (inId : Bool) (s : Bytes) (h : s.length ≤ f) :
    segBytes (lSegsF f inId s) = s := by
  fun_induction lSegsF f inId s with
  | case1 => exact (List.eq_nil_of_length_eq_zero (Nat.le_zero.1 h)).symm
  | case2 => rfl
  | case3 f inId c t r ih => exact segBytes_cons_cut (lTok_cut inId c t) h ih

end Arc.C15
