import Arc.Proofs.C15.Basic
/-! C15: on `kClassS = 0` the comment stripper cuts the tokens SqlLex cuts. `kTokS` looks at the token
SqlLex produces: no literal (the stripper knows none), no `--` comment ended by a carriage return (the
stripper reads on to the line feed), no `/*` inside a block comment (the stripper does not nest). What is
left are arms on which `sTok` and `lTok` run the same scanner. -/
namespace Arc.C15

theorem hasPair_tail {a b x : UInt8} {l : Bytes} (h : hasPair a b (x :: l) = false) : hasPair a b l = false := by
  cases l with
  | nil => rfl
  | cons y l => rw [hasPair, Bool.or_eq_false_iff] at h; exact h.2

theorem spanP_nl_cr {l : Bytes}
    (h : (spanP (fun b => b != NL && b != CR) l).2.head? ≠ some CR) :
    spanP (fun b => b != NL) l = spanP (fun b => b != NL && b != CR) l := by
  induction l with
  | nil => rfl
  | cons c t ih =>
    by_cases h1 : c = NL
    · subst h1; rfl
    · by_cases h2 : c = CR
      · subst h2; exact absurd rfl h
      · have e1 : (c != NL) = true := bne_iff_ne.2 h1
        have e2 : (c != CR) = true := bne_iff_ne.2 h2
        simp only [spanP, e1, e2, Bool.and_self, if_true] at h ⊢
        rw [ih h]

theorem sBlock_eq_lBlock {u : Bytes} (hn : hasPair SLASH STAR (lBlock 1 u).1 = false) :
    sBlock u = lBlock 1 u := by
  fun_induction sBlock u
  · rfl
  · rfl
  · rename_i c c2 t2 hc
    rw [lBlock, if_pos hc]; rfl
  · rename_i c c2 t2 hc r ih
    by_cases hs : c = SLASH ∧ c2 = STAR
    · obtain ⟨rfl, rfl⟩ := hs
      simp [lBlock, hasPair, SLASH, STAR] at hn
    · simp only [lBlock, if_neg hc, if_neg hs] at hn ⊢
      simp only [r, ih (hasPair_tail hn)]

/-- a byte that continues an identifier opens no token of any tokenizer -/
theorem idCont_not_special {c : UInt8} (h : isIdCont c = true) :
    c ≠ QUOTE ∧ c ≠ DQUOTE ∧ c ≠ DASH ∧ c ≠ SLASH := by
  refine ⟨?_, ?_, ?_, ?_⟩ <;> (intro hc; subst hc; revert h; decide)

theorem sTok_eq_lTok {inId : Bool} {c : UInt8} {t : Bytes} (hk : kTokS inId c t = 0) :
    sTok c t = ((lTok inId c t).1, (lTok inId c t).2.1) := by
  unfold kTokS lTok at hk
  unfold lTok
  by_cases h0 : (inId && isIdCont c) = true
  · rw [if_pos h0]
    simp only [Bool.and_eq_true] at h0
    obtain ⟨_, _, hda, hsl⟩ := idCont_not_special h0.2
    simp [sTok, hda, hsl]
  rw [if_neg h0] at hk ⊢
  by_cases h1 : c = QUOTE
  · rw [if_pos h1] at hk; simp [kLiteralLeft] at hk
  rw [if_neg h1] at hk ⊢
  by_cases h2 : c = DQUOTE
  · rw [if_pos h2] at hk; simp [kLiteralLeft] at hk
  rw [if_neg h2] at hk ⊢
  by_cases h3 : (isE c && decide (t.head? = some QUOTE)) = true
  · rw [if_pos h3] at hk; simp [kLiteralLeft] at hk
  rw [if_neg h3] at hk ⊢
  by_cases h4 : c = DOLLAR
  · have hd : c ≠ DASH := by rw [h4]; decide
    have hs : c ≠ SLASH := by rw [h4]; decide
    rw [if_pos h4] at hk ⊢
    cases hdt : dollarTok lTagStart lTagCont t with
    | some r => simp [hdt, kLiteralLeft] at hk
    | none => simp [sTok, hd, hs]
  rw [if_neg h4] at hk ⊢
  by_cases h5 : c = DASH ∧ t.head? = some DASH
  · rw [if_pos h5] at hk ⊢
    have hcr : (spanP (fun b => b != NL && b != CR) (c :: t)).2.head? ≠ some CR := by
      intro hh; simp [hh, kCrEndsLine] at hk
    simp only [sTok, h5, and_self, if_true]
    rw [← h5.1, spanP_nl_cr hcr]
  rw [if_neg h5] at hk ⊢
  by_cases h6 : c = SLASH ∧ t.head? = some STAR
  · rw [if_pos h6] at hk ⊢
    by_cases hn : hasPair SLASH STAR (lBlock 1 t.tail).1 = true
    · simp [hn, kNested] at hk
    · simp only [sTok, if_neg h5, if_pos h6, sBlock_eq_lBlock (Bool.eq_false_iff.2 hn)]
  · rw [if_neg h6]
    simp [sTok, h5, h6]

theorem sSegsF_eq_lSegsF (f : Nat) (inId : Bool) (t : Bytes)
    (hk : kSegsSF f inId t = 0) : sSegsF f t = lSegsF f inId t := by
  fun_induction kSegsSF f inId t with
  | case1 => rfl
  | case2 f => cases f <;> rfl
  | case3 f inId c t k hk' => exact absurd hk hk'
  | case4 f inId c t k hk' r ih =>
    simp only [sSegsF, lSegsF, sTok_eq_lTok (Decidable.of_not_not hk')]
    rw [ih hk]

end Arc.C15
