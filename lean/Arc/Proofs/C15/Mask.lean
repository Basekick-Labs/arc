import Arc.Proofs.C15.Strip
/-! C15: on `kClassM = 0` the masker cuts the tokens SqlLex cuts. Both run the same scanners for quote
bodies, E-strings, dollar tags and comments, and their tests on the first byte exclude one another, so the
order of the arms is immaterial. They differ in how `$` and `e'` are told from the inside of an identifier:
the masker asks whether the previous BYTE is an identifier byte, SqlLex knows whether it is inside an
identifier (`inId`); `kTokM` is non-zero wherever the two answers can part. -/
namespace Arc.C15

theorem isE_ne_dollar {c : UInt8} (h : isE c = true) : c ≠ DOLLAR := by
  intro hc; subst hc; revert h; decide

theorem dollarTok_none {st ct : UInt8 → Bool} {t : Bytes} (h : tagScan st ct true t = none) :
    dollarTok st ct t = none := by
  simp [dollarTok, h]

theorem mTok_eq_lTok {inId : Bool} {prev c : UInt8} {t : Bytes} (hk : kTokM inId prev c t = 0) :
    mTok prev c t = ((lTok inId c t).1, (lTok inId c t).2.1) := by
  unfold kTokM at hk
  unfold lTok
  by_cases h0 : (inId && isIdCont c) = true
  · rw [if_pos h0] at hk ⊢
    simp only [Bool.and_eq_true] at h0
    obtain ⟨hq, hdq, hda, hsl⟩ := idCont_not_special h0.2
    unfold mTok
    by_cases hd : c = DOLLAR
    · rw [if_pos hd] at hk ⊢
      by_cases hp : isIdentByte prev = true
      · rw [if_pos hp]
      · rw [if_neg hp] at hk; cases hk
    · rw [if_neg hd] at hk ⊢
      have he : ¬(isE c && decide (t.head? = some QUOTE) && !isIdentByte prev) = true := by
        by_cases he : (isE c && decide (t.head? = some QUOTE)) = true
        · rw [if_pos he] at hk
          by_cases hp : isIdentByte prev = true
          · simp [hp]
          · rw [if_neg hp] at hk; cases hk
        · exact fun h => he (Bool.and_eq_true_iff.1 h).1
      rw [if_neg he, if_neg fun h => hda h.1, if_neg fun h => hsl h.1, if_neg hq, if_neg hdq]
  rw [if_neg h0] at hk ⊢
  by_cases h1 : c = QUOTE
  · subst h1; rfl
  rw [if_neg h1] at hk ⊢
  by_cases h2 : c = DQUOTE
  · subst h2; rfl
  rw [if_neg h2] at hk ⊢
  unfold mTok
  by_cases h3 : (isE c && decide (t.head? = some QUOTE)) = true
  · rw [if_pos h3] at hk ⊢
    have hp : isIdentByte prev = false := Bool.eq_false_iff.2 fun hp => by rw [if_pos hp] at hk; cases hk
    simp only [Bool.and_eq_true] at h3
    rw [if_neg (isE_ne_dollar h3.1), h3.1, h3.2, hp]; rfl
  rw [if_neg h3] at hk ⊢
  rw [if_neg fun h => h3 (Bool.and_eq_true_iff.1 h).1]
  by_cases h4 : c = DOLLAR
  · rw [if_pos h4] at hk
    rw [if_pos h4, if_pos h4]
    cases hts : tagScan lTagStart lTagCont true t with
    | none => rw [dollarTok_none hts]; by_cases hp : isIdentByte prev = true <;> simp [hp]
    | some r =>
      rw [hts] at hk
      have hp : ¬isIdentByte prev = true := fun hp => by simp [hp, kDollarAfterDigit] at hk
      rw [if_neg hp]
      cases dollarTok lTagStart lTagCont t <;> rfl
  rw [if_neg h4, if_neg h4, if_neg h1, if_neg h2]
  by_cases h5 : c = DASH ∧ t.head? = some DASH
  · simp only [if_pos h5]
  simp only [if_neg h5]
  by_cases h6 : c = SLASH ∧ t.head? = some STAR
  · simp only [if_pos h6]
  · simp only [if_neg h6]

theorem mSegsF_eq_lSegsF (f : Nat) (inId : Bool) (prev : UInt8) (s : Bytes)
    (hk : kSegsMF f inId prev s = 0) : mSegsF f prev s = lSegsF f inId s := by
  fun_induction kSegsMF f inId prev s with
  | case1 => rfl
  | case2 f => cases f <;> rfl
  | case3 f inId prev c t k hk' => exact absurd hk hk'
  | case4 f inId prev c t k hk' r ih =>
    simp only [mSegsF, lSegsF, mTok_eq_lTok (Decidable.of_not_not hk')]
    rw [ih hk]

end Arc.C15
