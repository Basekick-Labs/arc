import Arc.Model.C15
/-! C15, mask → unmask round trip, part 1: what a placeholder looks like. Both kinds are
`__`, capital letters, `_`, decimal digits, `__`; every fact below is about that shape, with the letters
a variable. -/
namespace Arc.C15

theorem digit_byte (c : Char) (h : c.isDigit = true) : 48 ≤ c.toNat ∧ c.toNat ≤ 57 := by
  simp only [Char.isDigit, Bool.and_eq_true, decide_eq_true_eq] at h
  exact ⟨UInt32.le_iff_toNat_le.mp h.1, UInt32.le_iff_toNat_le.mp h.2⟩

theorem toDigits_isDigit (n : Nat) : ∀ c ∈ Nat.toDigits 10 n, c.isDigit = true :=
  fun _ hc => Nat.isDigit_of_mem_toDigits (by decide) (by decide) hc

theorem dec_no_us (n : Nat) : 95 ∉ dec n := by
  simp only [dec, List.mem_map]
  rintro ⟨c, hc, e⟩
  have := digit_byte c (toDigits_isDigit n c hc)
  have := congrArg UInt8.toNat e
  simp only [Nat.toUInt8, UInt8.toNat_ofNat', UInt8.reduceToNat] at this
  omega

theorem dec_head (n : Nat) : ∃ d more, dec n = d :: more ∧ d ≠ 95 := by
  cases h : dec n with
  | nil => simp [dec, Nat.toDigits_ne_nil] at h
  | cons d more => exact ⟨d, more, rfl, fun e => dec_no_us n (by simp [h, e])⟩

/-- a digit string is read back from its bytes -/
theorem dec_inj {k n : Nat} (h : dec k = dec n) : k = n := by
  have back : ∀ m, (dec m).map (fun b => Char.ofNat b.toNat) = Nat.toDigits 10 m := by
    intro m
    rw [dec, List.map_map]
    refine (List.map_congr_left fun c hc => ?_).trans (List.map_id _)
    have := digit_byte c (toDigits_isDigit m c hc)
    simp [Nat.toUInt8, UInt8.toNat_ofNat', Nat.mod_eq_of_lt (show c.toNat < 256 by omega)]
  have e := congrArg (fun l => Nat.ofDigitChars 10 (l.map fun b => Char.ofNat b.toNat) 0) h
  simpa [back, Nat.ofDigitChars_ten_toDigits] using e

/-- Two fields without `_`, each closed by `_`: if one text is a prefix of the other, the fields are
equal and so it goes on behind them. -/
theorem field_prefix {a b x y : Bytes} (ha : 95 ∉ a) (hb : 95 ∉ b)
    (h : (a ++ 95 :: x).isPrefixOf (b ++ 95 :: y) = true) : a = b ∧ x.isPrefixOf y = true := by
  induction a generalizing b with
  | nil =>
    cases b with
    | nil => exact ⟨rfl, by simpa [List.isPrefixOf] using h⟩
    | cons d b =>
      simp only [List.nil_append, List.cons_append, List.isPrefixOf, Bool.and_eq_true, beq_iff_eq] at h
      exact absurd (h.1 ▸ List.mem_cons_self) hb
  | cons c a ih =>
    cases b with
    | nil =>
      simp only [List.nil_append, List.cons_append, List.isPrefixOf, Bool.and_eq_true, beq_iff_eq] at h
      exact absurd (h.1 ▸ List.mem_cons_self) ha
    | cons d b =>
      simp only [List.cons_append, List.isPrefixOf, Bool.and_eq_true, beq_iff_eq] at h
      have := ih (fun m => ha (List.mem_cons_of_mem _ m)) (fun m => hb (List.mem_cons_of_mem _ m)) h.2
      exact ⟨by rw [h.1, this.1], this.2⟩

/-- `p` is placeholder number `k`, of either kind. -/
def PhNo (k : Nat) (p : Bytes) : Prop := p = phStr k ∨ p = phIdent k

/-- `p` is the text of some placeholder. -/
def IsPh (p : Bytes) : Prop := ∃ k, p = phStr k ∨ p = phIdent k

/-- the letters of a placeholder: `STR` or `IDENT` -/
def IsTag (b : Bytes) : Prop := b = [83, 84, 82] ∨ b = [73, 68, 69, 78, 84]

theorem isTag_no_us {b : Bytes} (h : IsTag b) : 95 ∉ b := by
  rcases h with rfl | rfl <;> decide

theorem phNo_shape {k : Nat} {p : Bytes} (h : PhNo k p) :
    ∃ b, IsTag b ∧ p = 95 :: 95 :: (b ++ 95 :: (dec k ++ [95, 95])) := by
  rcases h with rfl | rfl
  · exact ⟨_, Or.inl rfl, by simp [phStr, pfxStr]⟩
  · exact ⟨_, Or.inr rfl, by simp [phIdent, pfxIdent]⟩

theorem ph_prefix_no {k n : Nat} {p q : Bytes} (rest : Bytes) (hp : PhNo k p) (hq : PhNo n q)
    (h : p.isPrefixOf (q ++ rest) = true) : k = n ∧ p = q := by
  obtain ⟨a, ha, rfl⟩ := phNo_shape hp
  obtain ⟨b, hb, rfl⟩ := phNo_shape hq
  simp only [List.cons_append, List.isPrefixOf, beq_self_eq_true, Bool.true_and, List.append_assoc] at h
  obtain ⟨rfl, h'⟩ := field_prefix (isTag_no_us ha) (isTag_no_us hb) h
  have e := (field_prefix (dec_no_us k) (dec_no_us n) h').1
  exact ⟨dec_inj e, by rw [e]⟩

theorem ph_prefix_free (p q rest : Bytes) (hp : IsPh p) (hq : IsPh q)
    (h : p.isPrefixOf (q ++ rest) = true) : p = q :=
  hp.elim fun _ hp => hq.elim fun _ hq => (ph_prefix_no rest hp hq h).2

theorem phNo_unique {a b : Nat} {p : Bytes} (ha : PhNo a p) (hb : PhNo b p) : a = b :=
  (ph_prefix_no [] ha hb (List.isPrefixOf_iff_prefix.2 (List.prefix_append _ _))).1

/-- what follows a stretch of un-masked text in the masked query: nothing, or a placeholder -/
def TailOK (tail : Bytes) : Prop := tail = [] ∨ ∃ x r, tail = 95 :: 95 :: x :: r

theorem isPh_tailOK {p : Bytes} (h : IsPh p) (rest : Bytes) : TailOK (p ++ rest) := by
  obtain ⟨k, hk⟩ := h
  obtain ⟨b, hb, rfl⟩ := phNo_shape hk
  rcases hb with rfl | rfl <;> exact Or.inr ⟨_, _, rfl⟩

theorem isPh_ne_nil {p : Bytes} (h : IsPh p) : p ≠ [] := by
  obtain ⟨k, hk⟩ := h
  obtain ⟨b, _, rfl⟩ := phNo_shape hk
  exact List.cons_ne_nil _ _

/-- Letters, `_` and a digit at the head of `v ++ tail`: all of it up to the `_` lies in `v`, because
`tail` can only begin with `__`. -/
theorem tag_inside {b more v tail : Bytes} {d : UInt8} (hb : 95 ∉ b) (hd : d ≠ 95) (ht : TailOK tail)
    (h : (b ++ 95 :: d :: more).isPrefixOf (v ++ tail) = true) : (b ++ [95]).isPrefixOf v = true := by
  induction b generalizing v with
  | nil =>
    cases v with
    | nil =>
      rcases ht with rfl | ⟨x, r, rfl⟩
      · simp at h
      · simp only [List.nil_append, List.isPrefixOf, Bool.and_eq_true, beq_iff_eq] at h
        exact absurd h.2.1 hd
    | cons e v =>
      simp only [List.nil_append, List.cons_append, List.isPrefixOf, Bool.and_eq_true, beq_iff_eq] at h ⊢
      exact ⟨h.1, trivial⟩
  | cons c b ih =>
    cases v with
    | nil =>
      rcases ht with rfl | ⟨x, r, rfl⟩
      · simp at h
      · simp only [List.nil_append, List.cons_append, List.isPrefixOf, Bool.and_eq_true, beq_iff_eq] at h
        exact absurd (h.1 ▸ List.mem_cons_self) hb
    | cons e v =>
      simp only [List.cons_append, List.isPrefixOf, Bool.and_eq_true, beq_iff_eq] at h ⊢
      exact ⟨h.1, ih (fun m => hb (List.mem_cons_of_mem _ m)) h.2⟩

theorem hasSub_iff (pat l : Bytes) : hasSub pat l = true ↔ pat <:+: l := by
  induction l with
  | nil => simp [hasSub]
  | cons c t ih => simp [hasSub, List.infix_cons_iff, ih]

theorem runClean_iff (w : Bytes) : runClean w = true ↔ ¬mkSTR <:+: w ∧ ¬mkIDENT <:+: w := by
  simp only [runClean, Bool.and_eq_true, Bool.not_eq_true', ← Bool.not_eq_true, hasSub_iff]

theorem runClean_infix {x y : Bytes} (hi : x <:+: y) (h : runClean y = true) : runClean x = true := by
  rw [runClean_iff] at h ⊢
  exact ⟨fun i => h.1 (i.trans hi), fun i => h.2 (i.trans hi)⟩

theorem runClean_append_right (x y : Bytes) (h : runClean (x ++ y) = true) : runClean y = true :=
  runClean_infix (List.suffix_append x y).isInfix h

theorem runClean_append_left (x y : Bytes) (h : runClean (x ++ y) = true) : runClean x = true :=
  runClean_infix (List.prefix_append x y).isInfix h

/-- No placeholder text starts at a byte of a clean stretch `w` of un-masked text: its letters and
their `_` would lie inside `w`. -/
theorem no_ph_in_clean {p w tail : Bytes} (hp : IsPh p) (hc : runClean w = true) (hw : w ≠ [])
    (ht : TailOK tail) : p.isPrefixOf (w ++ tail) = false := by
  obtain ⟨k, hk⟩ := hp
  obtain ⟨b, hb, rfl⟩ := phNo_shape hk
  obtain ⟨d, more, hd, hne⟩ := dec_head k
  have hcb : ¬(b ++ [95]) <:+: w := by
    rw [runClean_iff] at hc
    rcases hb with rfl | rfl
    · exact hc.1
    · exact hc.2
  apply Bool.eq_false_iff.2
  intro h
  rw [hd] at h
  rcases w with _ | ⟨a1, _ | ⟨a2, v⟩⟩
  · exact hw rfl
  · -- `w` is one byte: the letters would have to begin `tail`
    rcases ht with rfl | ⟨x, r, rfl⟩
    · simp [List.isPrefixOf] at h
    · rcases hb with rfl | rfl <;> simp [List.isPrefixOf] at h
  · simp only [List.cons_append, List.isPrefixOf, Bool.and_eq_true, beq_iff_eq] at h
    have := tag_inside (isTag_no_us hb) hne ht h.2.2
    exact hcb ((List.isPrefixOf_iff_prefix.1 this).isInfix.trans (List.suffix_append [a1, a2] v).isInfix)

end Arc.C15
