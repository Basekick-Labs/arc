import Arc.Model.C21
import Arc.Base.Lists
/-!
C21 — the LTS as relations: `VStep`, `MStep`, `Step` have one constructor per branch of the executable
`vstep`, `mstep`, `step`, which are shown to take only such steps. Every invariant is then proved by
cases on the relation, with the successor state already substituted.
-/
namespace Arc.C21

theorem mem_evictOldest {c : List (Nat × Entry)} {p : Nat × Entry} (h : p ∈ evictOldest c) : p ∈ c := by
  unfold evictOldest at h
  split at h
  · exact h
  · exact (List.mem_filter.mp h).1

theorem mem_insertCache {cfg : Cfg} {c : List (Nat × Entry)} {k : Nat} {e : Entry} {p : Nat × Entry}
    (h : p ∈ insertCache cfg c k e) : p = (k, e) ∨ p ∈ c := by
  unfold insertCache setKey at h
  rcases List.mem_cons.mp h with h | h
  · exact Or.inl h
  · right
    have h2 := (List.mem_filter.mp h).1
    split at h2
    · exact mem_evictOldest h2
    · exact h2

/-- a property of all threads after thread `i` was replaced: check the new thread and the others -/
theorem forall_set {α : Type} {l : List α} {i : Nat} {a : α} {P : Nat → α → Prop} (hi : P i a)
    (ho : ∀ j b, j ≠ i → l[j]? = some b → P j b) : ∀ j b, (l.set i a)[j]? = some b → P j b := by
  intro j b h
  by_cases hji : i = j
  · subst hji
    rw [List.getElem?_set] at h
    simp only [if_true] at h
    split at h
    · cases h; exact hi
    · cases h
  · rw [List.getElem?_set_ne hji] at h
    exact ho j b (fun e => hji e.symm) h

theorem candidate_spec {db : Option Row} {val : Nat} {r : Row} (h : candidate db val = some r) :
    db = some r ∧ r.enabled = true ∧ (r.legacy = true ∨ r.hashOf = val) := by
  unfold candidate at h
  cases db with
  | none => cases h
  | some r0 =>
    simp only at h
    split at h
    · rename_i hc
      cases h
      simpa using hc
    · cases h

inductive VStep (cfg : Cfg) (i : Nat) (sh : Shared) (v : VThread) : Shared → VThread → Prop
  | hit (e : Entry) : v.pc = .start → sh.cache.lookup v.val = some e → hitOk cfg e sh.now = true →
      VStep cfg i sh v sh { v with now := sh.now, gen := sh.gen, pc := .hit, he := some e }
  | miss : v.pc = .start → VStep cfg i sh v sh { v with now := sh.now, gen := sh.gen, pc := .miss }
  | read (r : Row) : v.pc = .miss → connFree cfg sh = true → candidate sh.db v.val = some r →
      VStep cfg i sh v { sh with conn := if cfg.serialDB then some i else none } { v with rd := some r, pc := .row }
  | noRow : v.pc = .miss → connFree cfg sh = true → candidate sh.db v.val = none →
      VStep cfg i sh v sh { v with pc := .norow }
  | expired (r : Row) : v.pc = .row → v.rd = some r → r.hashOf = v.val → expired r.expiry v.now = true →
      VStep cfg i sh v { sh with conn := none } { v with pc := .done, res := some false }
  | verified (r : Row) : v.pc = .row → v.rd = some r → r.hashOf = v.val → expired r.expiry v.now = false →
      VStep cfg i sh v sh { v with pc := .preins }
  | mismatch (r : Row) : v.pc = .row → v.rd = some r → r.hashOf ≠ v.val →
      VStep cfg i sh v { sh with conn := none } { v with pc := .norow }
  | skip (r : Row) : v.pc = .preins → v.rd = some r → cfg.genGuard = true → v.gen ≠ sh.gen →
      VStep cfg i sh v sh { v with pc := .ins }
  | insert (r : Row) : v.pc = .preins → v.rd = some r → (cfg.genGuard = true → v.gen = sh.gen) →
      VStep cfg i sh v { sh with cache := insertCache cfg sh.cache v.val { info := r, cexp := v.now + cfg.ttl } }
        { v with pc := .ins }
  | ret : v.pc = .ins → VStep cfg i sh v { sh with conn := none } { v with pc := .done, res := some true }
  | refuse : v.pc = .norow → VStep cfg i sh v sh { v with pc := .done, res := some false }
  | touch (e : Entry) : v.pc = .hit → v.he = some e → cfg.hitTouch = true →
      VStep cfg i sh v { sh with cache := setKey sh.cache v.val { e with cexp := v.now + cfg.ttl } }
        { v with pc := .done, res := some true }
  | served (e : Entry) : v.pc = .hit → v.he = some e → VStep cfg i sh v sh { v with pc := .done, res := some true }

theorem vStep_of_vstep {cfg : Cfg} {sh sh' : Shared} {i : Nat} {v v' : VThread}
    (h : vstep cfg sh i v = some (sh', v')) : VStep cfg i sh v sh' v' := by
  unfold vstep at h
  split at h
  · rename_i hpc
    injection h with h
    unfold vStart at h
    split at h
    · split at h <;> cases h
      · exact .hit _ hpc ‹_› ‹_›
      · exact .miss hpc
    · cases h; exact .miss hpc
  · rename_i hpc
    split at h
    · injection h with h
      unfold vHit at h
      split at h <;> cases h
      · exact .touch _ hpc ‹_› (Bool.and_eq_true_iff.1 ‹_›).1
      · exact .served _ hpc ‹_›
    · cases h
  · rename_i hpc
    split at h
    · injection h with h
      unfold vMiss at h
      split at h <;> cases h
      · exact .read _ hpc ‹_› ‹_›
      · exact .noRow hpc ‹_› ‹_›
    · cases h
  · rename_i hpc
    split at h
    · injection h with h
      unfold vRow at h
      split at h
      · rename_i hh
        split at h <;> cases h
        · exact .expired _ hpc ‹_› (eq_of_beq hh) ‹_›
        · exact .verified _ hpc ‹_› (eq_of_beq hh) (Bool.eq_false_iff.2 ‹_›)
      · cases h; exact .mismatch _ hpc ‹_› (mt beq_iff_eq.2 ‹_›)
    · cases h
  · rename_i hpc
    split at h
    · injection h with h
      unfold vPreins at h
      split at h <;> cases h
      · exact .skip _ hpc ‹_› (by simp_all) (by simp_all)
      · exact .insert _ hpc ‹_› (by simp_all)
    · cases h
  · cases h; exact .ret ‹_›
  · cases h; exact .refuse ‹_›
  · cases h

inductive MStep (cfg : Cfg) (sh : Shared) (m : MThread) : Shared → MThread → Prop
  | update (r : Row) : m.pc = .start → connFree cfg sh = true → sh.db = some r →
      MStep cfg sh m { sh with db := applyKind m.kind r } { m with pc := .upd, found := true }
  | absent : m.pc = .start → connFree cfg sh = true → sh.db = none →
      MStep cfg sh m sh { m with pc := .upd, found := false }
  | flush : m.pc = .upd → m.inval = true → (m.found = true ∨ m.cluster = true) →
      MStep cfg sh m { sh with cache := [], gen := sh.gen + 1 } { m with pc := .done }
  | finish : m.pc = .upd → (m.inval = false ∨ (m.found = false ∧ m.cluster = false)) →
      MStep cfg sh m sh { m with pc := .done }

theorem mStep_of_mstep {cfg : Cfg} {sh sh' : Shared} {m m' : MThread}
    (h : mstep cfg sh m = some (sh', m')) : MStep cfg sh m sh' m' := by
  unfold mstep at h
  split at h
  · split at h
    · split at h <;> cases h
      · exact .update _ ‹_› ‹_› ‹_›
      · exact .absent ‹_› ‹_› ‹_›
    · cases h
  · split at h <;> cases h
    · exact .flush ‹_› (by simp_all) (by simp_all)
    · refine .finish ‹_› ?_
      cases hi : m.inval <;> simp_all
  · cases h

inductive Step (cfg : Cfg) (s : State) : Ev → State → Prop
  | v {i : Nat} {v : VThread} {sh' : Shared} {v' : VThread} : s.vs[i]? = some v → VStep cfg i s.sh v sh' v' →
      Step cfg s (.v i) { s with sh := sh', vs := s.vs.set i v' }
  | m {sh' : Shared} {m' : MThread} : MStep cfg s.sh s.m sh' m' → Step cfg s .m { s with sh := sh', m := m' }
  | tick (d : Nat) : Step cfg s (.tick d) { s with sh := { s.sh with now := s.sh.now + d } }
  | janitor : Step cfg s .janitor
      { s with sh := { s.sh with cache := s.sh.cache.filter (fun p => !(decide (p.2.cexp < s.sh.now))) } }

theorem step_of_step {cfg : Cfg} {s s' : State} {ev : Ev} (h : step cfg s ev = some s') : Step cfg s ev s' := by
  cases ev with
  | v i =>
    simp only [step] at h
    split at h
    · cases h
    · split at h
      · cases h
      · cases h; exact .v ‹_› (vStep_of_vstep ‹_›)
  | m =>
    simp only [step] at h
    split at h
    · cases h
    · cases h; exact .m (mStep_of_mstep ‹_›)
  | tick d => cases h; exact .tick d
  | janitor => cases h; exact .janitor

/-- what holds initially and is kept by every step (of the events that occur) holds after a run -/
theorem run_induction {cfg : Cfg} {P : State → Prop} {evs : List Ev} {s s' : State}
    (hstep : ∀ {s ev s'}, ev ∈ evs → P s → Step cfg s ev s' → P s') (hP : P s)
    (hr : run cfg s evs = some s') : P s' := by
  induction evs generalizing s with
  | nil => cases hr; exact hP
  | cons e es ih =>
    simp only [run] at hr
    split at hr
    · cases hr
    · exact ih (fun he => hstep (List.mem_cons_of_mem _ he)) (hstep List.mem_cons_self hP (step_of_step ‹_›)) hr

end Arc.C21
