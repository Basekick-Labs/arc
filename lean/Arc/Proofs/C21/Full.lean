import Arc.Proofs.C21.Inv
/-!
C21 — helper lemmas for `C21_full` / `C21_partial`: the single pooled connection (`ConnOK`) and the
post-mutation database (`PostOK`).
-/
namespace Arc.C21

/-- with one pooled connection: whoever has read a row and not yet returned owns the connection -/
def ConnOK (s : State) : Prop :=
  ∀ (i : Nat) (v : VThread), s.vs[i]? = some v → (v.pc = .row ∨ v.pc = .preins ∨ v.pc = .ins) →
    s.sh.conn = some i

theorem connOK_step {cfg : Cfg} {s s' : State} {ev : Ev} (hser : cfg.serialDB = true) (hC : ConnOK s)
    (hs : Step cfg s ev s') : ConnOK s' := by
  cases hs with
  | @v i v sh' v' hv hvs =>
    refine forall_set (fun hhold => ?_) fun j vj hji hj hhold => ?_
    · -- the stepping verifier: takes the connection at its read, keeps it while it holds the row
      show sh'.conn = some i
      cases hvs with
      | read => simp only [hser, if_true]
      | verified _ hpc => exact hC i v hv (.inl hpc)
      | skip _ hpc | insert _ hpc => exact hC i v hv (.inr (.inl hpc))
      | _ => rcases hhold with h | h | h <;> cases h
    · -- another verifier holds the connection: the stepping one neither takes nor releases it
      have hcj : s.sh.conn = some j := hC j vj hj hhold
      have hne : ∀ {x : Option Nat}, s.sh.conn = some i → x = some j := fun h => absurd (Option.some.inj (hcj.symm.trans h)) hji
      show sh'.conn = some j
      cases hvs with
      | read _ _ hcf =>
        unfold connFree at hcf
        rw [hser, hcj] at hcf
        cases hcf
      | expired _ hpc | mismatch _ hpc => exact hne (hC i v hv (.inl hpc))
      | ret hpc => exact hne (hC i v hv (.inr (.inr hpc)))
      | _ => exact hcj
  | m hms => cases hms <;> exact hC
  | tick | janitor => exact hC

/-- with one pooled connection the mutator's SQL statement can only run when nobody holds a row. -/
theorem noReaders_of_conn {cfg : Cfg} {s : State} {sh' : Shared} {m' : MThread} (hser : cfg.serialDB = true)
    (hC : ConnOK s) (hms : MStep cfg s.sh s.m sh' m') (hpc : s.m.pc = .start) : NoReaders s := by
  have hcf : s.sh.conn = none := by
    have : connFree cfg s.sh = true := by
      cases hms with
      | update _ _ hcf | absent _ hcf => exact hcf
      | flush hpc' | finish hpc' => cases hpc.symm.trans hpc'
    simpa [connFree, hser] using this
  intro j vj hj
  constructor <;> intro hp
  · cases hcf.symm.trans (hC j vj hj (.inl hp))
  · cases hcf.symm.trans (hC j vj hj (.inr (.inl hp)))

/-- invariant + connection discipline are preserved together when the source has either protection. -/
theorem inv_conn_step {cfg : Cfg} (hcfg : cfg.serialDB = true ∨ cfg.genGuard = true) (hnt : cfg.hitTouch = false)
    {s : State} {ev : Ev} {s' : State} (h : Inv cfg s ∧ (cfg.serialDB = true → ConnOK s)) (hs : Step cfg s ev s') :
    Inv cfg s' ∧ (cfg.serialDB = true → ConnOK s') := by
  refine ⟨inv_step hnt h.1 hs ?_, fun hser => connOK_step hser (h.2 hser) hs⟩
  cases hg : cfg.genGuard
  · have hser : cfg.serialDB = true := hcfg.resolve_right (by rw [hg]; nofun)
    right
    by_cases hm : ev = .m ∧ s.m.pc = .start
    · obtain ⟨rfl, hpc⟩ := hm
      cases hs with
      | m hms => exact .inr (noReaders_of_conn hser (h.2 hser) hms hpc)
    · exact .inl hm
  · exact .inl rfl

/-- `k` is a value the mutation kills: any value for revoke/delete, any value but the new one for rotate;
and once the SQL statement has run the database holds no enabled row for `k`. -/
def PostOK (s : State) (k : Nat) : Prop :=
  ((∀ nv, s.m.kind = .rotate nv → k ≠ nv) ∧ (∀ e, s.m.kind ≠ .setexp e)) ∧
    (s.m.pc ≠ .start → ∀ r, s.sh.db = some r → r.enabled = true → r.hashOf ≠ k)

theorem postOK_step {cfg : Cfg} {k : Nat} {s : State} {ev : Ev} {s' : State} (hP : PostOK s k)
    (hs : Step cfg s ev s') : PostOK s' k := by
  cases hs with
  | v _ hvs => exact ⟨hP.1, by show _ → ∀ r, _ = some r → _; rw [(vStep_frame hvs).1]; exact hP.2⟩
  | m hms =>
    cases hms with
    | update r₀ _ _ _ =>
      refine ⟨hP.1, fun _ r hr hen => ?_⟩
      -- what each kind of mutation leaves in the database
      change applyKind s.m.kind r₀ = some r at hr
      cases hk : s.m.kind with
      | revoke => rw [hk] at hr; cases hr; cases hen
      | delete => rw [hk] at hr; cases hr
      | rotate nv => rw [hk] at hr; cases hr; exact fun h => hP.1.1 nv hk h.symm
      | setexp e => exact absurd hk (hP.1.2 e)
    | absent _ _ hdb => exact ⟨hP.1, fun _ r hr => nomatch hdb.symm.trans hr⟩
    | flush hpc | finish hpc => exact ⟨hP.1, fun _ => hP.2 (by rw [hpc]; nofun)⟩
  | tick | janitor => exact hP

end Arc.C21
