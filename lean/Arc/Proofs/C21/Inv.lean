import Arc.Proofs.C21.Steps
/-!
C21 — the safety invariant `Inv`: every cache entry, and every row a verifier holds between its database
read and its cache insert, is the current enabled row — unless the mutator is between its SQL statement and
its invalidation (`InFlight`) or, with the generation guard, the verifier's snapshot is stale. Every step
keeps it except a mutator SQL statement that runs while an unguarded verifier holds a row (`inv_step`).
-/
namespace Arc.C21

def Current (db : Option Row) (r : Row) : Prop := db = some r ∧ r.enabled = true

/-- the mutator has changed a row and has not invalidated the cache yet -/
def InFlight (m : MThread) : Prop := m.pc = .upd ∧ m.found = true

def CacheOK (db : Option Row) (m : MThread) (c : List (Nat × Entry)) : Prop :=
  ∀ k e, (k, e) ∈ c → (Current db e.info ∧ e.info.hashOf = k) ∨ InFlight m

def ReadOK (cfg : Cfg) (db : Option Row) (gen : Nat) (m : MThread) (v : VThread) : Prop :=
  (v.pc = .row ∨ v.pc = .preins) →
    ∃ r, v.rd = some r ∧ (v.pc = .preins → r.hashOf = v.val) ∧
      ((cfg.genGuard = true ∧ (v.gen = gen → Current db r ∨ InFlight m)) ∨
        (cfg.genGuard = false ∧ Current db r))

structure Inv (cfg : Cfg) (s : State) : Prop where
  cache : CacheOK s.sh.db s.m s.sh.cache
  reads : ∀ (i : Nat) (v : VThread), s.vs[i]? = some v → ReadOK cfg s.sh.db s.sh.gen s.m v
  gens : ∀ (i : Nat) (v : VThread), s.vs[i]? = some v → v.pc ≠ .start → v.gen ≤ s.sh.gen
  inval : s.m.inval = true

/-- no verifier is between its database read and its cache insert -/
def NoReaders (s : State) : Prop := ∀ (i : Nat) (v : VThread), s.vs[i]? = some v → v.pc ≠ .row ∧ v.pc ≠ .preins

theorem vStep_frame {cfg : Cfg} {sh sh' : Shared} {i : Nat} {v v' : VThread} (h : VStep cfg i sh v sh' v') :
    sh'.db = sh.db ∧ sh'.gen = sh.gen ∧ v'.val = v.val := by
  cases h <;> exact ⟨rfl, rfl, rfl⟩

/-- the only new cache entry is the one the insert step builds from the row it read -/
theorem vStep_cache {cfg : Cfg} {sh sh' : Shared} {i : Nat} {v v' : VThread} (hnt : cfg.hitTouch = false)
    (h : VStep cfg i sh v sh' v') (p : Nat × Entry) (hp : p ∈ sh'.cache) :
    p ∈ sh.cache ∨ (v.pc = .preins ∧ ∃ r, v.rd = some r ∧
      p = (v.val, { info := r, cexp := v.now + cfg.ttl }) ∧ (cfg.genGuard = true → v.gen = sh.gen)) := by
  cases h with
  | insert r hpc hrd hg => exact (mem_insertCache hp).elim (fun e => .inr ⟨hpc, r, hrd, e, hg⟩) .inl
  | touch _ _ _ ht => rw [hnt] at ht; cases ht
  | _ => exact .inl hp

theorem vStep_readOK {cfg : Cfg} {sh sh' : Shared} {i : Nat} {v v' : VThread} {m : MThread}
    (h : VStep cfg i sh v sh' v') (hr : ReadOK cfg sh.db sh.gen m v) : ReadOK cfg sh'.db sh'.gen m v' := by
  cases h with
  | read r _ _ hc =>
    intro _
    obtain ⟨hdb, hen, _⟩ := candidate_spec hc
    refine ⟨r, rfl, nofun, ?_⟩
    cases hg : cfg.genGuard
    · exact .inr ⟨rfl, hdb, hen⟩
    · exact .inl ⟨rfl, fun _ => .inl ⟨hdb, hen⟩⟩
  | verified r hpc hrd hh _ =>
    intro _
    obtain ⟨r', hr', _, h3⟩ := hr (.inl hpc)
    cases hrd.symm.trans hr'
    exact ⟨r, hrd, fun _ => hh, h3⟩
  | _ => intro hp; rcases hp with hp | hp <;> cases hp

theorem vStep_gen_le {cfg : Cfg} {sh sh' : Shared} {i : Nat} {v v' : VThread}
    (h : VStep cfg i sh v sh' v') (hg : v.pc ≠ .start → v.gen ≤ sh.gen) : v'.gen ≤ sh'.gen := by
  cases h with
  | hit | miss => exact Nat.le_refl _
  | _ => exact hg (by simp [*])

/-- a mutator step that changes only the mutator, and leaves it in flight if it was, keeps the invariant:
every clause that held because of `InFlight` still does -/
theorem inv_mono {cfg : Cfg} {s : State} {m' : MThread} (hI : Inv cfg s) (hm : InFlight s.m → InFlight m')
    (hi : m'.inval = true) : Inv cfg { s with m := m' } := by
  refine ⟨fun k e hke => (hI.cache k e hke).imp_right hm, fun j vj hj hp => ?_, hI.gens, hi⟩
  obtain ⟨r, hr, hh, h3⟩ := hI.reads j vj hj hp
  exact ⟨r, hr, hh, h3.imp_left fun ⟨hg, h⟩ => ⟨hg, fun e => (h e).imp_right hm⟩⟩

/-- **Preservation.** Every step keeps the invariant, except a mutator SQL statement executed while
some verifier sits between its database read and its cache insert in a configuration without the
generation guard — the side condition `hsafe` excludes exactly that — and provided the cache-hit path
does not write the cache (`hnt`). -/
theorem inv_step {cfg : Cfg} {s s' : State} {ev : Ev} (hnt : cfg.hitTouch = false) (hI : Inv cfg s)
    (hs : Step cfg s ev s')
    (hsafe : cfg.genGuard = true ∨ ¬ (ev = .m ∧ s.m.pc = .start) ∨ NoReaders s) : Inv cfg s' := by
  cases hs with
  | @v i v sh' v' hv hvs =>
    obtain ⟨hdb, hgen, _⟩ := (vStep_frame hvs)
    refine ⟨fun k e hke => ?_, forall_set ?_ fun j vj _ hj => ?_, forall_set ?_ fun j vj _ hj => ?_, hI.inval⟩
    · show (Current sh'.db e.info ∧ e.info.hashOf = k) ∨ InFlight s.m
      rw [hdb]
      rcases vStep_cache hnt hvs (k, e) hke with hold | ⟨hpc, r, hrd, hp, hg⟩
      · exact hI.cache k e hold
      · -- the inserted entry is the row the verifier read, justified by `reads`
        cases hp
        obtain ⟨r', hr', hh, h3⟩ := hI.reads i v hv (.inr hpc)
        cases hrd.symm.trans hr'
        rcases h3 with ⟨hgg, h3⟩ | ⟨_, h3⟩
        · exact (h3 (hg hgg)).imp_left fun hc => ⟨hc, hh hpc⟩
        · exact .inl ⟨h3, hh hpc⟩
    · exact vStep_readOK hvs (hI.reads i v hv)
    · show ReadOK cfg sh'.db sh'.gen s.m vj
      rw [hdb, hgen]; exact hI.reads j vj hj
    · exact fun _ => vStep_gen_le hvs (hI.gens i v hv)
    · show vj.pc ≠ .start → vj.gen ≤ sh'.gen
      rw [hgen]; exact hI.gens j vj hj
  | m hms =>
    cases hms with
    | update r hpc _ _ =>
      -- the SQL statement changed the row: everything older is covered by InFlight
      have hfl : InFlight { s.m with pc := MPc.upd, found := true } := ⟨rfl, rfl⟩
      refine ⟨fun _ _ _ => .inr hfl, fun j vj hj hp => ?_, hI.gens, hI.inval⟩
      obtain ⟨r', hr', hh, _⟩ := hI.reads j vj hj hp
      cases hg : cfg.genGuard
      · -- without the generation guard nobody may hold a row now
        rcases hsafe with hsafe | hsafe | hsafe
        · rw [hg] at hsafe; cases hsafe
        · exact absurd ⟨rfl, hpc⟩ hsafe
        · exact absurd hp (not_or.2 (hsafe j vj hj))
      · exact ⟨r', hr', hh, .inl ⟨rfl, fun _ => .inr hfl⟩⟩
    | absent hpc _ _ =>
      exact inv_mono hI (fun h => nomatch hpc.symm.trans h.1) hI.inval
    | flush _ _ _ =>
      -- InvalidateCache: empty cache, next generation
      refine ⟨nofun, fun j vj hj hp => ?_, fun j vj hj hp => Nat.le_succ_of_le (hI.gens j vj hj hp), hI.inval⟩
      obtain ⟨r, hr, hh, h3⟩ := hI.reads j vj hj hp
      refine ⟨r, hr, hh, h3.imp_left fun ⟨hg, _⟩ => ⟨hg, fun hgen => ?_⟩⟩
      have hle := hI.gens j vj hj (by rcases hp with hp | hp <;> simp [hp])
      have hgen : vj.gen = s.sh.gen + 1 := hgen
      omega
    | finish _ hni =>
      -- nothing was changed (no row found, direct mode), so nothing is in flight
      refine inv_mono hI (fun h => ?_) hI.inval
      rcases hni with hni | hni
      · rw [hI.inval] at hni; cases hni
      · rw [h.2] at hni; cases hni.1
  | tick d => exact ⟨hI.cache, hI.reads, hI.gens, hI.inval⟩
  | janitor => exact ⟨fun k e hke => hI.cache k e (List.mem_filter.mp hke).1, hI.reads, hI.gens, hI.inval⟩

end Arc.C21
