import Arc.Proofs.C21.Inv
/-!
C21 — behind `C21_authn_iff`: every successful verification is justified by a row that the database
held (initially or after the mutation), enabled, whose hash verifies the presented value, and whose
expiry was checked against the verification's own clock reading (`Auth`, kept by every step). What it
says of one verifier is `Justified S U v`, with the admissible rows `S` and the knowledge `U` about
their expiry as parameters: `justified_vstep` serves `Auth` here and `After` (rows = the current row).
-/
namespace Arc.C21

/-- `r` is a row the database held: before the mutation (`db0`) or now. -/
def Seen (db0 db : Option Row) (r : Row) : Prop := db0 = some r ∨ db = some r

/-- what is known about the token's expiry when a verification that read the clock at `now` succeeds:
not expired — or, only if the cache-hit path does not re-check it, less than one cache TTL past it. -/
def Unexp (cfg : Cfg) (r : Row) (now : Nat) : Prop :=
  ∀ t, r.expiry = some t → now ≤ t ∨ (cfg.hitChecksExpiry = false ∧ now < t + cfg.ttl)

structure Auth (cfg : Cfg) (db0 : Option Row) (s : State) : Prop where
  dbfix : s.m.pc = .start → s.sh.db = db0
  cache : ∀ k e, (k, e) ∈ s.sh.cache →
    Seen db0 s.sh.db e.info ∧ e.info.enabled = true ∧ e.info.hashOf = k ∧
      (∀ t, e.info.expiry = some t → e.cexp ≤ t + cfg.ttl)
  rd : ∀ (i : Nat) (v : VThread), s.vs[i]? = some v → (v.pc = .row ∨ v.pc = .preins ∨ v.pc = .ins) →
    ∃ r, v.rd = some r ∧ Seen db0 s.sh.db r ∧ r.enabled = true ∧
      ((v.pc = .preins ∨ v.pc = .ins) → r.hashOf = v.val ∧ expired r.expiry v.now = false)
  res : ∀ (i : Nat) (v : VThread), s.vs[i]? = some v → v.res = some true →
    ∃ r, Seen db0 s.sh.db r ∧ r.enabled = true ∧ r.hashOf = v.val ∧ Unexp cfg r v.now
  fresh : ∀ (i : Nat) (v : VThread), s.vs[i]? = some v → v.pc = .start → v.res = none
  hit : ∀ (i : Nat) (v : VThread), s.vs[i]? = some v → v.pc = .hit →
    ∃ e, v.he = some e ∧ Seen db0 s.sh.db e.info ∧ e.info.enabled = true ∧ e.info.hashOf = v.val ∧
      Unexp cfg e.info v.now

theorem expired_false {e : Option Nat} {now t : Nat} (h : expired e now = false) (he : e = some t) :
    now ≤ t := by
  subst he
  simpa [expired] using h

theorem vstep_now {cfg : Cfg} {sh sh' : Shared} {i : Nat} {v v' : VThread}
    (h : vstep cfg sh i v = some (sh', v')) : v.pc ≠ .start → v'.now = v.now := by
  intro hne
  cases vStep_of_vstep h with
  | hit _ hpc | miss hpc => exact absurd hpc hne
  | _ => rfl

/-- What is known about one verifier at each program point: the rows behind its read, its cache hit and
its success lie in `S`, and `U r now` is what is known of the expiry of a row that justified a success.
`Auth` is this for every verifier with `S = Seen db0 db`, `U = Unexp cfg`. -/
structure Justified (S : Row → Prop) (U : Row → Nat → Prop) (v : VThread) : Prop where
  rd : (v.pc = .row ∨ v.pc = .preins ∨ v.pc = .ins) →
    ∃ r, v.rd = some r ∧ S r ∧ r.enabled = true ∧
      ((v.pc = .preins ∨ v.pc = .ins) → r.hashOf = v.val ∧ expired r.expiry v.now = false)
  res : v.res = some true → ∃ r, S r ∧ r.enabled = true ∧ r.hashOf = v.val ∧ U r v.now
  fresh : v.pc = .start → v.res = none
  hit : v.pc = .hit → ∃ e, v.he = some e ∧ S e.info ∧ e.info.enabled = true ∧ e.info.hashOf = v.val ∧ U e.info v.now

theorem justified_fresh {S : Row → Prop} {U : Row → Nat → Prop} {v : VThread} (hpc : v.pc = .start)
    (hres : v.res = none) : Justified S U v :=
  ⟨fun h => (by rw [hpc] at h; rcases h with h | h | h <;> cases h), fun h => absurd (hres.symm.trans h) nofun,
    fun _ => hres, fun h => absurd (hpc.symm.trans h) nofun⟩

theorem justified_mono {S S' : Row → Prop} {U : Row → Nat → Prop} {v : VThread} (h : Justified S U v)
    (hs : ∀ r, S r → S' r) : Justified S' U v :=
  ⟨fun hp => (h.rd hp).imp fun r h => ⟨h.1, hs r h.2.1, h.2.2⟩,
    fun hp => (h.res hp).imp fun r h => ⟨hs r h.1, h.2⟩, h.fresh,
    fun hp => (h.hit hp).imp fun e h => ⟨h.1, hs e.info h.2.1, h.2.2⟩⟩

/-- a verifier step keeps `Justified`, given that cache hits are justified (`hhit`), that the row in the
database is in `S`, and that an unexpired row satisfies `U` -/
theorem justified_vstep {S : Row → Prop} {U : Row → Nat → Prop} {cfg : Cfg} {sh sh' : Shared} {i : Nat} {v v' : VThread}
    (hhit : ∀ e, (v.val, e) ∈ sh.cache → hitOk cfg e sh.now = true →
      S e.info ∧ e.info.enabled = true ∧ e.info.hashOf = v.val ∧ U e.info sh.now)
    (hrow : ∀ r, sh.db = some r → S r) (hU : ∀ r now, expired r.expiry now = false → U r now)
    (hT : Justified S U v) (h : VStep cfg i sh v sh' v') : Justified S U v' := by
  obtain ⟨hrd, hres, hfresh, hhit'⟩ := hT
  cases h with
  | hit e hpc hlk hok =>
    exact ⟨nofun, fun h => absurd ((hfresh hpc).symm.trans h) nofun, nofun,
      fun _ => ⟨e, rfl, hhit e (lookup_mem hlk) hok⟩⟩
  | miss hpc => exact ⟨nofun, fun h => absurd ((hfresh hpc).symm.trans h) nofun, nofun, nofun⟩
  | read r _ _ hc =>
    obtain ⟨hdb, hen, _⟩ := candidate_spec hc
    exact ⟨fun _ => ⟨r, rfl, hrow r hdb, hen, nofun⟩, hres, nofun, nofun⟩
  | noRow | mismatch => exact ⟨nofun, hres, nofun, nofun⟩
  | expired | refuse => exact ⟨nofun, nofun, nofun, nofun⟩
  | verified r hpc hrd' hh hx =>
    obtain ⟨r', hr', hs, hen, _⟩ := hrd (.inl hpc)
    cases hrd'.symm.trans hr'
    exact ⟨fun _ => ⟨r, hrd', hs, hen, fun _ => ⟨hh, hx⟩⟩, hres, nofun, nofun⟩
  | skip _ hpc | insert _ hpc =>
    obtain ⟨r', hr', hs, hen, hh⟩ := hrd (.inr (.inl hpc))
    exact ⟨fun _ => ⟨r', hr', hs, hen, fun _ => hh (.inl hpc)⟩, hres, nofun, nofun⟩
  | ret hpc =>
    obtain ⟨r, _, hs, hen, hh⟩ := hrd (.inr (.inr hpc))
    obtain ⟨h1, h2⟩ := hh (.inr hpc)
    exact ⟨nofun, fun _ => ⟨r, hs, hen, h1, hU r _ h2⟩, nofun, nofun⟩
  | touch e hpc he | served e hpc he =>
    obtain ⟨e', _, hg⟩ := hhit' hpc
    exact ⟨nofun, fun _ => ⟨e'.info, hg⟩, nofun, nofun⟩

theorem justified_of_auth {cfg : Cfg} {db0 : Option Row} {s : State} (hA : Auth cfg db0 s) {i : Nat} {v : VThread}
    (hv : s.vs[i]? = some v) : Justified (Seen db0 s.sh.db) (Unexp cfg) v :=
  ⟨hA.rd i v hv, hA.res i v hv, hA.fresh i v hv, hA.hit i v hv⟩

theorem auth_of_justified {cfg : Cfg} {db0 : Option Row} {s : State} (hdb : s.m.pc = .start → s.sh.db = db0)
    (hc : ∀ k e, (k, e) ∈ s.sh.cache →
      Seen db0 s.sh.db e.info ∧ e.info.enabled = true ∧ e.info.hashOf = k ∧
        (∀ t, e.info.expiry = some t → e.cexp ≤ t + cfg.ttl))
    (ht : ∀ (i : Nat) (v : VThread), s.vs[i]? = some v → Justified (Seen db0 s.sh.db) (Unexp cfg) v) : Auth cfg db0 s :=
  ⟨hdb, hc, fun i v hv => (ht i v hv).rd, fun i v hv => (ht i v hv).res, fun i v hv => (ht i v hv).fresh,
    fun i v hv => (ht i v hv).hit⟩

/-- a hit is within the entry's lifetime; the token's own expiry is known only if re-checked -/
theorem unexp_of_hitOk {cfg : Cfg} {e : Entry} {now : Nat} (hce : ∀ t, e.info.expiry = some t → e.cexp ≤ t + cfg.ttl)
    (hok : hitOk cfg e now = true) : Unexp cfg e.info now := by
  intro t ht
  simp only [hitOk, Bool.and_eq_true, decide_eq_true_eq, Bool.or_eq_true, Bool.not_eq_eq_eq_not,
    Bool.not_true] at hok
  rcases hok.2 with hx | hx
  · exact .inr ⟨hx, Nat.lt_of_lt_of_le hok.1 (hce t ht)⟩
  · exact .inl (expired_false hx ht)

/-- when `Unexp` says "not expired": the hit path re-checks, the token has no expiry, or caching is off -/
theorem expired_of_unexp {cfg : Cfg} {r : Row} {now : Nat} (hu : Unexp cfg r now)
    (h : cfg.hitChecksExpiry = true ∨ r.expiry = none ∨ cfg.ttl = 0) : expired r.expiry now = false := by
  cases he : r.expiry with
  | none => rfl
  | some t =>
    refine decide_eq_false (Nat.not_lt.2 ?_)
    rcases hu t he with h1 | ⟨hx, hlt⟩
    · exact h1
    · rcases h with h | h | h
      · cases hx.symm.trans h
      · cases he.symm.trans h
      · rw [h] at hlt; exact Nat.le_of_lt hlt

theorem auth_step {cfg : Cfg} {db0 : Option Row} (hnt : cfg.hitTouch = false) {s : State} {ev : Ev} {s' : State}
    (hA : Auth cfg db0 s) (hs : Step cfg s ev s') : Auth cfg db0 s' := by
  cases hs with
  | @v i v sh' v' hv hvs =>
    obtain ⟨hdb, _⟩ := vStep_frame hvs
    refine auth_of_justified (fun h => hdb.trans (hA.dbfix h)) (fun k e hke => ?_) ?_
    · show Seen db0 sh'.db e.info ∧ _
      rw [hdb]
      rcases vStep_cache hnt hvs (k, e) hke with hold | ⟨hpc, r, hrd, hp, _⟩
      · exact hA.cache k e hold
      · -- the inserted entry: its row was seen, verified and unexpired when read
        cases hp
        obtain ⟨r', hr', hseen, hen, hh⟩ := hA.rd i v hv (.inr (.inl hpc))
        cases hrd.symm.trans hr'
        obtain ⟨h1, h2⟩ := hh (.inl hpc)
        exact ⟨hseen, hen, h1, fun t ht => Nat.add_le_add_right (expired_false h2 ht) _⟩
    · show ∀ j vj, _ → Justified (Seen db0 sh'.db) (Unexp cfg) vj
      rw [hdb]
      refine forall_set (justified_vstep (fun e he hok => ?_) (fun _ h => .inr h)
        (fun _ _ h t ht => .inl (expired_false h ht)) (justified_of_auth hA hv) hvs) fun j vj _ hj => justified_of_auth hA hj
      obtain ⟨h1, h2, h3, hce⟩ := hA.cache _ e he
      exact ⟨h1, h2, h3, unexp_of_hitOk hce hok⟩
  | m hms =>
    cases hms with
    | update r hpc _ _ =>
      -- before its SQL statement the database still holds `db0`
      have hseen : ∀ db' r, Seen db0 s.sh.db r → Seen db0 db' r :=
        fun _ _ h => .inl (h.elim id fun h => (hA.dbfix hpc) ▸ h)
      exact auth_of_justified nofun (fun k e hke => let ⟨h1, h2⟩ := hA.cache k e hke; ⟨hseen _ _ h1, h2⟩)
        fun j vj hj => justified_mono (justified_of_auth hA hj) (hseen _)
    | absent | finish => exact ⟨nofun, hA.cache, hA.rd, hA.res, hA.fresh, hA.hit⟩
    | flush => exact ⟨nofun, nofun, hA.rd, hA.res, hA.fresh, hA.hit⟩
  | tick d => exact ⟨hA.dbfix, hA.cache, hA.rd, hA.res, hA.fresh, hA.hit⟩
  | janitor =>
    exact ⟨hA.dbfix, fun k e hke => hA.cache k e (List.mem_filter.mp hke).1, hA.rd, hA.res, hA.fresh, hA.hit⟩

theorem auth_run {cfg : Cfg} {db0 : Option Row} (hnt : cfg.hitTouch = false) {evs : List Ev} {s s' : State}
    (hA : Auth cfg db0 s) (hr : run cfg s evs = some s') : Auth cfg db0 s' :=
  run_induction (fun _ => auth_step hnt) hA hr

theorem run_no_m {cfg : Cfg} {evs : List Ev} {s s' : State} (hne : ∀ e ∈ evs, e ≠ Ev.m)
    (hr : run cfg s evs = some s') : s'.m = s.m := by
  refine run_induction (P := fun t => t.m = s.m) (fun he h hs => ?_) rfl hr
  cases hs with
  | m => exact absurd rfl (hne _ he)
  | _ => exact h

theorem auth_cold {cfg : Cfg} {s : State} (hc : s.sh.cache = [])
    (hv : ∀ v ∈ s.vs, v.pc = .start ∧ v.res = none) : Auth cfg s.sh.db s := by
  refine auth_of_justified (fun _ => rfl) (fun k e hke => by rw [hc] at hke; cases hke) fun i v hi => ?_
  obtain ⟨hpc, hres⟩ := hv v (List.mem_of_getElem? hi)
  exact justified_fresh hpc hres

end Arc.C21
