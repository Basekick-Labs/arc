import Arc.Proofs.C21.Auth
/-!
C21 — once the mutator has returned (any kind, including an `expires_at` update) a verification that
starts afterwards is justified by the row the database holds NOW. `C21_full`, `C21_partial` and
`C21_authn_after_return` all rest on `after_return`.
-/
namespace Arc.C21

/-- the expiry clause that needs no bound on cache lifetimes: known exactly when the hit path re-checks -/
def Checked (cfg : Cfg) (r : Row) (now : Nat) : Prop :=
  cfg.hitChecksExpiry = true → expired r.expiry now = false

/-- what is carried along a run after the mutator returned: the database stays `db`, and verifier `i`,
presenting `k`, is justified by `db` alone at every program point -/
def After (cfg : Cfg) (db : Option Row) (i k : Nat) (s : State) : Prop :=
  Inv cfg s ∧ s.m.pc = .done ∧ s.sh.db = db ∧
    ∃ v, s.vs[i]? = some v ∧ v.val = k ∧ Justified (db = some ·) (Checked cfg) v

theorem after_step {cfg : Cfg} {db : Option Row} {i k : Nat} (hnt : cfg.hitTouch = false) {s : State} {ev : Ev}
    {s' : State} (h : After cfg db i k s) (hs : Step cfg s ev s') : After cfg db i k s' := by
  obtain ⟨hI, hdone, rfl, v, hv, hval, hT⟩ := h
  refine ⟨inv_step hnt hI hs (.inr (.inl fun h => by cases hdone.symm.trans h.2)), ?_⟩
  cases hs with
  | @v j vj sh' vj' hvj hvs =>
    refine ⟨hdone, (vStep_frame hvs).1, ?_⟩
    by_cases hji : j = i
    · subst hji
      cases hvj.symm.trans hv
      refine ⟨vj', by simp [List.getElem?_set_self', hv], (vStep_frame hvs).2.2.trans hval,
        justified_vstep (fun e he hok => ?_) (fun _ h => h) (fun _ _ h _ => h) hT hvs⟩
      -- a cached entry is the current row: the mutator has invalidated and is not in flight
      obtain ⟨hc, hh⟩ := (hI.cache _ e he).resolve_right fun h => by cases hdone.symm.trans h.1
      refine ⟨hc.1, hc.2, hh, fun hx => ?_⟩
      simp [hitOk, hx] at hok
      exact hok.2
    · exact ⟨v, by rw [List.getElem?_set_ne hji]; exact hv, hval, hT⟩
  | m hms => cases hms <;> cases hdone.symm.trans ‹s.m.pc = _›
  | tick | janitor => exact ⟨hdone, rfl, v, hv, hval, hT⟩

/-- From any invariant state in which the mutator has returned, along any interleaving: a verification
that had not started authenticates only if the row the database holds now — the post-mutation row —
is enabled, carries a hash of the presented value and (if the cache-hit path re-checks expiry) is not
expired at the verification's own clock reading. -/
theorem after_return {cfg : Cfg} (hnt : cfg.hitTouch = false) {s1 s2 : State} {post : List Ev} {i : Nat}
    {v v' : VThread} (hI : Inv cfg s1) (hdone : s1.m.pc = .done) (hv : s1.vs[i]? = some v)
    (hstart : v.pc = .start) (hres : v.res = none) (h2 : run cfg s1 post = some s2)
    (hv' : s2.vs[i]? = some v') (hok : v'.res = some true) :
    v'.val = v.val ∧ ∃ r, s1.sh.db = some r ∧ r.enabled = true ∧ r.hashOf = v'.val ∧ Checked cfg r v'.now := by
  obtain ⟨_, _, _, v'', hv'', hval, hT'⟩ :=
    run_induction (fun _ => after_step hnt) ⟨hI, hdone, rfl, v, hv, rfl, justified_fresh hstart hres⟩ h2
  cases hv'.symm.trans hv''
  exact ⟨hval, hT'.res hok⟩

end Arc.C21
