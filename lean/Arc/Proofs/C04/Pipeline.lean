import Arc.Proofs.C04.Basic
/-! C04: the buffer invariant (every buffered batch has columns of one length) is preserved by
every request of the carve-out, and under it no step can panic. -/
namespace Arc.C04
open Arc.Generated.C04

def GoodBuf (l : List Batch) : Prop := ∀ b ∈ l, evenBatch b = true

def Inv (s : St) : Prop := ∀ p ∈ s.bufs, GoodBuf p.2

theorem goodBuf_nil : GoodBuf [] := List.forall_mem_nil _

theorem bufGet_good {s : St} (h : Inv s) (k : Name) : GoodBuf (bufGet s k) := by
  unfold bufGet
  cases hl : s.bufs.lookup k with
  | none => exact goodBuf_nil
  | some l => exact h (k, l) (lookup_mem hl)

theorem inv_erase {s : St} (h : Inv s) (k : Name) : Inv (bufErase s k) :=
  fun p hp => h p (List.mem_filter.1 hp).1

theorem inv_set {s : St} (h : Inv s) (k : Name) {l : List Batch} (hl : GoodBuf l) : Inv (bufSet s k l) :=
  List.forall_mem_cons.2 ⟨hl, inv_erase h k⟩

theorem inv_applyFlush {s : St} (h : Inv s) {k : Name} {l : List Batch} {r : Option FileOut} :
    Inv (applyFlush s k l r) := by
  cases r <;> exact h

theorem bufGet_erase (s : St) (k : Name) : bufGet (bufErase s k) k = [] := by
  have : (s.bufs.filter (fun p => p.1 != k)).lookup k = none :=
    List.lookup_eq_none_iff.2 fun p hp => by rw [bne_comm]; exact (List.mem_filter.1 hp).2
  simp only [bufGet, bufErase, this, Option.getD_none]

theorem bufGet_applyFlush (s : St) (k k' : Name) (l : List Batch) (r : Option FileOut) :
    bufGet (applyFlush s k' l r) k = bufGet s k := by
  cases r <;> rfl

/-- a normal return whose state keeps the invariant and whose output satisfies `P` -/
def Safe {α : Type} (P : α → Prop) (x : Except Site (α × St)) : Prop :=
  ∃ a s', x = .ok (a, s') ∧ Inv s' ∧ P a

theorem appendStage_ok (cfg : Cfg) {s1 : St} (h : Inv s1) {k : Name} {b : Batch}
    (hg : GoodBuf (bufGet s1 k ++ [b])) : Safe (· = .ok) (appendStage cfg s1 k b) := by
  unfold appendStage
  dsimp only
  have h2 : Inv ({ s1 with appended := s1.appended + b.nrec } : St) := h
  split
  · obtain ⟨r, hr⟩ := flushBatches_ok hg
    rw [hr]
    exact ⟨_, _, rfl, inv_applyFlush (inv_erase h2 k), rfl⟩
  · exact ⟨_, _, rfl, inv_set h2 k hg, rfl⟩

/-- a validated database name (≤ 64 bytes) fits the envelope header (258 bytes) -/
theorem envPanics_false (cfg : Cfg) {db : Name} (h : validDb db = true) : envPanics cfg db = false := by
  have hl : db.length ≤ 64 := by
    cases db with
    | nil => cases h
    | cons c rest =>
      simp only [validDb, Bool.and_eq_true, decide_eq_true_eq] at h
      exact h.1.1
  have h2 : ¬ (3 + db.length > envHeaderCap) := by unfold envHeaderCap; omega
  simp [envPanics, h2]

/-- the synchronous flush on a signature change empties the buffer; either way the new batch joins even ones -/
theorem syncStage_ok {s : St} (h : Inv s) (k : Name) {b : Batch} (hb : evenBatch b = true) :
    ∃ s1, syncStage s k b = .ok s1 ∧ Inv s1 ∧ GoodBuf (bufGet s1 k ++ [b]) := by
  unfold syncStage
  have hg := bufGet_good h k
  split
  · obtain ⟨r, hr⟩ := flushBatches_ok hg
    rw [hr]
    refine ⟨_, rfl, inv_applyFlush (inv_erase h k), ?_⟩
    rw [bufGet_applyFlush, bufGet_erase]
    exact forall_mem_snoc goodBuf_nil hb
  · exact ⟨s, rfl, h, forall_mem_snoc hg hb⟩

/-- The only thing the no-panic theorem asks of a request: the batches of its TYPED records (typed
msgpack fast path, TLE, CSV, Parquet — built by code outside the model) have columns of one length.
Generic and row records need nothing: `convertColumnsToTyped` itself refuses ragged columns. -/
def CleanRec : Rec → Bool
  | .typed _ b => evenBatch b
  | _ => true

/-- the producer contract of `C04_partial` (decidable; validated by the harness monitor
`ragged-typed-batch`) -/
def CleanReq (r : Req) : Bool := r.recs.all CleanRec

section
variable (cfg : Cfg) {s : St} (h : Inv s) {db : Name} (hdb : validDb db = true)
include h hdb

theorem bufferBatch_ok (meas : Name) {b : Batch} (hb : evenBatch b = true) :
    Safe (fun o => ∀ site, o ≠ .reqPanic site) (bufferBatch cfg s db meas b) := by
  unfold bufferBatch
  split
  · exact ⟨.reject, s, rfl, h, fun _ hh => nomatch hh⟩
  · obtain ⟨s1, hs1, hi1, hg1⟩ := syncStage_ok h (keyOf db meas) hb
    obtain ⟨_, s', hw, hi, rfl⟩ := appendStage_ok cfg hi1 hg1
    simp only [writeBatch, envPanics_false cfg hdb, Bool.false_eq_true, if_false, hs1, hw]
    exact ⟨_, _, rfl, hi, fun _ hh => nomatch hh⟩

theorem writeRec_ok {r : Rec} (hr : CleanRec r = true) :
    Safe (fun o => ∀ site, o ≠ .reqPanic site) (writeRec cfg s db r) := by
  cases r with
  | nested => exact ⟨.reject, s, rfl, h, fun _ hh => nomatch hh⟩
  | typed meas b => exact bufferBatch_ok cfg h hdb meas hr
  | generic meas _ times nrec | rows meas _ times nrec =>
    simp only [writeRec]
    split
    · exact ⟨_, _, rfl, h, fun _ hh => nomatch hh⟩
    · exact bufferBatch_ok cfg h hdb meas (convert_even ‹_›)

end

theorem writeRecs_ok (cfg : Cfg) {db : Name} (hdb : validDb db = true) :
    ∀ (recs : List Rec) {s : St} (added : Nat), Inv s → (∀ r ∈ recs, CleanRec r = true) →
    Safe (·.panic = none) (writeRecs cfg db s added recs)
  | [], s, added, h, _ => ⟨_, _, rfl, h, rfl⟩
  | r :: rest, s, added, h, hr => by
    obtain ⟨hr1, hr2⟩ := List.forall_mem_cons.1 hr
    obtain ⟨o, s', hw, hi, hno⟩ := writeRec_ok cfg h hdb hr1
    unfold writeRecs
    rw [hw]
    cases o with
    | ok n => exact writeRecs_ok cfg hdb rest _ hi hr2
    | reject => exact ⟨_, _, rfl, hi, rfl⟩
    | reqPanic site => exact absurd rfl (hno site)

theorem flushAll_ok : ∀ (L : List (Name × List Batch)) (s : St) (err : Bool),
    (∀ p ∈ L, GoodBuf p.2) → Inv s → ∃ e s', flushAll L s err = (e, none, s') ∧ Inv s'
  | [], s, err, _, h => ⟨_, _, rfl, h⟩
  | (k, l) :: rest, s, err, hL, h => by
    obtain ⟨hg, hL'⟩ := List.forall_mem_cons.1 hL
    obtain ⟨r, hr⟩ := flushBatches_ok hg
    unfold flushAll
    rw [hr]
    exact flushAll_ok rest _ _ hL' (inv_applyFlush (inv_erase h k))

/-- one of the three validation stages (library decoders, database name, measurement names) refuses the request -/
abbrev Req.refused (r : Req) : Prop :=
  r.pre.isSome ∨ validDb r.db = false ∨ r.vmeas.any (fun m => !validMeas m) = true

/-- … and then `step` answers without touching the state -/
theorem step_rejected (cfg : Cfg) (s : St) {r : Req} (hv : r.refused) :
    ∃ st, step cfg s r = .ok ({ status := st }, s) := by
  unfold step
  cases hp : r.pre with
  | some st => exact ⟨st, rfl⟩
  | none =>
    refine ⟨400, ?_⟩
    cases hdb : validDb r.db with
    | false => rfl
    | true =>
      rcases hv with hv | hv | hv
      · rw [hp] at hv; cases hv
      · rw [hdb] at hv; cases hv
      · simp only [hv, Bool.not_true, Bool.false_eq_true, if_false, if_true]

/-- a request that passes all three goes to the record loop -/
theorem of_not_refused {r : Req} (hv : ¬ r.refused) :
    r.pre = none ∧ validDb r.db = true ∧ r.vmeas.any (fun m => !validMeas m) = false := by
  simp only [Req.refused, not_or, Bool.not_eq_false, Bool.not_eq_true, Option.isSome_eq_false_iff, Option.isNone_iff_eq_none] at hv
  exact hv

theorem step_ok (cfg : Cfg) {s : St} (h : Inv s) {r : Req} (hr : CleanReq r = true) :
    Safe (·.panic = none) (step cfg s r) := by
  by_cases hv : r.refused
  · obtain ⟨st, hs⟩ := step_rejected cfg s hv
    exact ⟨_, _, hs, h, rfl⟩
  · obtain ⟨hp, hdb, hm⟩ := of_not_refused hv
    obtain ⟨resp, s1, hw, hi, hn⟩ := writeRecs_ok cfg hdb r.recs 0 h (List.all_eq_true.1 hr)
    simp only [step, hp, hdb, hm, hw, Bool.not_true, Bool.false_eq_true, if_false]
    split
    · exact ⟨_, _, rfl, hi, hn⟩
    · obtain ⟨e, s2, hf, hi2⟩ := flushAll_ok s1.bufs s1 false hi hi
      rw [hf]
      cases e <;> exact ⟨_, _, rfl, hi2, hn⟩

theorem pipelineFrom_ok (cfg : Cfg) : ∀ (reqs : List Req) {s : St}, Inv s → (∀ r ∈ reqs, CleanReq r = true) →
    Safe (fun resps => ∀ resp ∈ resps, resp.panic = none) (pipelineFrom cfg s reqs)
  | [], s, h, _ => ⟨_, _, rfl, h, fun _ hh => nomatch hh⟩
  | r :: rest, s, h, hr => by
    obtain ⟨hr1, hr2⟩ := List.forall_mem_cons.1 hr
    obtain ⟨resp, s1, hs, hi, hn⟩ := step_ok cfg h hr1
    obtain ⟨resps, s2, hp, hi2, hn2⟩ := pipelineFrom_ok cfg rest hi hr2
    unfold pipelineFrom
    rw [hs]; dsimp only; rw [hp]
    exact ⟨_, _, rfl, hi2, List.forall_mem_cons.2 ⟨hn, hn2⟩⟩

theorem drain_ok : ∀ (L : List (Name × List Batch)) (s : St),
    (∀ p ∈ L, GoodBuf p.2) → ∃ s', drain L s = .ok s'
  | [], s, _ => ⟨_, rfl⟩
  | (k, l) :: rest, s, hL => by
    obtain ⟨hg, hL'⟩ := List.forall_mem_cons.1 hL
    obtain ⟨r, hr⟩ := flushBatches_ok hg
    unfold drain
    rw [hr]
    exact drain_ok rest _ hL'

end Arc.C04
