import Arc.Model.C04
import Arc.Base.Lists
/-! C04: a flush of batches whose columns all have the length of the `time` column cannot panic
(current /repo: empty names are guarded in the schema builders, mergeBatches returns an error on a
type conflict — both read from the regenerated facts), and `convertColumnsToTyped` hands over only
such batches. -/
namespace Arc.C04
open Arc.Generated.C04

/-- the column, and its validity vector if there is one, have `n` entries -/
def Col.fits (n : Nat) (c : Col) : Prop := c.len = n ∧ (c.vlen = 0 ∨ c.vlen = c.len)

/-- what `flushMerged` needs of a batch to be panic-free -/
def flushable (m : Batch) : Prop := m.times = [] ∨ ∀ c ∈ m.cols, c.fits m.times.length

/-- the carve-out on batches: every column, and every validity vector that exists, is exactly as long
as the `time` column. (Every producer except `rowsToColumnar` builds such batches; see
`C04_time_field_rejected`.) -/
def evenBatch (b : Batch) : Bool :=
  b.times.isEmpty || b.cols.all (fun c => c.len == b.times.length && (c.vlen == 0 || c.vlen == c.len))

theorem even_iff_flushable {b : Batch} : evenBatch b = true ↔ flushable b := by
  simp only [evenBatch, Bool.or_eq_true, List.isEmpty_iff, List.all_eq_true, Bool.and_eq_true, beq_iff_eq]
  rfl

theorem allLensEq_iff {l : List Col} : allLensEq l = true ↔ ∀ c ∈ l, ∀ d ∈ l, c.len = d.len := by
  cases l with
  | nil => exact ⟨fun _ _ hc => (nomatch hc), fun _ => rfl⟩
  | cons x rest =>
    simp only [allLensEq, List.all_eq_true, beq_iff_eq]
    refine ⟨fun h c hc d hd => ?_, fun h d hd => h d (List.mem_cons_of_mem _ hd) x (List.mem_cons_self ..)⟩
    have hx : ∀ c ∈ x :: rest, c.len = x.len := List.forall_mem_cons.2 ⟨rfl, h⟩
    rw [hx c hc, hx d hd]

theorem writeParquet_ok {cols : List Col} {n rows : Nat} (h : ∀ c ∈ cols, c.fits n) :
    ∃ r, writeParquet cols rows = .ok r := by
  have hsub : ∀ c ∈ schemaFields cols, c.fits n := fun c hc => h c (List.mem_filter.1 hc).1
  have h2 : (schemaFields cols).any (fun c => c.vlen != 0 && c.vlen != c.len) = false :=
    List.any_eq_false.2 fun c hc => by rcases (hsub c hc).2 with hv | hv <;> simp [hv]
  have h3 : allLensEq (schemaFields cols) = true :=
    allLensEq_iff.2 fun c hc d hd => (hsub c hc).1.trans (hsub d hd).1.symm
  -- `name[0]` is guarded in the current source
  have hg : schemaGuardsEmpty = true := rfl
  simp only [writeParquet, hg, h2, h3, Bool.not_true, Bool.false_and, Bool.false_eq_true, if_false]
  split <;> exact ⟨_, rfl⟩

theorem evened_fits {cols : List Col} {n : Nat} : ∀ c ∈ evened cols n, c.fits n := by
  intro c hc
  obtain ⟨d, _, rfl⟩ := List.mem_map.1 hc
  refine ⟨rfl, ?_⟩
  by_cases hv : d.vlen == 0 <;> simp [hv]

theorem flushMerged_ok {m : Batch} (h : flushable m) : ∃ r, flushMerged m = .ok r := by
  unfold flushMerged
  split
  · exact ⟨_, rfl⟩
  · rename_i hts
    have h := h.resolve_left (by rw [hts]; exact List.cons_ne_nil _ _)
    -- no column and no validity vector is shorter than `time`: the permutation stays in range
    have h1 : m.cols.any (fun c => decide (c.len < m.times.length)) = false :=
      List.any_eq_false.2 fun c hc => by simp [(h c hc).1]
    have h2 : m.cols.any (fun c => c.vlen != 0 && decide (c.vlen < m.times.length)) = false :=
      List.any_eq_false.2 fun c hc => by rcases (h c hc).2 with hv | hv <;> simp [hv, (h c hc).1]
    simp only [h1, h2, Bool.and_false, Bool.false_eq_true, if_false]
    split
    · split
      · exact writeParquet_ok h
      · exact writeParquet_ok (evened_fits)
    · exact writeParquet_ok (evened_fits)

theorem merged_flushable {bs : List Batch} : flushable (mergedBatch bs) := by
  refine .inr fun c hc => ?_
  obtain ⟨nm, _, rfl⟩ := List.mem_map.1 hc
  exact ⟨rfl, .inl rfl⟩

/-- a flush of even batches cannot panic (a type conflict makes mergeBatches return an error) -/
theorem flushBatches_ok {bs : List Batch} (hc : ∀ b ∈ bs, evenBatch b = true) :
    ∃ r, flushBatches bs = .ok r := by
  unfold flushBatches mergeBatches
  match bs, hc with
  | [], _ => exact ⟨_, rfl⟩
  | [b], hc => exact flushMerged_ok (even_iff_flushable.1 (hc b (List.mem_cons_self ..)))
  | b1 :: b2 :: rest, _ =>
    have hm : mergeUncheckedAsserts = 0 := rfl
    simp only [hm, Nat.lt_irrefl, decide_false, Bool.false_and, Bool.false_eq_true, if_false]
    by_cases hcf : conflict (b1 :: b2 :: rest) = true
    · simp only [hcf, if_true]; exact ⟨_, rfl⟩
    · simp only [hcf]
      exact flushMerged_ok merged_flushable

/-! ### convertColumnsToTyped hands over even batches (fact `convertChecksLengths`) -/

theorem of_ite_eq {α : Type} {c : Prop} [Decidable c] {a b x : α} (h : (if c then a else b) = x) :
    a = x ∨ b = x :=
  (ite_cases h).imp And.right And.right

/-- every arm of `convCol` that returns a column gives it `n`, `0` or `if hasNil cs then n else 0`
validity entries -/
theorem convCol_vlen {nm : Name} {cs : List Cell} {c : Col} (h : convCol nm cs = some c) :
    c.vlen = 0 ∨ c.vlen = c.len := by
  have hv : (if hasNil cs then cs.length else 0) = 0 ∨ (if hasNil cs then cs.length else 0) = cs.length := by
    split <;> simp
  unfold convCol at h
  cases hf : firstNonNil cs with
  | none =>
    rw [hf] at h
    rcases of_ite_eq h with h | h <;> cases h
    exact .inr rfl
  | some first =>
    rw [hf] at h
    rcases of_ite_eq h with h | h
    · rcases of_ite_eq h with h | h
      · cases h
      · rw [← (Option.ite_some_none_eq_some.1 h).2]; exact .inl rfl
    · cases first <;> first | cases h | (rw [← (Option.ite_some_none_eq_some.1 h).2]; exact hv)

theorem convCols_vlen : ∀ {cols : List (Name × List Cell)} {out : List Col}, convCols cols = some out →
    ∀ c ∈ out, c.vlen = 0 ∨ c.vlen = c.len
  | [], out, h => by
    cases h; intro c hc; cases hc
  | (nm, cs) :: rest, out, h => by
    unfold convCols at h
    split at h
    · exact convCols_vlen h
    · split at h
      · rename_i c r hc hr
        cases h
        intro d hd
        rcases List.mem_cons.1 hd with rfl | hd
        · exact convCol_vlen hc
        · exact convCols_vlen hr d hd
      · cases h

theorem convert_even {cols : List (Name × List Cell)} {times : List Int} {nrec : Nat} {b : Batch}
    (h : convert cols times nrec = some b) : evenBatch b = true := by
  unfold convert at h
  split at h
  · cases h
  · rename_i cs hc
    have hf : convertChecksLengths = true := rfl
    simp only [hf, Bool.true_and] at h
    split at h
    · cases h
    · rename_i hl
      cases h
      simp only [Bool.not_eq_true', Bool.not_eq_false] at hl
      refine even_iff_flushable.2 ?_
      split
      · -- a `time` column exists: `times` is cut to its length, which is every column's length
        split
        · rename_i c0 hfind
          refine .inr fun c hcm => ⟨?_, convCols_vlen hc c hcm⟩
          simp only [fitLen, List.length_map, List.length_range]
          exact allLensEq_iff.1 hl c hcm c0 (List.mem_of_find?_eq_some hfind)
        · exact .inl rfl
      · exact .inl rfl

end Arc.C04
