import Arc.Model.C09
import Arc.Base.Lists
/-!
Rows as multisets (lists compared by `count`); `RowRel`, the relation between visible and original
rows the invariant is parametric in (`Coll` where files declare a dedup level, `MEq` where none
does); storage as an association list with distinct keys.
-/
namespace Arc.C09

def MEq (a b : List Row) : Prop := ∀ r, a.count r = b.count r
def MLe (a b : List Row) : Prop := ∀ r, a.count r ≤ b.count r
/-- every row of `b` has a row with the same (tags,time) key (at dedup level `L`) in `a` -/
def Covers (L : Nat) (a b : List Row) : Prop := ∀ r ∈ b, ∃ r' ∈ a, keyAt L r' = keyAt L r
/-- `a` is a collapse of `b`: nothing new, nothing more often, every key still there -/
def Coll (L : Nat) (a b : List Row) : Prop := MLe a b ∧ Covers L a b

theorem MEq.refl (a : List Row) : MEq a a := fun _ => rfl
theorem MEq.symm {a b : List Row} (h : MEq a b) : MEq b a := fun r => (h r).symm
theorem MEq.trans {a b c : List Row} (h1 : MEq a b) (h2 : MEq b c) : MEq a c :=
  fun r => (h1 r).trans (h2 r)

theorem MEq.mem_iff {a b : List Row} (h : MEq a b) (r : Row) : r ∈ a ↔ r ∈ b := by
  rw [← List.count_pos_iff, ← List.count_pos_iff, h r]

theorem MLe.mem {a b : List Row} (h : MLe a b) {r : Row} (hr : r ∈ a) : r ∈ b :=
  List.count_pos_iff.mp (Nat.lt_of_lt_of_le (List.count_pos_iff.mpr hr) (h r))

theorem MEq.append {a a' b b' : List Row} (h1 : MEq a a') (h2 : MEq b b') : MEq (a ++ b) (a' ++ b') := by
  intro r; simp [List.count_append, h1 r, h2 r]

theorem MEq.append_comm (a b : List Row) : MEq (a ++ b) (b ++ a) := by
  intro r; simp [List.count_append, Nat.add_comm]

theorem Coll.of_meq {L : Nat} {a b : List Row} (h : MEq a b) : Coll L a b :=
  ⟨fun r => Nat.le_of_eq (h r), fun r hr => ⟨r, (h.mem_iff r).mpr hr, rfl⟩⟩

theorem Coll.congr {L : Nat} {a a' b b' : List Row} (ha : MEq a a') (hb : MEq b b') (h : Coll L a b) : Coll L a' b' := by
  refine ⟨fun r => ?_, fun r hr => ?_⟩
  · rw [← ha r, ← hb r]; exact h.1 r
  · obtain ⟨r', h1, h2⟩ := h.2 r ((hb.mem_iff r).mpr hr)
    exact ⟨r', (ha.mem_iff r').mp h1, h2⟩

theorem Coll.trans {L : Nat} {a b c : List Row} (h1 : Coll L a b) (h2 : Coll L b c) : Coll L a c := by
  refine ⟨fun r => Nat.le_trans (h1.1 r) (h2.1 r), fun r hr => ?_⟩
  obtain ⟨r', h3, h4⟩ := h2.2 r hr
  obtain ⟨r'', h5, h6⟩ := h1.2 r' h3
  exact ⟨r'', h5, h6.trans h4⟩

theorem Coll.append_left {L : Nat} (x : List Row) {a b : List Row} (h : Coll L a b) : Coll L (x ++ a) (x ++ b) := by
  refine ⟨fun r => ?_, fun r hr => ?_⟩
  · simp only [List.count_append]; exact Nat.add_le_add_left (h.1 r) _
  · rcases List.mem_append.mp hr with hx | hb
    · exact ⟨r, List.mem_append_left _ hx, rfl⟩
    · obtain ⟨r', h1, h2⟩ := h.2 r hb
      exact ⟨r', List.mem_append_right _ h1, h2⟩

/-- the relation the invariant is stated for (instantiated with `Coll` and with `MEq`) -/
structure RowRel where
  lvl : Nat
  R : List Row → List Row → Prop
  okLevel : Nat → Prop
  okZero : okLevel 0
  congr : ∀ {a a' b b'}, MEq a a' → MEq b b' → R a b → R a' b'
  refl : ∀ a, R a a
  trans : ∀ {a b c}, R a b → R b c → R a c
  app : ∀ (x) {a b}, R a b → R (x ++ a) (x ++ b)
  cov : ∀ {a b}, R a b → Covers lvl a b

/-- partitions whose metadata-carrying files all declare level `L` -/
def collRel (L : Nat) : RowRel where
  lvl := L
  R := Coll L
  okLevel := fun l => l = 0 ∨ l = L
  okZero := Or.inl rfl
  congr := Coll.congr
  refl := fun a => Coll.of_meq (MEq.refl a)
  trans := Coll.trans
  app := fun x _ _ h => Coll.append_left x h
  cov := fun h => h.2

/-- partitions without any dedup metadata -/
def meqRel : RowRel where
  lvl := 0
  R := MEq
  okLevel := fun l => l = 0
  okZero := rfl
  congr := fun ha hb h => (ha.symm.trans h).trans hb
  refl := MEq.refl
  trans := MEq.trans
  app := fun x _ _ h => MEq.append (MEq.refl x) h
  cov := fun h => (Coll.of_meq (L := 0) h).2

abbrev Files := List (Path × File)

def keysOf (fs : Files) : List Path := fs.map (fun x => x.1)

theorem rowsOf_nil : rowsOf [] = [] := rfl
theorem rowsOf_cons (x : Path × File) (fs : Files) : rowsOf (x :: fs) = x.2.rows ++ rowsOf fs :=
  List.flatMap_cons
theorem rowsOf_append (a b : Files) : rowsOf (a ++ b) = rowsOf a ++ rowsOf b :=
  List.flatMap_append

theorem rowsOf_split (P : Path × File → Bool) (fs : Files) :
    MEq (rowsOf fs) (rowsOf (fs.filter P) ++ rowsOf (fs.filter (fun x => !P x))) := fun r => by
  rw [← rowsOf_append]
  exact (((List.filter_append_perm P fs).flatMap_right _).count_eq r).symm

theorem mem_keysOf {fs : Files} {p : Path} : p ∈ keysOf fs ↔ ∃ f, (p, f) ∈ fs :=
  ⟨fun h => by obtain ⟨⟨_, f⟩, hx, rfl⟩ := List.mem_map.mp h; exact ⟨f, hx⟩,
   fun ⟨f, hf⟩ => List.mem_map.mpr ⟨(p, f), hf, rfl⟩⟩

theorem key_mem_keysOf {fs : Files} {x : Path × File} (hx : x ∈ fs) : x.1 ∈ keysOf fs :=
  List.mem_map.mpr ⟨x, hx, rfl⟩

theorem lookup_eq_none {fs : Files} {p : Path} : fs.lookup p = none ↔ p ∉ keysOf fs :=
  lookup_none_iff

theorem keysOf_delKey (fs : Files) (p : Path) : keysOf (delKey fs p) = (keysOf fs).filter (fun k => k != p) := by
  unfold keysOf delKey
  rw [List.filter_map]; rfl

theorem nodup_delKey {fs : Files} (p : Path) (h : (keysOf fs).Nodup) : (keysOf (delKey fs p)).Nodup := by
  rw [keysOf_delKey]; exact h.filter _

theorem mem_delKey {fs : Files} {p : Path} {x : Path × File} : x ∈ delKey fs p ↔ x ∈ fs ∧ x.1 ≠ p := by
  simp [delKey]

theorem lookup_delKey_ne {fs : Files} {p q : Path} (h : p ≠ q) : (delKey fs q).lookup p = fs.lookup p :=
  lookup_filter _ p fs fun _ _ => bne_iff_ne.mpr h

theorem lookup_delKey_self (fs : Files) (q : Path) : (delKey fs q).lookup q = none := by
  rw [lookup_eq_none, keysOf_delKey]; simp

theorem lookup_append_of_some {a b : Files} {p : Path} {f : File} (h : a.lookup p = some f) :
    (a ++ b).lookup p = some f := by
  rw [List.lookup_append, h]; rfl

end Arc.C09
