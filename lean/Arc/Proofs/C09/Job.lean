import Arc.Proofs.C09.Inv
/-!
The invariant on states (`Inv`: well-formed storage, and no manifest pending or exactly one in
case A/B), and `JobState`: the states a job started without a pending manifest passes through —
nothing done, manifest written, output torn or complete, inputs deleted one by one, manifest deleted.
-/
namespace Arc.C09
open Arc.Generated.C09

structure WF (rel : RowRel) (s : St) : Prop where
  nodup : (keysOf s.files).Nodup
  fresh : ∀ p ∈ keysOf s.files, p < outBase + s.njobs
  ok : ∀ x ∈ s.files, rel.okLevel x.2.level

/-- the invariant: no manifest pending and all files live, or one manifest pending in state A/B -/
def Inv (rel : RowRel) (R0 : List Row) (s : St) : Prop :=
  WF rel s ∧ ((s.mans = [] ∧ Inv0 rel R0 s.files) ∨ ∃ m, s.mans = [m] ∧ InvM rel R0 s.files m)

def canonSteps : List JobStep := [.writeManifest, .upload, .deleteInputs, .deleteManifest]

/-- what is assumed about the compaction query (DuckDB), relative to `rel` -/
def CompactOk (rel : RowRel) (cfg : Cfg) : Prop :=
  ∀ fs : List File, (∀ f ∈ fs, rel.okLevel f.level) → rel.R (compactRows cfg fs) (fs.flatMap (fun f => f.rows))

theorem applyMuts_delInputs (ps : List Path) : ∀ (s : St),
    applyMuts s (ps.map .delInput) = { s with files := delKeys s.files ps } := by
  induction ps with
  | nil => intro s; rfl
  | cons p ps ih =>
    intro s
    simp only [List.map_cons, applyMuts, List.foldl] at ih ⊢
    rw [ih]; rfl

theorem applyMuts_nil (s : St) : applyMuts s [] = s := rfl
theorem applyMuts_cons (s : St) (m : Mut) (ms : List Mut) : applyMuts s (m :: ms) = applyMuts (applyMut s m) ms := rfl

theorem applyMuts_append (s : St) (a b : List Mut) : applyMuts s (a ++ b) = applyMuts (applyMuts s a) b := by
  simp [applyMuts, List.foldl_append]

theorem applyMut_delManifest {s : St} {m : Manifest} (hm : s.mans = [m]) :
    applyMut s (.delManifest m.mid) = { s with mans := [] } := by
  simp [applyMut, hm]

def bump (s : St) : St := { s with njobs := s.njobs + 1 }

/-- an index into the deletes of a job or of a recovery: an input delete, or the closing manifest delete -/
theorem getElem?_dels {ps : List Path} {mid j : Nat} {x : Mut}
    (h : (ps.map Mut.delInput ++ [Mut.delManifest mid])[j]? = some x) :
    (j < ps.length ∧ ∃ p ∈ ps, x = .delInput p) ∨ (j = ps.length ∧ x = .delManifest mid) := by
  by_cases hj : j < ps.length
  · rw [List.getElem?_append_left (by rwa [List.length_map]), List.getElem?_map] at h
    obtain ⟨p, hp, rfl⟩ := Option.map_eq_some_iff.mp h
    exact .inl ⟨hj, p, List.mem_of_getElem? hp, rfl⟩
  · rw [List.getElem?_append_right (by rw [List.length_map]; omega), List.length_map] at h
    obtain ⟨hlt, rfl⟩ := List.getElem?_eq_some_iff.mp h
    have hj' : j - ps.length = 0 := Nat.lt_one_iff.mp hlt
    exact .inr ⟨by omega, by simp only [hj']; rfl⟩

section job
variable {rel : RowRel} {R0 : List Row} {cfg : Cfg}

theorem wf_bump {s : St} (h : WF rel s) : WF rel (bump s) :=
  ⟨h.nodup, fun p hp => Nat.lt_succ_of_lt (h.fresh p hp), h.ok⟩

theorem wf_sub {s : St} (h : WF rel s) {fs : Files} (hn : (keysOf fs).Nodup) (hsub : ∀ x ∈ fs, x ∈ s.files)
    (mans : List Manifest) : WF rel { files := fs, mans := mans, njobs := s.njobs } :=
  ⟨hn, List.forall_mem_map.mpr fun x hx => h.fresh _ (key_mem_keysOf (hsub x hx)),
    fun x hx => h.ok x (hsub x hx)⟩

theorem get_of_mem {s : St} (h : WF rel s) {x : Path × File} (hx : x ∈ s.files) : s.get x.1 = some x.2 :=
  lookup_of_mem h.nodup (by cases x; exact hx)

theorem mem_validInputs {s : St} {ins : List Path} {p : Path} (hp : p ∈ validInputs s ins) :
    p ∈ ins ∧ ∃ f, s.get p = some f ∧ f.complete = true := by
  simp only [validInputs, List.mem_filter] at hp
  refine ⟨hp.1, ?_⟩
  cases hg : s.get p with
  | none => simp [hg] at hp
  | some f => simp [hg] at hp; exact ⟨f, rfl, hp.2⟩

theorem out_fresh {s : St} (h : WF rel s) : outBase + s.njobs ∉ keysOf s.files :=
  fun hm => Nat.lt_irrefl _ (h.fresh _ hm)

theorem inputs_not_out {s : St} (h : WF rel s) (ins : List Path) :
    (jobManifest s ins).inputs.contains (jobManifest s ins).out = false :=
  Bool.eq_false_iff.mpr fun hc => by
    obtain ⟨_, f, hf, _⟩ := mem_validInputs (List.contains_iff_mem.mp hc)
    exact out_fresh h (key_mem_keysOf (lookup_mem hf))

theorem inputFiles_eq {s : St} (h : WF rel s) (ins : List Path) :
    inputFiles s ins = s.files.filter (fun x => (jobManifest s ins).inputs.contains x.1) := by
  simp only [inputFiles, jobManifest]
  apply List.filter_congr
  intro x hx
  have hg := get_of_mem h hx
  by_cases hin : x.1 ∈ ins
  · cases hc : x.2.complete <;> simp [validInputs, hin, hg, hc]
  · simp [validInputs, hin]

theorem outFile_R (hC : CompactOk rel cfg) {s : St} (h : WF rel s) (ins : List Path) :
    rel.R (jobOutFile cfg s ins).rows
      (rowsOf (s.files.filter (fun x => (jobManifest s ins).inputs.contains x.1))) := by
  rw [← inputFiles_eq h ins]
  have := hC ((inputFiles s ins).map (fun x => x.2)) (by
    intro f hf
    obtain ⟨x, hx, rfl⟩ := List.mem_map.mp hf
    exact h.ok x (List.mem_filter.mp hx).1)
  simpa [jobOutFile, rowsOf, List.flatMap_map] using this

/-- everything a (possibly interrupted) job can leave behind, started with no manifest pending -/
structure JobState (rel : RowRel) (R0 : List Row) (s : St) (ins : List Path) (t : St) : Prop where
  inv : Inv rel R0 t
  mans : t.mans = [] ∨ t.mans = [jobManifest s ins]

theorem inv0_of_mans_nil (s : St) (hs : Inv rel R0 s) (h0 : s.mans = []) : Inv0 rel R0 s.files := by
  rcases hs.2 with h | ⟨m, hm, _⟩
  · exact h.2
  · cases h0.symm.trans hm

theorem invM_of_mans {s : St} {m : Manifest} (hs : Inv rel R0 s) (hm : s.mans = [m]) :
    InvM rel R0 s.files m := by
  rcases hs.2 with ⟨h, _⟩ | ⟨m', hm', hM⟩
  · cases hm.symm.trans h
  · cases hm.symm.trans hm'; exact hM

def upFiles (s : St) (g : File) : Files := s.files ++ [(outBase + s.njobs, g)]

theorem wf_up {s : St} (h : WF rel s) (g : File) (hg : rel.okLevel g.level) (mans : List Manifest) :
    WF rel { files := upFiles s g, mans := mans, njobs := s.njobs + 1 } := by
  refine ⟨nodup_append_fresh h.nodup (out_fresh h) g, List.forall_mem_map.mpr ?_, forall_mem_snoc h.ok hg⟩
  exact forall_mem_snoc (fun x hx => Nat.lt_succ_of_lt (h.fresh _ (key_mem_keysOf hx))) (Nat.lt_succ_self _)

theorem applyMut_writeManifest (s : St) (h0 : s.mans = []) (ins : List Path) :
    applyMut (bump s) (.writeManifest (jobManifest s ins)) =
    { files := s.files, mans := [jobManifest s ins], njobs := s.njobs + 1 } := by
  simp [applyMut, bump, h0]

/-- the output's key is fresh, so the upload replaces nothing -/
theorem applyMut_upload {s : St} (h : WF rel s) (ins : List Path) (g : File) :
    applyMut { files := s.files, mans := [jobManifest s ins], njobs := s.njobs + 1 }
      (.upload (jobManifest s ins).out g) =
    { files := upFiles s g, mans := [jobManifest s ins], njobs := s.njobs + 1 } := by
  have : delKey s.files (outBase + s.njobs) = s.files := delKey_eq_self (out_fresh h)
  simp [applyMut, jobManifest, upFiles, this]

section
variable {s : St} (hs : Inv rel R0 s) (h0 : s.mans = []) (ins : List Path)
include hs h0

/-- state 0: nothing done yet -/
theorem js_start : JobState rel R0 s ins (bump s) :=
  ⟨⟨wf_bump hs.1, Or.inl ⟨h0, inv0_of_mans_nil s hs h0⟩⟩, Or.inl h0⟩

/-- state A: manifest written -/
theorem js_manifest :
    JobState rel R0 s ins { files := s.files, mans := [jobManifest s ins], njobs := s.njobs + 1 } :=
  ⟨⟨⟨hs.1.nodup, (wf_bump hs.1).fresh, hs.1.ok⟩, Or.inr ⟨_, rfl,
    invM_of_inv0 (inv0_of_mans_nil s hs h0) (out_fresh hs.1) (inputs_not_out hs.1 ins)⟩⟩, Or.inr rfl⟩

/-- torn upload: partial output under the manifest -/
theorem js_torn (g : File) (hg : g.level = 0) :
    JobState rel R0 s ins
      { files := upFiles s { g with complete := false }, mans := [jobManifest s ins], njobs := s.njobs + 1 } :=
  ⟨⟨wf_up hs.1 _ (hg ▸ rel.okZero) _, Or.inr ⟨_, rfl, invM_torn (m := jobManifest s ins)
    (inv0_of_mans_nil s hs h0) (out_fresh hs.1) (inputs_not_out hs.1 ins) rfl⟩⟩, Or.inr rfl⟩

variable (hC : CompactOk rel cfg)
include hC

/-- state B: complete output next to the inputs -/
theorem up_caseB : InvM rel R0 (upFiles s (jobOutFile cfg s ins)) (jobManifest s ins) ∧
    CaseB rel R0 (upFiles s (jobOutFile cfg s ins)) (jobManifest s ins) :=
  invM_upload (m := jobManifest s ins) (inv0_of_mans_nil s hs h0) (out_fresh hs.1)
    (inputs_not_out hs.1 ins) rfl (outFile_R hC hs.1 ins)

/-- state B after deleting any list of inputs -/
theorem js_deleted (ps : List Path) (hps : ∀ p ∈ ps, p ∈ (jobManifest s ins).inputs) :
    JobState rel R0 s ins
      { files := delKeys (upFiles s (jobOutFile cfg s ins)) ps, mans := [jobManifest s ins], njobs := s.njobs + 1 } ∧
    CaseB rel R0 (delKeys (upFiles s (jobOutFile cfg s ins)) ps) (jobManifest s ins) := by
  have hup := up_caseB hs h0 ins hC
  have hB := caseB_delKeys hup.1.1 hps hup.2
  have hwf := wf_up hs.1 (jobOutFile cfg s ins) rel.okZero []
  exact ⟨⟨⟨wf_sub hwf (nodup_delKeys hwf.nodup) delKeys_sub _,
    Or.inr ⟨_, rfl, invM_sub delKeys_sub hup.1 hB⟩⟩, Or.inr rfl⟩, hB⟩

/-- final state: all inputs deleted, manifest deleted -/
theorem js_done : JobState rel R0 s ins
    { files := delKeys (upFiles s (jobOutFile cfg s ins)) (jobManifest s ins).inputs, mans := [], njobs := s.njobs + 1 } := by
  have hup := up_caseB hs h0 ins hC
  have hwf := wf_up hs.1 (jobOutFile cfg s ins) rel.okZero []
  exact ⟨⟨wf_sub hwf (nodup_delKeys hwf.nodup) delKeys_sub _,
    Or.inl ⟨rfl, inv0_delKeys_inputs hwf.nodup hup.1 hup.2⟩⟩, Or.inl rfl⟩

end

end job
end Arc.C09
