import Arc.Proofs.C09.Basic
/-!
C09 — the invariant and its preservation by every storage mutation of a job / of manifest recovery.

Scope of the invariant: at most one manifest is pending (true whenever recovery deletes succeed and
no retry starts while the manifest of a killed job is still pending — see `Props/C09.lean`).
-/
namespace Arc.C09

variable (rel : RowRel) (R0 : List Row)

/-- files that are neither inputs of `m` nor its output -/
def restOf (fs : Files) (m : Manifest) : Files :=
  fs.filter (fun x => !(m.inputs.contains x.1) && x.1 != m.out)

/-- output absent or partial: every file except the output is live -/
def CaseA (fs : Files) (m : Manifest) : Prop :=
  (∀ f, fs.lookup m.out = some f → f.complete = false) ∧
  rel.R (rowsOf (fs.filter (fun x => x.1 != m.out))) R0

/-- output complete: it stands for all the manifest's inputs, present or not -/
def CaseB (fs : Files) (m : Manifest) : Prop :=
  ∃ f, fs.lookup m.out = some f ∧ f.complete = true ∧ rel.R (rowsOf (restOf fs m) ++ f.rows) R0 ∧
    ∀ x ∈ fs, m.inputs.contains x.1 = true → Covers rel.lvl f.rows x.2.rows

def InvM (fs : Files) (m : Manifest) : Prop :=
  m.inputs.contains m.out = false ∧ (∀ x ∈ fs, x.1 ≠ m.out → x.2.complete = true) ∧
  (CaseA rel R0 fs m ∨ CaseB rel R0 fs m)

def Inv0 (fs : Files) : Prop := (∀ x ∈ fs, x.2.complete = true) ∧ rel.R (rowsOf fs) R0

variable {rel} {R0}

theorem delKey_eq_self {fs : Files} {p : Path} (h : p ∉ keysOf fs) : delKey fs p = fs :=
  List.filter_eq_self.mpr fun _ hx => bne_iff_ne.mpr fun e => h (e ▸ key_mem_keysOf hx)

theorem mem_rowsOf {fs : Files} {x : Path × File} (hx : x ∈ fs) {r : Row} (hr : r ∈ x.2.rows) : r ∈ rowsOf fs :=
  List.mem_flatMap.mpr ⟨x, hx, hr⟩

theorem lookup_append_fresh {fs : Files} {p : Path} (h : p ∉ keysOf fs) (g : File) :
    (fs ++ [(p, g)]).lookup p = some g := by
  rw [List.lookup_append, lookup_eq_none.mpr h, Option.none_or]; exact List.lookup_cons_self

theorem delKey_append_fresh {fs : Files} {p : Path} (h : p ∉ keysOf fs) (g : File) :
    delKey (fs ++ [(p, g)]) p = fs := by
  unfold delKey
  rw [List.filter_append, List.filter_cons_of_neg (by simp), List.filter_nil, List.append_nil]
  exact delKey_eq_self h

theorem complete_append_fresh {fs : Files} {p : Path} {g : File} (h : ∀ x ∈ fs, x.2.complete = true) :
    ∀ x ∈ fs ++ [(p, g)], x.1 ≠ p → x.2.complete = true :=
  forall_mem_snoc (fun x hx _ => h x hx) (absurd rfl)

theorem nodup_append_fresh {fs : Files} {p : Path} (hn : (keysOf fs).Nodup) (h : p ∉ keysOf fs) (g : File) :
    (keysOf (fs ++ [(p, g)])).Nodup := by
  rw [keysOf, List.map_append]
  exact List.nodup_append.mpr ⟨hn, List.pairwise_singleton _ _,
    fun a ha b hb e => h (by cases List.mem_singleton.mp hb; cases e; exact ha)⟩

theorem rowsOf_eq_delKey_append {fs : Files} (hn : (keysOf fs).Nodup) {p : Path} {f : File} (h : fs.lookup p = some f) :
    MEq (rowsOf fs) (rowsOf (delKey fs p) ++ f.rows) := by
  induction fs with
  | nil => cases h
  | cons x fs ih =>
    obtain ⟨k, g⟩ := x
    obtain ⟨hk, hn⟩ := List.nodup_cons.mp hn
    unfold delKey at ih ⊢
    rw [List.lookup_cons] at h
    by_cases e : p = k
    · subst e
      rw [beq_self_eq_true] at h
      cases h
      rw [List.filter_cons_of_neg (by simp), show fs.filter _ = fs from delKey_eq_self hk]
      exact MEq.append_comm _ _
    · rw [beq_false_of_ne e] at h
      rw [List.filter_cons_of_pos (by simpa using Ne.symm e), rowsOf_cons, rowsOf_cons, List.append_assoc]
      exact MEq.append (MEq.refl _) (ih hn h)

/-- manifest just written, output not there -/
theorem invM_of_inv0 {fs : Files} {m : Manifest} (h0 : Inv0 rel R0 fs) (hout : m.out ∉ keysOf fs)
    (hin : m.inputs.contains m.out = false) : InvM rel R0 fs m := by
  refine ⟨hin, fun x hx _ => h0.1 x hx, Or.inl ⟨?_, ?_⟩⟩
  · intro f hf; exact absurd (mem_keysOf.mpr ⟨f, lookup_mem hf⟩) hout
  · rw [show fs.filter (fun x => x.1 != m.out) = fs from delKey_eq_self hout]; exact h0.2

theorem restOf_append_out {fs : Files} {m : Manifest} (hout : m.out ∉ keysOf fs) (g : File) :
    restOf (fs ++ [(m.out, g)]) m = fs.filter (fun x => !(m.inputs.contains x.1)) := by
  unfold restOf
  rw [List.filter_append, List.filter_cons_of_neg (by simp), List.filter_nil, List.append_nil]
  refine List.filter_congr fun x hx => ?_
  have hne : x.1 ≠ m.out := fun e => hout (e ▸ key_mem_keysOf hx)
  rw [bne_iff_ne.mpr hne, Bool.and_true]

/-- complete output uploaded next to its (still present) inputs -/
theorem invM_upload {fs : Files} {m : Manifest} {g : File} (h0 : Inv0 rel R0 fs) (hout : m.out ∉ keysOf fs)
    (hin : m.inputs.contains m.out = false) (hg : g.complete = true)
    (hR : rel.R g.rows (rowsOf (fs.filter (fun x => m.inputs.contains x.1)))) :
    InvM rel R0 (fs ++ [(m.out, g)]) m ∧ CaseB rel R0 (fs ++ [(m.out, g)]) m := by
  have hB : CaseB rel R0 (fs ++ [(m.out, g)]) m := by
    refine ⟨g, lookup_append_fresh hout g, hg, ?_, ?_⟩
    · rw [restOf_append_out hout]
      -- the output stands for the inputs: rest ++ out  R  rest ++ inputs  ≅  all  R  R0
      have h2 := (rowsOf_split (fun x => m.inputs.contains x.1) fs).trans (MEq.append_comm _ _)
      exact rel.trans (rel.congr (MEq.refl _) h2.symm (rel.app _ hR)) h0.2
    · exact forall_mem_snoc
        (fun x hx hc r hr => rel.cov hR r (mem_rowsOf (List.mem_filter.mpr ⟨hx, hc⟩) hr))
        (fun hc => absurd (hin ▸ hc) nofun)
  exact ⟨⟨hin, complete_append_fresh h0.1, Or.inr hB⟩, hB⟩

/-- the node died while writing the output to its final key -/
theorem invM_torn {fs : Files} {m : Manifest} {g : File} (h0 : Inv0 rel R0 fs) (hout : m.out ∉ keysOf fs)
    (hin : m.inputs.contains m.out = false) (hg : g.complete = false) :
    InvM rel R0 (fs ++ [(m.out, g)]) m := by
  refine ⟨hin, complete_append_fresh h0.1, Or.inl ⟨?_, ?_⟩⟩
  · intro f hf
    cases (lookup_append_fresh hout g).symm.trans hf
    exact hg
  · rw [show (fs ++ [(m.out, g)]).filter (fun x => x.1 != m.out) = fs from delKey_append_fresh hout g]
    exact h0.2

theorem restOf_delKey_input {fs : Files} {m : Manifest} {p : Path} (hp : p ∈ m.inputs) :
    restOf (delKey fs p) m = restOf fs m := by
  simp only [restOf, delKey, List.filter_filter]
  apply List.filter_congr
  intro x _
  by_cases h : x.1 = p
  · simp [h, hp]
  · simp [show (x.1 != p) = true by simpa using h]

/-- deleting an input of a manifest whose complete output is there changes nothing that is live -/
theorem caseB_delKey {fs : Files} {m : Manifest} {p : Path} (hin : m.inputs.contains m.out = false)
    (hp : p ∈ m.inputs) (hB : CaseB rel R0 fs m) : CaseB rel R0 (delKey fs p) m := by
  obtain ⟨f, hlk, hc, hR, hcov⟩ := hB
  have hne : m.out ≠ p := fun e => Bool.eq_false_iff.mp hin (List.contains_iff_mem.mpr (e ▸ hp))
  exact ⟨f, (lookup_delKey_ne hne).trans hlk, hc, (restOf_delKey_input (fs := fs) hp).symm ▸ hR,
    fun x hx hcx => hcov x (mem_delKey.mp hx).1 hcx⟩

/-- what a delete of input `p` can rely on: the complete output holds a row for each key of `p`'s rows -/
theorem CaseB.covers {fs : Files} {m : Manifest} (hB : CaseB rel R0 fs m) {p : Path} (hp : p ∈ m.inputs) :
    ∃ f, fs.lookup m.out = some f ∧ f.complete = true ∧
      ∀ g, fs.lookup p = some g → Covers rel.lvl f.rows g.rows :=
  let ⟨f, hlk, hc, _, hcov⟩ := hB
  ⟨f, hlk, hc, fun g hg => hcov (p, g) (lookup_mem hg) (List.contains_iff_mem.mpr hp)⟩

def delKeys (fs : Files) (ps : List Path) : Files := ps.foldl delKey fs

theorem caseB_delKeys {m : Manifest} (hin : m.inputs.contains m.out = false) {ps : List Path} {fs : Files}
    (hps : ∀ p ∈ ps, p ∈ m.inputs) (hB : CaseB rel R0 fs m) : CaseB rel R0 (delKeys fs ps) m := by
  induction ps generalizing fs with
  | nil => exact hB
  | cons p ps ih =>
    exact ih (fun q hq => hps q (List.mem_cons_of_mem _ hq)) (caseB_delKey hin (hps p List.mem_cons_self) hB)

theorem mem_delKeys {ps : List Path} {fs : Files} {x : Path × File} : x ∈ delKeys fs ps ↔ x ∈ fs ∧ x.1 ∉ ps := by
  induction ps generalizing fs with
  | nil => simp [delKeys]
  | cons p ps ih => rw [delKeys, List.foldl_cons, ← delKeys, ih, mem_delKey]; simp [and_assoc]

theorem delKeys_sub {ps : List Path} {fs : Files} : ∀ x ∈ delKeys fs ps, x ∈ fs :=
  fun _ hx => (mem_delKeys.mp hx).1

theorem nodup_delKeys {ps : List Path} {fs : Files} (h : (keysOf fs).Nodup) : (keysOf (delKeys fs ps)).Nodup := by
  induction ps generalizing fs with
  | nil => exact h
  | cons p ps ih => exact ih (nodup_delKey p h)

theorem invM_sub {fs fs' : Files} {m : Manifest} (hsub : ∀ x ∈ fs', x ∈ fs) (h : InvM rel R0 fs m)
    (hB : CaseB rel R0 fs' m) : InvM rel R0 fs' m :=
  ⟨h.1, fun x hx hne => h.2.1 x (hsub x hx) hne, Or.inr hB⟩

/-- all inputs gone, complete output there: the manifest can go -/
theorem inv0_of_caseB_done {fs : Files} {m : Manifest} (hn : (keysOf fs).Nodup)
    (hM : InvM rel R0 fs m) (hB : CaseB rel R0 fs m)
    (hgone : ∀ x ∈ fs, m.inputs.contains x.1 = false) : Inv0 rel R0 fs := by
  obtain ⟨f, hlk, hc, hR, _⟩ := hB
  refine ⟨fun x hx => ?_, ?_⟩
  · by_cases hne : x.1 = m.out
    · cases (lookup_of_mem hn (hne ▸ hx : (m.out, x.2) ∈ fs)).symm.trans hlk; exact hc
    · exact hM.2.1 x hx hne
  · have h1 : restOf fs m = delKey fs m.out :=
      List.filter_congr fun _ hx => by rw [hgone _ hx]; rfl
    exact rel.congr (h1 ▸ (rowsOf_eq_delKey_append hn hlk).symm) (MEq.refl _) hR

/-- a complete output and its manifest's inputs: deleting the inputs leaves only live files -/
theorem inv0_delKeys_inputs {fs : Files} {m : Manifest} (hn : (keysOf fs).Nodup)
    (hM : InvM rel R0 fs m) (hB : CaseB rel R0 fs m) : Inv0 rel R0 (delKeys fs m.inputs) :=
  have hB' := caseB_delKeys hM.1 (fun _ hp => hp) hB
  inv0_of_caseB_done (nodup_delKeys hn) (invM_sub delKeys_sub hM hB') hB'
    (fun _ hx => Bool.eq_false_iff.mpr fun h => (mem_delKeys.mp hx).2 (List.contains_iff_mem.mp h))

/-- recovery, output missing -/
theorem inv0_of_missing {fs : Files} {m : Manifest} (hM : InvM rel R0 fs m) (hlk : fs.lookup m.out = none) :
    Inv0 rel R0 fs := by
  have hout := lookup_eq_none.mp hlk
  refine ⟨fun x hx => hM.2.1 x hx (fun e => hout (e ▸ key_mem_keysOf hx)), ?_⟩
  rcases hM.2.2 with hA | ⟨f, hf, _⟩
  · rw [← show fs.filter (fun x => x.1 != m.out) = fs from delKey_eq_self hout]; exact hA.2
  · cases hlk.symm.trans hf

/-- recovery, output partial: delete it -/
theorem inv0_of_mismatch {fs : Files} {m : Manifest} {f : File} (hM : InvM rel R0 fs m)
    (hlk : fs.lookup m.out = some f) (hc : f.complete = false) : Inv0 rel R0 (delKey fs m.out) := by
  refine ⟨fun x hx => hM.2.1 x (mem_delKey.mp hx).1 (mem_delKey.mp hx).2, ?_⟩
  rcases hM.2.2 with hA | hB
  · exact hA.2
  · obtain ⟨g, hg, hgc, _⟩ := hB; cases hlk.symm.trans hg; cases hc.symm.trans hgc

theorem caseB_of_complete {fs : Files} {m : Manifest} {f : File} (hM : InvM rel R0 fs m)
    (hlk : fs.lookup m.out = some f) (hc : f.complete = true) : CaseB rel R0 fs m := by
  rcases hM.2.2 with hA | hB
  · cases hc.symm.trans (hA.1 f hlk)
  · exact hB

end Arc.C09
