import Arc.Proofs.C09.Job
/-!
C09 — the invariant through `runJob` (any fault), manifest recovery, the adaptive retry, the cycle,
and histories of cycles.
-/
namespace Arc.C09
open Arc.Generated.C09

variable {rel : RowRel} {R0 : List Row} {cfg : Cfg}

theorem jobProgram_canon (hsteps : cfg.steps = canonSteps) (s : St) (ins : List Path) :
    jobProgram cfg s ins = if (validInputs s ins).isEmpty then [] else
      .writeManifest (jobManifest s ins) :: .upload (jobManifest s ins).out (jobOutFile cfg s ins) ::
        (((jobManifest s ins).inputs.map .delInput) ++ [.delManifest (jobManifest s ins).mid]) := by
  simp [jobProgram, jobMuts, hsteps, canonSteps, stepMuts]

/-- what sits at index `k` of a job's program: the manifest write, the upload, then the deletes -/
theorem jobProgram_getElem? (hsteps : cfg.steps = canonSteps) {s : St} {ins : List Path} {k : Nat} {x : Mut}
    (hk : (jobProgram cfg s ins)[k]? = some x) :
    (validInputs s ins).isEmpty = false ∧
    ((k = 0 ∧ x = .writeManifest (jobManifest s ins)) ∨
     (k = 1 ∧ x = .upload (jobManifest s ins).out (jobOutFile cfg s ins)) ∨
     ∃ j, k = j + 2 ∧
      ((j < (jobManifest s ins).inputs.length ∧ ∃ p ∈ (jobManifest s ins).inputs, x = .delInput p) ∨
       (j = (jobManifest s ins).inputs.length ∧ x = .delManifest (jobManifest s ins).mid))) := by
  rw [jobProgram_canon hsteps] at hk
  by_cases he : (validInputs s ins).isEmpty = true
  · rw [if_pos he] at hk; cases hk
  · rw [if_neg he] at hk
    refine ⟨eq_false_of_ne_true he, ?_⟩
    rcases k with _ | _ | j
    · exact .inl ⟨rfl, (Option.some.inj hk).symm⟩
    · exact .inr (.inl ⟨rfl, (Option.some.inj hk).symm⟩)
    · exact .inr (.inr ⟨j, rfl, getElem?_dels hk⟩)

theorem job_after_upload {s : St} (hs : Inv rel R0 s) (h0 : s.mans = []) (ins : List Path) (g : File) (X : List Mut) :
    applyMuts (bump s) (.writeManifest (jobManifest s ins) :: .upload (jobManifest s ins).out g :: X)
    = applyMuts { files := upFiles s g, mans := [jobManifest s ins], njobs := s.njobs + 1 } X := by
  rw [applyMuts_cons, applyMuts_cons, applyMut_writeManifest s h0 ins, applyMut_upload hs.1 ins]

/-- only the upload, the job's second mutation, can be torn -/
theorem partialOf_job (hsteps : cfg.steps = canonSteps) {s : St} {ins : List Path} {k : Nat}
    (hk : ¬(k = 1 ∧ (validInputs s ins).isEmpty = false)) : partialOf (jobProgram cfg s ins) k = [] := by
  unfold partialOf
  split
  · rename_i p f hx
    obtain ⟨he, ⟨_, h⟩ | ⟨rfl, _⟩ | ⟨j, _, ⟨_, q, _, h⟩ | ⟨_, h⟩⟩⟩ := jobProgram_getElem? hsteps hx
    · cases h
    · exact absurd ⟨rfl, he⟩ hk
    · cases h
    · cases h
  · rfl

section
variable (hsteps : cfg.steps = canonSteps) {s : St} (hs : Inv rel R0 s) (h0 : s.mans = []) (ins : List Path)
include hsteps hs h0

/-- the state in which the job deletes its `j`-th input (`j` = all of them: its manifest) -/
theorem job_take_dels (he : (validInputs s ins).isEmpty = false) (j : Nat)
    (hj : j ≤ (jobManifest s ins).inputs.length) :
    applyMuts (bump s) ((jobProgram cfg s ins).take (j + 2)) =
      { files := delKeys (upFiles s (jobOutFile cfg s ins)) ((jobManifest s ins).inputs.take j),
        mans := [jobManifest s ins], njobs := s.njobs + 1 } := by
  rw [jobProgram_canon hsteps, he, if_neg Bool.false_ne_true, List.take_succ_cons, List.take_succ_cons,
    List.take_append_of_le_length (by rwa [List.length_map]), job_after_upload hs h0 ins,
    ← List.map_take, applyMuts_delInputs]

theorem job_run (he : (validInputs s ins).isEmpty = false) :
    applyMuts (bump s) (jobProgram cfg s ins) =
      { files := delKeys (upFiles s (jobOutFile cfg s ins)) (jobManifest s ins).inputs,
        mans := [], njobs := s.njobs + 1 } := by
  rw [jobProgram_canon hsteps, he, if_neg Bool.false_ne_true, job_after_upload hs h0 ins,
    applyMuts_append, applyMuts_delInputs, applyMuts_cons, applyMuts_nil]
  exact applyMut_delManifest (s := { files := _, mans := [jobManifest s ins], njobs := _ }) rfl

variable (hC : CompactOk rel cfg)
include hC

theorem js_prefix (k : Nat) : JobState rel R0 s ins (applyMuts (bump s) ((jobProgram cfg s ins).take k)) := by
  by_cases he : (validInputs s ins).isEmpty = true
  · rw [jobProgram_canon hsteps, if_pos he, List.take_nil]; exact js_start hs h0 ins
  · have he' := eq_false_of_ne_true he
    match k with
    | 0 => exact js_start hs h0 ins
    | 1 =>
      rw [jobProgram_canon hsteps, if_neg he, List.take_succ_cons, List.take_zero, applyMuts_cons, applyMuts_nil, applyMut_writeManifest s h0 ins]
      exact js_manifest hs h0 ins
    | j + 2 =>
      by_cases hj : j ≤ (jobManifest s ins).inputs.length
      · rw [job_take_dels hsteps hs h0 ins he' j hj]
        exact (js_deleted hs h0 ins hC _ (fun _ hp => List.mem_of_mem_take hp)).1
      · rw [List.take_of_length_le, job_run hsteps hs h0 ins he']
        · exact js_done hs h0 ins hC
        · rw [jobProgram_canon hsteps, if_neg he]
          simp only [List.length_cons, List.length_append, List.length_map, List.length_nil]
          omega

theorem js_full : JobState rel R0 s ins (applyMuts (bump s) (jobProgram cfg s ins)) ∧
    (applyMuts (bump s) (jobProgram cfg s ins)).mans = [] := by
  by_cases he : (validInputs s ins).isEmpty = true
  · rw [jobProgram_canon hsteps, if_pos he]; exact ⟨js_start hs h0 ins, h0⟩
  · rw [job_run hsteps hs h0 ins (eq_false_of_ne_true he)]
    exact ⟨js_done hs h0 ins hC, rfl⟩

theorem js_torn_prefix (k : Nat) :
    JobState rel R0 s ins (applyMuts (bump s) ((jobProgram cfg s ins).take k ++ partialOf (jobProgram cfg s ins) k)) := by
  by_cases hk : k = 1 ∧ (validInputs s ins).isEmpty = false
  · obtain ⟨rfl, he⟩ := hk
    rw [jobProgram_canon hsteps, he, if_neg Bool.false_ne_true]
    exact (job_after_upload hs h0 ins _ []).symm ▸ js_torn hs h0 ins _ rfl
  · rw [partialOf_job hsteps hk, List.append_nil]
    exact js_prefix hsteps hs h0 ins hC k

/-- any (possibly faulted) run of a job keeps the invariant; a clean end leaves no manifest -/
theorem runJob_js (flt : Option Fault) :
    JobState rel R0 s ins (runJob cfg s ins flt).1 ∧
    ((runJob cfg s ins flt).2.1 = .ok → (runJob cfg s ins flt).1.mans = []) ∧
    (∀ f, flt = some f → (f.kind = .kill → (f.pos = 0 ∨ 1000 ≤ f.pos)) →
      (runJob cfg s ins flt).2.1 = .killed → (runJob cfg s ins flt).1.mans = []) := by
  have hfull := js_full hsteps hs h0 ins hC
  have hpre := js_prefix hsteps hs h0 ins hC
  have htorn := js_torn_prefix hsteps hs h0 ins hC
  cases flt with
  | none => exact ⟨hfull.1, fun _ => hfull.2, nofun⟩
  | some f =>
    simp only [runJob]
    generalize jobProgram cfg s ins = prog at *
    -- every arm but two runs the job to its end; `split` on this chain costs four times `by_cases` + `rw`
    by_cases hcan : (f.kind == FKind.cancel) = true
    · rw [if_pos hcan]
      by_cases h100 : (f.pos = 100 ∨ f.pos = 101) ∧ (validInputs s ins).isEmpty = false
      · rw [if_pos h100]; exact ⟨js_start hs h0 ins, nofun, fun _ _ _ _ => h0⟩
      · rw [if_neg h100]; exact ⟨hfull.1, fun _ => hfull.2, fun _ _ _ _ => hfull.2⟩
    rw [if_neg hcan]
    by_cases h1000 : f.pos ≥ 1000
    · rw [if_pos h1000]; exact ⟨hfull.1, fun _ => hfull.2, fun _ _ _ _ => hfull.2⟩
    rw [if_neg h1000]
    by_cases hlt : f.pos < prog.length
    · rw [if_pos hlt]
      refine ⟨?_, ?_, ?_⟩
      · by_cases ht : (f.kind == FKind.torn) = true
        · rw [if_pos ht]; exact htorn f.pos
        · rw [if_neg ht, List.append_nil]; exact hpre f.pos
      · intro hok; cases hk : f.kind <;> rw [hk] at hok <;> cases hok
      · intro f' hf' hsafe hkilled
        cases hf'
        -- only a kill reports `killed`; the carve-out puts it before the first mutation
        have hk : f.kind = .kill := by cases hk : f.kind <;> first | rfl | (rw [hk] at hkilled; cases hkilled)
        rcases hsafe hk with hp | hp
        · rw [hk, hp]; exact h0
        · exact absurd hp h1000
    · rw [if_neg hlt]; exact ⟨hfull.1, fun _ => hfull.2, fun _ _ _ _ => hfull.2⟩

end

/-! Manifest recovery, when none of its deletes fails. -/

structure RecCanon (cfg : Cfg) : Prop where
  missing : cfg.recMissing = [.deleteManifest]
  mismatch : cfg.recMismatch = [.deleteOutput, .deleteManifest]
  valid : cfg.recValid = [.deleteInputs, .deleteManifest]

theorem recMuts_missing (hrec : RecCanon cfg) {s : St} {m : Manifest} (hg : s.get m.out = none) :
    recMuts cfg s m [] = [.delManifest m.mid] := by
  simp [recMuts, recBranch, hg, hrec.missing, recGo]

theorem recMuts_valid (hrec : RecCanon cfg) {s : St} {m : Manifest} {f : File} (hg : s.get m.out = some f)
    (hc : f.complete = true) : recMuts cfg s m [] = m.inputs.map .delInput ++ [.delManifest m.mid] := by
  have hft : m.inputs.filter (fun _ => true) = m.inputs := List.filter_eq_self.mpr (fun _ _ => rfl)
  simp [recMuts, recBranch, hg, hc, hrec.valid, recGo, hft]

theorem recMuts_mismatch (hrec : RecCanon cfg) {s : St} {m : Manifest} {f : File} (hg : s.get m.out = some f)
    (hc : f.complete = false) : recMuts cfg s m [] = [.delOutput m.out, .delManifest m.mid] := by
  simp [recMuts, recBranch, hg, hc, hrec.mismatch, recGo]

theorem recoverOne_inv (hrec : RecCanon cfg) {s : St} {m : Manifest} (hs : Inv rel R0 s) (hm : s.mans = [m]) :
    Inv rel R0 (recoverOne cfg s m []) ∧ (recoverOne cfg s m []).mans = [] := by
  have hM := invM_of_mans hs hm
  unfold recoverOne
  cases hg : s.get m.out with
  | none =>
    rw [recMuts_missing hrec hg, applyMuts_cons, applyMuts_nil, applyMut_delManifest hm]
    exact ⟨⟨wf_sub hs.1 hs.1.nodup (fun _ h => h) _, Or.inl ⟨rfl, inv0_of_missing hM hg⟩⟩, rfl⟩
  | some f =>
    by_cases hc : f.complete = true
    · rw [recMuts_valid hrec hg hc, applyMuts_append, applyMuts_delInputs, applyMuts_cons, applyMuts_nil,
        applyMut_delManifest (s := { s with files := delKeys s.files m.inputs }) hm]
      exact ⟨⟨wf_sub hs.1 (nodup_delKeys hs.1.nodup) delKeys_sub _, Or.inl ⟨rfl,
        inv0_delKeys_inputs hs.1.nodup hM (caseB_of_complete hM hg hc)⟩⟩, rfl⟩
    · have hc' := eq_false_of_ne_true hc
      rw [recMuts_mismatch hrec hg hc', applyMuts_cons, applyMuts_cons, applyMuts_nil,
        applyMut_delManifest (s := applyMut s (.delOutput m.out)) hm]
      exact ⟨⟨wf_sub hs.1 (nodup_delKey _ hs.1.nodup) (fun x hx => (mem_delKey.mp hx).1) _,
        Or.inl ⟨rfl, inv0_of_mismatch hM hg hc'⟩⟩, rfl⟩

theorem recoverAll_inv (hrec : RecCanon cfg) {s : St} (hs : Inv rel R0 s) :
    Inv rel R0 (recoverAll cfg s []) ∧ (recoverAll cfg s []).mans = [] := by
  rcases hs.2 with ⟨h, _⟩ | ⟨m, hm, _⟩
  · rw [show recoverAll cfg s [] = s by simp [recoverAll, h]]; exact ⟨hs, h⟩
  · rw [show recoverAll cfg s [] = recoverOne cfg s m [] by simp [recoverAll, hm]]
    exact recoverOne_inv hrec hs hm

/-- carve-out: no job is killed between its first and its last storage mutation -/
def PlanSafe (plan : List Fault) : Prop := ∀ f ∈ plan, f.kind = .kill → (f.pos = 0 ∨ 1000 ≤ f.pos)

def Good (rel : RowRel) (R0 : List Row) (r : Run) : Prop := Inv rel R0 r.st ∧ (r.dead = false → r.st.mans = [])

theorem runJob_nofault_ok (s : St) (ins : List Path) : (runJob cfg s ins none).2.1 = .ok := rfl

theorem runJob_killed {s : St} {ins : List Path} {flt : Option Fault}
    (h : (runJob cfg s ins flt).2.1 = .killed) : ∃ f, flt = some f := by
  cases flt with
  | none => cases (runJob_nofault_ok s ins).symm.trans h
  | some f => exact ⟨f, rfl⟩

theorem attempt_oc (plan : List Fault) (batch : Nat) (r : Run) (files : List Path) :
    (attempt cfg plan batch r files).2 = (runJob cfg r.st files (findFault plan r.cj)).2.1 := rfl

/-! What one attempt preserves while the node is alive, the adaptive retry, the batches and the cycle
preserve: they only chain attempts. -/

section
variable (plan : List Fault) (P : Run → Prop)
  (hatt : ∀ batch r files, P r → r.dead = false → P (attempt cfg plan batch r files).1)
include hatt

theorem adaptive_keeps (batch : Nat) : ∀ (fuel : Nat) (r : Run) (files : List Path), P r →
    P (adaptive cfg plan batch fuel r files).1
  | 0, _, _, hp => hp
  | fuel + 1, r, files, hp => by
    unfold adaptive
    by_cases hd : r.dead = true
    · rw [if_pos hd]; exact hp
    rw [if_neg hd]
    by_cases hl : files.length < cfg.minBatch
    · rw [if_pos hl]; exact hp
    rw [if_neg hl]
    have ha := hatt batch r files hp (eq_false_of_ne_true hd)
    cases hoc : (attempt cfg plan batch r files).2 with
    | ok | crashed => simp only [hoc]; exact ha
    | killed =>
      simp only [hoc]
      by_cases hle : files.length ≤ cfg.minBatch
      · rw [if_pos hle]; exact ha
      rw [if_neg hle]
      have h1 := adaptive_keeps batch fuel _ (files.take (files.length / 2)) ha
      split
      · exact adaptive_keeps batch fuel _ _ h1
      · exact h1

theorem runBatches_keeps : ∀ (bs : List (List Path)) (b : Nat) (r : Run), P r → P (runBatches cfg plan b r bs)
  | [], _, _, hp => hp
  | fs :: rest, b, r, hp =>
    runBatches_keeps rest (b + 1) _ (adaptive_keeps plan P hatt b _ r fs hp)

theorem cycle_keeps (failing : List Path) (s : St)
    (h0 : P { st := if cfg.recoverFirst then recoverAll cfg s failing else s, cj := 0, dead := false, log := [] }) :
    P (cycle cfg plan failing s) := by
  simp only [cycle]
  generalize (if cfg.recoverFirst = true then recoverAll cfg s failing else s) = s1 at h0 ⊢
  split
  · exact h0
  · split
    · exact h0
    · exact runBatches_keeps plan P hatt _ _ _ h0

end

section
variable (hC : CompactOk rel cfg) (hsteps : cfg.steps = canonSteps) (hrec : RecCanon cfg)
  (plan : List Fault) (hsafe : cfg.retryRecovers = true ∨ PlanSafe plan)
include hC hsteps hrec hsafe

theorem attempt_good (batch : Nat) (r : Run) (files : List Path) (hg : Good rel R0 r) (hd : r.dead = false) :
    Good rel R0 (attempt cfg plan batch r files).1 := by
  have hj := runJob_js hsteps hg.1 (hg.2 hd) files hC (findFault plan r.cj)
  have hk := runJob_killed (cfg := cfg) (s := r.st) (ins := files) (flt := findFault plan r.cj)
  unfold Good attempt
  generalize runJob cfg r.st files (findFault plan r.cj) = res at hj hk ⊢
  obtain ⟨s1, oc, n⟩ := res
  dsimp only at hj hk ⊢
  cases oc with
  | ok => exact ⟨hj.1.inv, fun _ => hj.2.1 rfl⟩
  | crashed => exact ⟨hj.1.inv, fun hdead => absurd hdead (by simp)⟩
  | killed =>
    obtain ⟨f, hf⟩ := hk rfl
    by_cases hrr : cfg.retryRecovers = true
    · simp only [hrr, beq_self_eq_true, Bool.and_self, if_true]
      -- the dead job's manifest, if it wrote one, is the only one pending: recovery settles it
      rcases hj.1.mans with hm | hm
      · rw [show ownManifest s1 r.st.njobs = none by simp [ownManifest, hm]]
        exact ⟨hj.1.inv, fun _ => hm⟩
      · rw [show ownManifest s1 r.st.njobs = some (jobManifest r.st files) by simp [ownManifest, hm, jobManifest]]
        have hr := recoverOne_inv hrec hj.1.inv hm
        exact ⟨hr.1, fun _ => hr.2⟩
    · simp only [eq_false_of_ne_true hrr, Bool.and_false, Bool.false_eq_true, if_false]
      exact ⟨hj.1.inv, fun _ => hj.2.2 f hf ((hsafe.resolve_left hrr) f (List.mem_of_find?_eq_some hf)) rfl⟩

theorem cycle_good (hfirst : cfg.recoverFirst = true) (s : St) (hs : Inv rel R0 s) :
    Good rel R0 (cycle cfg plan [] s) := by
  have hr := recoverAll_inv hrec hs
  apply cycle_keeps plan (Good rel R0) (attempt_good hC hsteps hrec plan hsafe)
  rw [if_pos hfirst]
  exact ⟨hr.1, fun _ => hr.2⟩

end

theorem cycle_nofault_alive (s : St) : (cycle cfg [] [] s).dead = false :=
  cycle_keeps [] (fun r => r.dead = false) (fun _ _ _ hd _ => (Bool.or_false _).trans hd) [] s rfl

theorem runCycles_inv (hC : CompactOk rel cfg) (hsteps : cfg.steps = canonSteps) (hrec : RecCanon cfg)
    (hfirst : cfg.recoverFirst = true) :
    ∀ (plans : List (List Fault)), (∀ p ∈ plans, cfg.retryRecovers = true ∨ PlanSafe p) →
      ∀ (s : St), Inv rel R0 s → Inv rel R0 (runCycles cfg plans s)
  | [], _, _, hs => hs
  | p :: ps, hsafe, s, hs =>
    runCycles_inv hC hsteps hrec hfirst ps (fun q hq => hsafe q (List.mem_cons_of_mem _ hq)) _
      (cycle_good hC hsteps hrec p (hsafe p List.mem_cons_self) hfirst s hs).1

/-- after any history, one fault-free cycle leaves no manifest and only live, complete files -/
theorem quiesce_inv0 (hC : CompactOk rel cfg) (hsteps : cfg.steps = canonSteps) (hrec : RecCanon cfg)
    (hfirst : cfg.recoverFirst = true) {plans : List (List Fault)}
    (hsafe : ∀ p ∈ plans, cfg.retryRecovers = true ∨ PlanSafe p) {s : St} (hs : Inv rel R0 s) :
    (cycle cfg [] [] (runCycles cfg plans s)).st.mans = [] ∧
    rel.R (visible (cycle cfg [] [] (runCycles cfg plans s)).st) R0 := by
  have h2 := cycle_good hC hsteps hrec [] (Or.inr nofun) hfirst _
    (runCycles_inv hC hsteps hrec hfirst plans hsafe s hs)
  have hm := h2.2 (cycle_nofault_alive _)
  have h0 := inv0_of_mans_nil _ h2.1 hm
  rw [visible, List.filter_eq_self.mpr h0.1]
  exact ⟨hm, h0.2⟩

end Arc.C09
