import Arc.Proofs.C28.Basic
import Arc.Base.Lists
/-!
What single operations of the model do to the state, with no reference to histories: which fields
of a limiter `advance` and `Allow` leave alone, where `advance` puts `lastSlotTime` under a
non-decreasing clock, `maybeReset` as one record, a limit update commuting with the call that
follows it, and what `CheckRateLimit` / `CheckQuota` can return.
-/
namespace Arc.C28

theorem sum_dropLast_lastOr0 : ∀ r : List Nat, r.dropLast.sum + lastOr0 r = r.sum
  | [] => rfl
  | [a] => by simp [lastOr0]
  | a :: b :: t => by
    have := sum_dropLast_lastOr0 (b :: t)
    simp only [List.dropLast_cons_cons, List.sum_cons, lastOr0] at this ⊢
    omega

theorem shift1_d (s : SW) : (shift1 s).d = s.d := rfl
theorem shift1_n (s : SW) : (shift1 s).n = s.n := rfl
theorem shift1_last (s : SW) : (shift1 s).last = s.last := rfl
theorem shift1_limit (s : SW) : (shift1 s).limit = s.limit := rfl

theorem shiftN_frame : ∀ (k : Nat) (s : SW),
    (shiftN k s).d = s.d ∧ (shiftN k s).n = s.n ∧ (shiftN k s).limit = s.limit
  | 0, _ => ⟨rfl, rfl, rfl⟩
  | k + 1, s => shiftN_frame k (shift1 s)

theorem advance_frame (s : SW) (now : Int) :
    (advance s now).d = s.d ∧ (advance s now).n = s.n ∧ (advance s now).limit = s.limit := by
  unfold advance
  split
  · exact ⟨rfl, rfl, rfl⟩
  · split
    · exact ⟨rfl, rfl, rfl⟩
    · exact shiftN_frame _ s

theorem swAllow_frame (s : SW) (now : Int) :
    (swAllow s now).1.d = s.d ∧ (swAllow s now).1.n = s.n ∧ (swAllow s now).1.limit = s.limit ∧
      (swAllow s now).1.last = (advance s now).last := by
  obtain ⟨h1, h2, h3⟩ := advance_frame s now
  rw [← h1, ← h2, ← h3]
  unfold swAllow
  -- keeps `rfl` from unfolding `advance`
  generalize advance s now = a
  split <;> exact ⟨rfl, rfl, rfl, rfl⟩

theorem swAllow_n (s : SW) (now : Int) : (swAllow s now).1.n = s.n := (swAllow_frame s now).2.1

theorem swAllow_snd (s : SW) (now : Int) : (swAllow s now).2 = !swFull (advance s now) := by
  unfold swAllow
  cases swFull (advance s now) <;> rfl

theorem swNew_d_pos (w slots limit now : Int) : 0 < (swNew w slots limit now).d := by
  simp only [swNew]; split <;> (simp only [msNs] at *; omega)

theorem advance_last (s : SW) {t now : Int} (hd : 0 < s.d) (hl : s.last ≤ trunc s.d t) (ht : t ≤ now) :
    (advance s now).last = trunc s.d now := by
  have := trunc_mono s.d t now hd ht
  unfold advance
  split
  · omega
  · split <;> rfl

theorem shiftN_setLimit : ∀ (k : Nat) (s : SW) (l : Int), shiftN k (swSetLimit s l) = swSetLimit (shiftN k s) l
  | 0, _, _ => rfl
  | k + 1, s, l => shiftN_setLimit k (shift1 s) l

theorem advance_setLimit (s : SW) (l now : Int) : advance (swSetLimit s l) now = swSetLimit (advance s now) l := by
  unfold advance
  show (if trunc s.d now - s.last ≤ 0 then _ else if (trunc s.d now - s.last) / s.d ≥ (s.n : Int) then _ else _) = _
  split
  · rfl
  · split
    · rfl
    · rw [shiftN_setLimit]; rfl

theorem maybeReset_eq (q : QT) (now : Int) : maybeReset q now =
    { h := if q.hourResetAt ≤ now then 0 else q.h,
      dc := if q.dayResetAt ≤ now then 0 else q.dc,
      hourResetAt := if q.hourResetAt ≤ now then trunc hourNs now + hourNs else q.hourResetAt,
      dayResetAt := if q.dayResetAt ≤ now then trunc dayNs now + dayNs else q.dayResetAt,
      maxH := q.maxH, maxD := q.maxD } := by
  unfold maybeReset resetDay resetHour
  by_cases h1 : q.hourResetAt ≤ now <;> by_cases h2 : q.dayResetAt ≤ now <;>
    simp only [h1, h2, if_true, if_false]

theorem maybeReset_setLimits (q : QT) (a b now : Int) :
    maybeReset (qtSetLimits q a b) now = qtSetLimits (maybeReset q now) a b := by
  rw [maybeReset_eq, maybeReset_eq]
  rfl

theorem verdict_ok (q : QT) (h : qtVerdict q = .ok) :
    ¬ (0 < q.maxH ∧ q.maxH ≤ q.h) ∧ ¬ (0 < q.maxD ∧ q.maxD ≤ q.dc) := by
  unfold qtVerdict at h
  split at h
  · cases h
  · split at h
    · cases h
    · exact ⟨‹_›, ‹_›⟩

theorem qtAllow_snd (q : QT) (now : Int) : (qtAllow q now).2 = qtVerdict (maybeReset q now) := by
  unfold qtAllow
  split
  · exact (‹qtVerdict (maybeReset q now) = QV.ok›).symm
  · rfl

theorem get_put (m : Mgr) (t : Int) (k : Tok) : (m.put t k).get t = k := by
  simp [Mgr.get, Mgr.put]

theorem get_put_ne (m : Mgr) (t t' : Int) (k : Tok) (h : t' ≠ t) : (m.put t k).get t' = m.get t' := by
  rw [Mgr.get, Mgr.put, List.lookup_cons, beq_false_of_ne h, lookup_filter _ t' m.toks fun _ _ => by simpa using h]
  rfl

theorem checkRateLimit_qt_ne_admitted (k : Tok) (p : Policy) (now : Int) :
    (checkRateLimit k p now).1.qt = k.qt ∧ (checkRateLimit k p now).2 ≠ some .admitted := by
  unfold checkRateLimit
  extract_lets l r ra k1
  -- the result `k1` of the per-minute stage enters the per-hour stage only through these two facts
  have hk1 : k1.1.qt = k.qt ∧ k1.2 ≠ some .admitted := by
    simp only [k1]
    split
    · split
      · exact ⟨rfl, nofun⟩
      · exact ⟨rfl, nofun⟩
    · exact ⟨rfl, nofun⟩
  clear_value k1
  split
  · rename_i v hv
    exact ⟨hk1.1, hv ▸ hk1.2⟩
  · split
    · split
      · exact ⟨hk1.1, nofun⟩
      · exact ⟨hk1.1, nofun⟩
    · exact ⟨hk1.1, nofun⟩

theorem checkQuota_ne_admitted (k : Tok) (p : Policy) (now : Int) : (checkQuota k p now).2 ≠ some .admitted := by
  unfold checkQuota
  split
  · extract_lets q r
    cases r.2 <;> nofun
  · nofun

end Arc.C28
