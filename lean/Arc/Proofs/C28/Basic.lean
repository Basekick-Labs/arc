import Arc.Model.C28
/-!
Facts the C28 theorems share that speak only of the model's time arithmetic and of lists:
the "every entry is fine w.r.t. its predecessors" predicate on decision traces, slot truncation,
and the index `t / P` of the period of length `P` a reading `t` falls into.
-/
namespace Arc.C28

/-- `SafeBy P past tr`: walking through `tr` (chronological), each entry `e` satisfies `P e` of the
history up to and including `e`; `past` is what came before `tr`. -/
def SafeBy {α : Type} (P : α → List α → Prop) : List α → List α → Prop
  | _, [] => True
  | past, e :: rest => P e (past ++ [e]) ∧ SafeBy P (past ++ [e]) rest

theorem SafeBy.split {α : Type} {P : α → List α → Prop} {e : α} {suf : List α} :
    ∀ {pre past : List α}, SafeBy P past (pre ++ e :: suf) → P e (past ++ (pre ++ [e]))
  | [], _, h => h.1
  | b :: pre, past, h => by
    have := SafeBy.split (pre := pre) (past := past ++ [b]) h.2
    rwa [List.append_assoc] at this

theorem mem_of_split {α : Type} {tr pre suf : List α} {e : α} (h : tr = pre ++ e :: suf) :
    ∀ x ∈ pre ++ [e], x ∈ tr := by
  rw [h, List.append_cons pre e suf]
  exact fun _ => List.mem_append_left suf

/-- among the entries that pass `a`, counting those that satisfy a condition is monotone in the condition -/
theorem countP_and_mono {α : Type} (a : α → Bool) {p q : α → Prop} [DecidablePred p] [DecidablePred q]
    {l : List α} (h : ∀ x ∈ l, p x → q x) :
    l.countP (fun x => a x && decide (p x)) ≤ l.countP (fun x => a x && decide (q x)) := by
  apply List.countP_mono_left
  intro x hx hp
  rw [Bool.and_eq_true, decide_eq_true_eq] at hp ⊢
  exact ⟨hp.1, h x hx hp.2⟩

theorem countP_or_le {α : Type} (p q : α → Bool) (l : List α) :
    l.countP (fun x => p x || q x) ≤ l.countP p + l.countP q := by
  induction l with
  | nil => exact Nat.zero_le _
  | cons a t ih =>
    rw [List.countP_cons, List.countP_cons, List.countP_cons]
    cases p a <;> cases q a <;>
      simp only [Bool.or_self, Bool.or_true, Bool.true_or, Bool.false_eq_true, if_true, if_false] <;> omega

theorem trunc_eq (d a : Int) (hd : 0 < d) : trunc d a = d * ((a + goEpochOffNs) / d) - goEpochOffNs := by
  rw [trunc, if_neg (by omega), Int.emod_def]; omega

theorem trunc_mono (d a b : Int) (hd : 0 < d) (h : a ≤ b) : trunc d a ≤ trunc d b := by
  rw [trunc_eq d a hd, trunc_eq d b hd]
  have := Int.mul_le_mul_of_nonneg_left
    (Int.ediv_le_ediv hd (show a + goEpochOffNs ≤ b + goEpochOffNs by omega)) (Int.le_of_lt hd)
  omega

theorem trunc_bounds (d a : Int) (hd : 0 < d) : trunc d a ≤ a ∧ a < trunc d a + d := by
  rw [trunc, if_neg (by omega)]
  have h1 := Int.emod_nonneg (a + goEpochOffNs) (show d ≠ 0 by omega)
  have h2 := Int.emod_lt_of_pos (a + goEpochOffNs) hd
  omega

theorem trunc_add_mul (d a k : Int) (hd : 0 < d) : trunc d (a + k * d) = trunc d a + k * d := by
  rw [trunc, trunc, if_neg (by omega), if_neg (by omega), Int.add_right_comm, Int.add_mul_emod_self_right]
  omega

/-- two readings at most `n` slots apart: the earlier slot is among the `n` newest as of the later
one, or exactly the one before them. -/
theorem slot_cases (d : Int) (n : Nat) (a b : Int) (hd : 0 < d) (h : b - a ≤ n * d) :
    trunc d b - n * d < trunc d a ∨ trunc d a = trunc d b - n * d := by
  have := trunc_mono d b (a + n * d) hd (by omega)
  rw [trunc_add_mul d a n hd] at this
  omega

/-! ## periods: `t / P` is the index of the period `[k·P, (k+1)·P)` that `t` lies in -/

/-- For a period that divides the offset of Go's zero time (hours, days), `Truncate(P).Add(P)` is the
start of the next period. -/
theorem trunc_add_period (P now : Int) (hP : 0 < P) (hoff : goEpochOffNs % P = 0) :
    trunc P now + P = (now / P + 1) * P := by
  have h1 : (now + goEpochOffNs) % P = now % P := by
    rw [Int.add_emod, hoff, Int.add_zero, Int.emod_emod]
  rw [trunc, if_neg (by omega), h1, Int.emod_def, Int.add_mul, Int.mul_comm]; omega

theorem next_period_le_iff (P m now : Int) (hP : 0 < P) : (m / P + 1) * P ≤ now ↔ m / P < now / P := by
  rw [← Int.le_ediv_iff_mul_le hP]; omega

end Arc.C28
