import Arc.Model.C16
/-! C16 — the frame stack of MaskFromKeywordsInFunctionBodies: inside a frame, `maskFns` copies an operand that
`walk` accepts and comes back to the frame's own depth (`maskFns_walk`). -/
namespace Arc.C16

/-- walk over the first operand of a body; `k` = parenthesis depth relative to the body. Allowed: any
tokens, nested calls and parentheses to any depth, FROM words inside nested parentheses (sub-queries);
not allowed: another trigger word, a FROM word at the body's own level, a `)` that closes the body. -/
def walk : Nat → List Tok → Option Nat
  | k, [] => some k
  | k, .p c :: rest =>
    if c = '(' then walk (k + 1) rest
    else if c = ')' then (match k with | 0 => none | k' + 1 => walk k' rest)
    else walk k rest
  | k, .w s :: rest =>
    if isTrigger s then none else if lower s = "from".toList ∧ k = 0 then none else walk k rest
  | k, _ :: rest => walk k rest

theorem maskFns_walk (xs rest : List Tok) : ∀ (k : Nat) (T : Int) (tl : List Int) (k' : Nat),
    walk k xs = some k' →
    maskFns ⟨T + k, T :: tl, false⟩ (xs ++ rest) = xs ++ maskFns ⟨T + k', T :: tl, false⟩ rest := by
  induction xs with
  | nil => intro k T tl k' h; cases h; rfl
  | cons t xs ih =>
    intro k T tl k' h
    cases t with
    | p c =>
      simp only [walk] at h
      split at h
      · subst c
        simpa [maskFns, Int.add_assoc] using ih (k + 1) T tl k' h
      · split at h
        · subst c
          cases k with
          | zero => cases h
          | succ k0 =>
            have hd : T + ((k0 + 1 : Nat) : Int) - 1 = T + (k0 : Int) := by omega
            have hnot : ¬ T > T + (k0 : Int) := by omega
            simp only [List.cons_append, maskFns, hd, hnot, if_false, ih k0 T tl k' h]
        · simp [maskFns, *, ih k T tl k' h]
    | w s =>
      simp only [walk] at h
      split at h
      · cases h
      · split at h
        · cases h
        · rename_i ht hf
          have hcond : (lower s == "from".toList && topIs ⟨T + k, T :: tl, false⟩) = false := by
            by_cases hl : lower s = ['f', 'r', 'o', 'm']
            · have : ¬ (T + (k : Int) = T) := by have : k ≠ 0 := fun hk => hf ⟨hl, hk⟩; omega
              simp [topIs, this]
            · simp [hl]
          simp only [List.cons_append, maskFns, hcond, Bool.false_eq_true, if_false, Bool.not_eq_true _ ▸ ht,
            ih k T tl k' h]
    | _ => simp only [walk] at h; simp [maskFns, ih k T tl k' h]

theorem trigger_not_from (t : Str) (h : isTrigger t = true) : (lower t == "from".toList) = false :=
  Bool.eq_false_iff.mpr fun hc => by simp [isTrigger, eq_of_beq hc] at h

end Arc.C16
