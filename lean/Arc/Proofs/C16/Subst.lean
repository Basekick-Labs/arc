import Arc.Model.C16
/-!
C16 — SPEC (annotated token grammar of prepared statements); below it the first facts about the patterns: `scan`
where a pattern fires or cannot start, the tokens that start no match, the words a join pattern reads off a
well-formed join prefix.

`Item` is the grammar of a statement AFTER the preparation phases of the rewrite (string literals and
quoted identifiers are single tokens, FROM keywords inside EXTRACT/SUBSTRING/TRIM/OVERLAY bodies are
`Tok.m`, comments are gone, whitespace runs are merged).  Every token of the statement is an `Item`;
the annotation says what the token sequence MEANS to DuckDB's binder:

  * `ref s`      a table position introduced by FROM or by a join operator, `s.cte` = the binder resolves
                 the name to a CTE in scope (otherwise it is a base table = a stored measurement);
  * `commaRef`   a table position continuing a FROM list after a comma;
  * `notRef`     the FROM keyword of `IS [NOT] DISTINCT FROM <operand>`: not a table position;
  * `tok t`      anything else (select lists, predicates, parentheses of sub-queries and CTE bodies,
                 function calls, column qualifiers `a.b`, masked function-body FROMs, …).

`flat` forgets the annotation (that is the text Arc sees), `baseTableRefs` reads it, `mapRefs` replaces
every base-table reference by its read_parquet call and NOTHING else. `Carve` (from `startWord` on) is the
decidable condition on `q` under which the rewrite is proved to do the same.
-/
namespace Arc.C16

inductive NameTok where
  | bare (s : Str)
  | quoted (s : Str)      -- text with the quotes
  deriving DecidableEq, Repr

def NameTok.tok : NameTok → Tok
  | .bare s => .w s
  | .quoted s => .q s

/-- the measurement / database name the binder sees -/
def NameTok.name : NameTok → Str
  | .bare s => s
  | .quoted s => unquote s

structure Site where
  mods : List (Str × Str)        -- join modifiers as written, each with the whitespace after it
  lat : Option (Str × Str)       -- `LATERAL` + whitespace in front of JOIN
  kw : Str                       -- the FROM / JOIN word as written
  isJoin : Bool
  gap : Str                      -- whitespace before the name
  db : Option NameTok
  tbl : NameTok
  cte : Bool
  deriving DecidableEq, Repr

inductive Item where
  | tok (t : Tok)
  | ref (s : Site)
  | commaRef (gap : Str) (tbl : NameTok) (cte : Bool)
  | notRef (kw gap : Str) (operand : Tok)
  deriving DecidableEq, Repr

def preToks : List (Str × Str) → List Tok
  | [] => []
  | (m, g) :: rest => .w m :: .s g :: preToks rest

def latToks : Option (Str × Str) → List Tok
  | none => []
  | some (l, g) => [.w l, .s g]

def nameToks (db : Option NameTok) (tbl : NameTok) : List Tok :=
  match db with
  | none => [tbl.tok]
  | some d => [d.tok, .p '.', tbl.tok]

def Site.toks (s : Site) : List Tok :=
  preToks s.mods ++ (latToks s.lat ++ (.w s.kw :: .s s.gap :: nameToks s.db s.tbl))

def Item.toks : Item → List Tok
  | .tok t => [t]
  | .ref s => s.toks
  | .commaRef g t _ => [.p ',', .s g, t.tok]
  | .notRef k g o => [.w k, .s g, o]

def flat : List Item → List Tok
  | [] => []
  | it :: rest => it.toks ++ flat rest

/-- what DuckDB's binder resolves as base tables -/
def baseTableRefs : List Item → List (Option NameTok × NameTok)
  | [] => []
  | .ref s :: rest => (if s.cte then [] else [(s.db, s.tbl)]) ++ baseTableRefs rest
  | .commaRef _ t c :: rest => (if c then [] else [(none, t)]) ++ baseTableRefs rest
  | _ :: rest => baseTableRefs rest

def Site.words (s : Site) : List Str :=
  s.mods.map Prod.fst ++ ((match s.lat with | none => [] | some (l, _) => [l]) ++ [s.kw])

def dbOf (hdr : Option Str) (db : Option NameTok) : Str :=
  match db with
  | some d => d.name
  | none => hdr.getD "default".toList

/-- readParquetOf: the replacement of one base-table reference -/
def Site.replaced (hdr : Option Str) (s : Site) : Tok :=
  if s.isJoin then .rpJ s.words (dbOf hdr s.db) s.tbl.name else .rpF (dbOf hdr s.db) s.tbl.name

def mapItem (hdr : Option Str) : Item → Item
  | .ref s => if s.cte then .ref s else .tok (s.replaced hdr)
  | it => it

/-- `q.mapRefs readParquetOf` for the positions the FROM/JOIN grammar introduces -/
def mapRefs (hdr : Option Str) (q : List Item) : List Item := q.map (mapItem hdr)

def startWord (s : Str) : Bool :=
  lower s == "from".toList || lower s == "join".toList || lower s == "lateral".toList || isMod s

/-- a token that cannot start a match of any reference pattern -/
def inertTok : Tok → Bool
  | .w s => !startWord s
  | _ => true

def NameTok.ok : NameTok → Bool
  | .bare s => !startWord s
  | .quoted s => validIdent (unquote s)

def Site.wf (s : Site) : Bool :=
  s.tbl.ok && (match s.db with | none => true | some d => d.ok) &&
  (if s.isJoin then
    s.mods.all (fun m => isMod m.1) && lower s.kw == "join".toList &&
      (match s.lat with | none => true | some (l, _) => lower l == "lateral".toList)
   else s.mods.isEmpty && s.lat.isNone && lower s.kw == "from".toList)

/-- the model's view: is this name in the CTE registry? -/
def modelCte (cte : List Key) (nm : Tok) : Bool :=
  cteHas cte (keyOf nm) || cteHas cte (.w (lower (resolve nm)))

/-- what follows a bare name: not (blanks then) `.` or `(` -/
def nextOK : List Item → Bool
  | .tok (.p c) :: _ => !(c == '.' || c == '(')
  | .tok (.s sp) :: .tok (.p c) :: _ => !((sp.dropWhile blank4).isEmpty && (c == '.' || c == '('))
  | .tok (.s _) :: .tok (.s _) :: _ => false   -- runs are merged
  | _ => true

def Site.ok (hdr : Option Str) (cte : List Key) (s : Site) (rest : List Item) : Bool :=
  s.wf &&
  (match s.db with
    | some _ => hdr.isNone            -- with the header, db.table statements are rejected (not accepted queries)
    | none => s.cte == modelCte cte s.tbl.tok && (s.cte || !shouldSkip (lower s.tbl.name)) && nextOK rest) &&
  (s.db.isNone || !s.cte)

def carveL (hdr : Option Str) (cte : List Key) : List Item → Bool
  | [] => true
  | .tok t :: rest => inertTok t && carveL hdr cte rest
  | .ref s :: rest => s.ok hdr cte rest && carveL hdr cte rest
  | .commaRef _ _ _ :: _ => false
  | .notRef _ _ _ :: _ => false

/-- the CTE registry the code builds for this statement -/
def cteOf (_hdr : Option Str) (s : List Tok) : List Key := cteReg s

def Carve (hdr : Option Str) (q : List Item) : Bool := carveL hdr (cteOf hdr (flat q)) q

theorem scan_skip (f) (xs rest : List Tok) : scan f xs.length (xs ++ rest) = scan f 0 rest := by
  induction xs with
  | nil => rfl
  | cons x xs ih => simpa [scan] using ih

theorem scan_none {f} {t : Tok} {rest : List Tok} (h : f (t :: rest) = none) :
    scan f 0 (t :: rest) = t :: scan f 0 rest := by
  simp [scan, h]

theorem scan_fire {f} {ys rest out : List Tok} (hne : ys ≠ []) (h : f (ys ++ rest) = some (out, ys.length)) :
    scan f 0 (ys ++ rest) = out ++ scan f 0 rest := by
  cases ys with
  | nil => cases hne rfl
  | cons t xs =>
    rw [List.cons_append] at h ⊢
    simp [scan, h, scan_skip]

theorem scan_inert {f} {xs rest : List Tok} (h : ∀ t ∈ xs, ∀ r, f (t :: r) = none) :
    scan f 0 (xs ++ rest) = xs ++ scan f 0 rest := by
  induction xs with
  | nil => rfl
  | cons x xs ih =>
    obtain ⟨hx, hxs⟩ := List.forall_mem_cons.mp h
    simp only [List.cons_append]
    rw [scan_none (hx _), ih hxs]

/- Keywords appear in hypotheses as character lists (`['f', 'r', 'o', 'm']`), never as `"from".toList`: once `simp`
has evaluated the literal on one side, unifying the two forms sends the elaborator through the UTF-8 decoder. For
the same reason the lemmas below unfold the patterns by `unfold`/`split`, not by `simp`. -/
def notFrom : Tok → Bool
  | .w s => !(lower s == "from".toList)
  | _ => true

def notJoinStart : Tok → Bool
  | .w s => !(lower s == "join".toList || lower s == "lateral".toList || isMod s)
  | _ => true

theorem notFrom_w {s : Str} : notFrom (.w s) = true ↔ ¬ lower s = ['f', 'r', 'o', 'm'] := by simp [notFrom]

theorem fromDbAt_none {t : Tok} {r : List Tok} (h : notFrom t = true) : fromDbAt (t :: r) = none := by
  cases t with
  | w s =>
    have hs := notFrom_w.mp h
    unfold fromDbAt
    split
    · next heq => cases heq; simp [hs]
    · rfl
  | _ => rfl

theorem fromSimpleAt_none {cte db} {t : Tok} {r : List Tok} (h : notFrom t = true) :
    fromSimpleAt cte db (t :: r) = none := by
  cases t with
  | w s =>
    have hs := notFrom_w.mp h
    unfold fromSimpleAt
    split
    · next heq => cases heq; simp [hs]
    · rfl
  | _ => rfl

theorem modsThenJoin_none {t : Tok} {r : List Tok} (h : notJoinStart t = true) : modsThenJoin (t :: r) = none := by
  cases t with
  | w s =>
    have h' : (¬ lower s = ['j', 'o', 'i', 'n'] ∧ ¬ lower s = ['l', 'a', 't', 'e', 'r', 'a', 'l']) ∧ isMod s = false := by
      simpa [notJoinStart] using h
    obtain ⟨⟨hj, hl⟩, hm⟩ := h'
    unfold modsThenJoin
    split
    · next heq => cases heq; simp [hj, hl, hm]
    · rfl
  | _ => rfl

theorem joinDbAt_none {t : Tok} {r : List Tok} (h : notJoinStart t = true) : joinDbAt (t :: r) = none := by
  simp [joinDbAt, modsThenJoin_none h]

theorem joinSimpleAt_none {cte db} {t : Tok} {r : List Tok} (h : notJoinStart t = true) :
    joinSimpleAt cte db (t :: r) = none := by
  simp [joinSimpleAt, modsThenJoin_none h]

theorem not_mod (s : Str) (h : lower s = ['f', 'r', 'o', 'm'] ∨ lower s = ['j', 'o', 'i', 'n'] ∨
    lower s = ['l', 'a', 't', 'e', 'r', 'a', 'l']) : isMod s = false := by
  rcases h with h | h | h <;> simp [isMod, joinMods, h]

def latWords : Option (Str × Str) → List Str
  | none => []
  | some (l, _) => [l]

/-- the words in front of the name of a join position are as `patternJoin*` wants them -/
def joinWf (ms : List (Str × Str)) (lat : Option (Str × Str)) (kw : Str) : Prop :=
  (∀ m ∈ ms, isMod m.1 = true) ∧ (∀ lg, lat = some lg → lower lg.1 = ['l', 'a', 't', 'e', 'r', 'a', 'l']) ∧
    lower kw = ['j', 'o', 'i', 'n']

theorem joinWf_tail {mg ms lat kw} (h : joinWf (mg :: ms) lat kw) : joinWf ms lat kw :=
  ⟨(List.forall_mem_cons.mp h.1).2, h.2⟩

theorem modsThenJoin_prefix {ms : List (Str × Str)} {lat : Option (Str × Str)} {kw gap : Str} {r : List Tok}
    (h : joinWf ms lat kw) :
    modsThenJoin (preToks ms ++ (latToks lat ++ (.w kw :: .s gap :: r))) =
      some (ms.map Prod.fst ++ (latWords lat ++ [kw]), (preToks ms).length + ((latToks lat).length + 2), r) := by
  induction ms with
  | nil =>
    have hk := h.2.2
    cases lat with
    | none => simp [preToks, latToks, latWords, modsThenJoin, hk, not_mod kw (.inr (.inl hk))]
    | some lg =>
      have hl := h.2.1 lg rfl
      simp [preToks, latToks, latWords, modsThenJoin, hk, hl, not_mod lg.1 (.inr (.inr hl))]
  | cons mg ms ih =>
    obtain ⟨m, g⟩ := mg
    have hmm : isMod m = true := h.1 (m, g) List.mem_cons_self
    simp only [preToks, List.cons_append, modsThenJoin, hmm, if_true, ih (joinWf_tail h), Option.map_some,
      List.map_cons, List.length_cons]
    simp only [Option.some.injEq, Prod.mk.injEq, true_and, and_true]
    omega

end Arc.C16
