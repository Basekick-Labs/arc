import Arc.Proofs.C16.Subst
/-! C16 — the tokens of one table position: which of them can start a match, the join patterns on a join
position, and what the carve-out `Site.ok` says field by field. -/
namespace Arc.C16

theorem inert_notFrom {t : Tok} (h : inertTok t = true) : notFrom t = true := by
  cases t <;> simp_all [inertTok, notFrom, startWord]

theorem inert_notJoin {t : Tok} (h : inertTok t = true) : notJoinStart t = true := by
  cases t <;> simp_all [inertTok, notJoinStart, startWord]

theorem name_inert {n : NameTok} (h : n.ok = true) : inertTok n.tok = true := by
  cases n <;> simp_all [NameTok.ok, NameTok.tok, inertTok]

theorem resolve_ok {n : NameTok} (h : n.ok = true) : resolve n.tok = n.name := by
  cases n <;> simp_all [NameTok.ok, NameTok.tok, NameTok.name, resolve, Tok.text]

theorem name_wordLike (n : NameTok) : wordLike n.tok = true ∧ simpleName n.tok = true := by
  cases n <;> exact ⟨rfl, rfl⟩

theorem site_head (s : Site) : ∃ w tl, s.toks = Tok.w w :: tl := by
  unfold Site.toks
  cases hm : s.mods with
  | cons mg ms => obtain ⟨m, g⟩ := mg; exact ⟨m, _, rfl⟩
  | nil =>
    cases hl : s.lat with
    | some lg => obtain ⟨l, g⟩ := lg; exact ⟨l, _, rfl⟩
    | none => exact ⟨s.kw, _, rfl⟩

theorem replaced_inert (hdr) (s : Site) : inertTok (s.replaced hdr) = true := by
  unfold Site.replaced; split <;> rfl

theorem forall_mem_cons₂ {p : Tok → Prop} {a b : Tok} {l : List Tok} (ha : p a) (hb : p b) (hl : ∀ t ∈ l, p t) :
    ∀ t ∈ a :: b :: l, p t :=
  List.forall_mem_cons.mpr ⟨ha, List.forall_mem_cons.mpr ⟨hb, hl⟩⟩

theorem names_inert {db tbl} (ht : NameTok.ok tbl = true) (hd : ∀ d, db = some d → NameTok.ok d = true) :
    ∀ t ∈ nameToks db tbl, inertTok t = true := by
  have h1 : ∀ t ∈ [tbl.tok], inertTok t = true := List.forall_mem_singleton.mpr (name_inert ht)
  cases db with
  | none => exact h1
  | some d => exact forall_mem_cons₂ (name_inert (hd d rfl)) rfl h1

theorem join_site_notFrom {ms lat kw gap db tbl} (hj : joinWf ms lat kw)
    (ht : NameTok.ok tbl = true) (hd : ∀ d, db = some d → NameTok.ok d = true) :
    ∀ t ∈ preToks ms ++ (latToks lat ++ (Tok.w kw :: Tok.s gap :: nameToks db tbl)), notFrom t = true := by
  have base : ∀ t ∈ Tok.w kw :: Tok.s gap :: nameToks db tbl, notFrom t = true :=
    forall_mem_cons₂ (notFrom_w.mpr (by simp [hj.2.2])) rfl fun t h => inert_notFrom (names_inert ht hd t h)
  induction ms with
  | nil =>
    cases lat with
    | none => exact base
    | some lg => obtain ⟨l, g⟩ := lg; exact forall_mem_cons₂ (notFrom_w.mpr (by simp [hj.2.1 _ rfl])) rfl base
  | cons mg ms ih =>
    obtain ⟨m, g⟩ := mg
    have hm : ¬ lower m = ['f', 'r', 'o', 'm'] := fun hc =>
      Bool.eq_false_iff.mp (not_mod m (.inl hc)) (hj.1 _ List.mem_cons_self)
    exact forall_mem_cons₂ (notFrom_w.mpr hm) rfl (ih (joinWf_tail hj))

theorem from_site_notJoin {kw gap tbl} (hk : lower kw = ['f', 'r', 'o', 'm']) (ht : NameTok.ok tbl = true) :
    ∀ t ∈ [Tok.w kw, Tok.s gap, tbl.tok], notJoinStart t = true :=
  forall_mem_cons₂ (by simp [notJoinStart, hk, not_mod kw (.inl hk)]) rfl
    (List.forall_mem_singleton.mpr (inert_notJoin (name_inert ht)))

theorem inert_not_lateral {l : Str} (h : inertTok (.w l) = true) : (lower l == "lateral".toList) = false := by
  simp only [inertTok, startWord, Bool.not_eq_true', Bool.or_eq_false_iff] at h
  exact h.1.2

theorem joinDbTail_none {words n} {t : Tok} {R : List Tok} (ht : inertTok t = true)
    (hR : dotOrCall R = false) : joinDbTail words n (t :: R) = none := by
  unfold joinDbTail
  simp only
  split
  · next heq => cases heq; simp only [inert_not_lateral ht, Bool.false_and, Bool.false_eq_true, if_false]
  · split
    · next heq => cases heq; simp [dotOrCall, headDotParen] at hR
    · rfl

/-- on a join position with a bare name the `db.table` pattern reaches the name and finds no `.` behind it -/
theorem joinDbAt_bare {ms lat kw} (gap) {tbl : NameTok} {R : List Tok} (hj : joinWf ms lat kw)
    (ht : tbl.ok = true) (hR : dotOrCall R = false) :
    joinDbAt (preToks ms ++ (latToks lat ++ (.w kw :: .s gap :: tbl.tok :: R))) = none := by
  rw [joinDbAt, modsThenJoin_prefix hj]
  exact joinDbTail_none (name_inert ht) hR

theorem joinSimpleTail_some {cte db ts words n} {t : Tok} {R : List Tok} (ht : inertTok t = true)
    (hs : simpleName t = true) :
    joinSimpleTail cte db ts words n (t :: R) =
      some (if replaceOK cte t R then [Tok.rpJ words db (resolve t)] else ts.take (n + 1), n + 1) := by
  unfold joinSimpleTail
  simp only
  split
  · next heq => cases heq; simp only [inert_not_lateral ht, Bool.false_and, Bool.false_eq_true, if_false]; rfl
  · simp [hs]

theorem site_toks_append (s : Site) (R : List Tok) :
    s.toks ++ R = preToks s.mods ++ (latToks s.lat ++ (.w s.kw :: .s s.gap :: (nameToks s.db s.tbl ++ R))) := by
  simp [Site.toks]

theorem site_toks_length (s : Site) :
    s.toks.length = (preToks s.mods).length + ((latToks s.lat).length + 2) + (nameToks s.db s.tbl).length := by
  simp [Site.toks]; omega

section
variable (s : Site) (R : List Tok) (hj : joinWf s.mods s.lat s.kw)
include hj

theorem joinDb_simple (hd : s.db = none) (ht : s.tbl.ok = true) (hR : dotOrCall R = false) :
    scan joinDbAt 0 (s.toks ++ R) = s.toks ++ scan joinDbAt 0 R := by
  obtain ⟨ms, lat, kw, j, gap, db, tbl, c⟩ := s
  cases hd
  replace ht : tbl.ok = true := ht
  rw [site_toks_append, site_toks_append]
  show scan joinDbAt 0 (preToks ms ++ (latToks lat ++ (Tok.w kw :: Tok.s gap :: tbl.tok :: R))) =
    preToks ms ++ (latToks lat ++ (Tok.w kw :: Tok.s gap :: tbl.tok :: scan joinDbAt 0 R))
  -- every word of the prefix starts a shorter well-formed prefix
  have word : ∀ x g X Y, joinDbAt (.w x :: .s g :: X) = none → scan joinDbAt 0 X = Y →
      scan joinDbAt 0 (.w x :: .s g :: X) = .w x :: .s g :: Y :=
    fun x g X Y h hX => by rw [scan_none h, scan_none (joinDbAt_none rfl), hX]
  have hkw := word kw gap _ _ (joinDbAt_bare (ms := []) (lat := none) gap ⟨nofun, nofun, hj.2.2⟩ ht hR)
    (scan_none (joinDbAt_none (inert_notJoin (name_inert ht))))
  induction ms with
  | nil =>
    cases lat with
    | none => exact hkw
    | some lg => obtain ⟨l, g⟩ := lg; exact word l g _ _ (joinDbAt_bare (ms := []) gap hj ht hR) hkw
  | cons mg ms ih => obtain ⟨m, g⟩ := mg; exact word m g _ _ (joinDbAt_bare gap hj ht hR) (ih (joinWf_tail hj))

theorem joinDbAt_site (d : NameTok) (hd : s.db = some d) (hdo : d.ok = true) (ht : s.tbl.ok = true) :
    joinDbAt (s.toks ++ R) = some ([.rpJ s.words d.name s.tbl.name], s.toks.length) := by
  rw [← resolve_ok hdo, ← resolve_ok ht, site_toks_append, site_toks_length, hd, joinDbAt, modsThenJoin_prefix hj]
  generalize s.tbl = tbl
  cases d <;> cases tbl <;> rfl

theorem joinSimpleAt_site (cte db) (hd : s.db = none) (ht : s.tbl.ok = true) :
    joinSimpleAt cte db (s.toks ++ R) =
      some (if replaceOK cte s.tbl.tok R then [.rpJ s.words db s.tbl.name] else s.toks, s.toks.length) := by
  have e := site_toks_append s R
  have n : s.toks.length = (preToks s.mods).length + ((latToks s.lat).length + 2) + 1 := by
    rw [site_toks_length, hd]; rfl
  rw [hd] at e
  rw [joinSimpleAt, e, modsThenJoin_prefix hj]
  show joinSimpleTail cte db _ _ _ (s.tbl.tok :: R) = _
  rw [joinSimpleTail_some (name_inert ht) (name_wordLike s.tbl).2, ← e, ← n, List.take_left,
    resolve_ok ht]
  rfl
end

section
variable {hdr : Option Str} {cte : List Key} {mods : List (Str × Str)} {lat : Option (Str × Str)} {kw gap : Str}
  {j c : Bool} {db : Option NameTok} {tbl : NameTok} {rest : List Item}

theorem ok_names {s : Site} (h : s.ok hdr cte rest = true) :
    s.tbl.ok = true ∧ ∀ d, s.db = some d → d.ok = true ∧ hdr = none ∧ s.cte = false := by
  obtain ⟨mods, lat, kw, j, gap, db, tbl, c⟩ := s
  cases db with
  | none =>
    simp only [Site.ok, Site.wf, Bool.and_eq_true] at h
    exact ⟨h.1.1.1.1, nofun⟩
  | some d =>
    simp only [Site.ok, Site.wf, Bool.and_eq_true, Option.isNone_some, Bool.false_or] at h
    obtain ⟨⟨⟨⟨ht, hd⟩, _⟩, hh⟩, hc⟩ := h
    refine ⟨ht, fun d' hd' => ?_⟩
    cases hd'
    exact ⟨hd, by simpa using hh, by simpa using hc⟩

theorem ok_from (h : Site.ok hdr cte ⟨mods, lat, kw, false, gap, db, tbl, c⟩ rest = true) :
    mods = [] ∧ lat = none ∧ lower kw = ['f', 'r', 'o', 'm'] := by
  simp only [Site.ok, Site.wf, Bool.and_eq_true, Bool.false_eq_true, if_false, List.isEmpty_iff,
    Option.isNone_iff_eq_none, beq_iff_eq] at h
  exact ⟨h.1.1.2.1.1, h.1.1.2.1.2, h.1.1.2.2⟩

theorem ok_join (h : Site.ok hdr cte ⟨mods, lat, kw, true, gap, db, tbl, c⟩ rest = true) : joinWf mods lat kw := by
  simp only [Site.ok, Site.wf, Bool.and_eq_true, if_true, List.all_eq_true, beq_iff_eq] at h
  obtain ⟨⟨⟨_, ⟨hm, hk⟩, hl⟩, _⟩, _⟩ := h
  exact ⟨hm, fun lg e => by subst e; simpa using hl, hk⟩

theorem ok_next {s : Site} (h : s.ok hdr cte rest = true) (hd : s.db = none) :
    nextOK rest = true := by
  simp only [Site.ok, hd, Bool.and_eq_true] at h
  exact h.1.2.2

/-- at a bare table name the callback's checks come out as the annotation says -/
theorem replaceOK_eq (R : List Tok) (hok : Site.ok hdr cte ⟨mods, lat, kw, j, gap, none, tbl, c⟩ rest = true)
    (hR : dotOrCall R = false) : replaceOK cte tbl.tok R = !c := by
  simp only [Site.ok, Site.wf, Bool.and_eq_true, Option.isNone_none, Bool.true_or, and_true] at hok
  obtain ⟨⟨ht, _⟩, ⟨hcte, hskip⟩, _⟩ := hok
  have hres := resolve_ok ht
  simp only [modelCte, hres, beq_iff_eq] at hcte
  subst hcte
  simp only [replaceOK, hR, hres]
  revert hskip
  cases cteHas cte (keyOf tbl.tok) <;> cases cteHas cte (Key.w (lower tbl.name)) <;> simp
end

end Arc.C16
