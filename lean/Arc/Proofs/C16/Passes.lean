import Arc.Proofs.C16.Sites
/-! C16 — a reference pass on the annotated grammar. Between two passes the statement is `q` with the table
positions outside some `keep : Site → Bool` already replaced (`keepItem`); `pass_lemma` turns what a pattern
does at one table position into what its scan does to the whole statement. -/
namespace Arc.C16

def keepItem (keep : Site → Bool) (hdr : Option Str) : Item → Item
  | .ref s => if keep s then .ref s else .tok (s.replaced hdr)
  | it => it

theorem keepItem_all (hdr) (q : List Item) : q.map (keepItem (fun _ => true) hdr) = q := by
  induction q with
  | nil => rfl
  | cons it rest ih => rw [List.map_cons, ih]; cases it <;> rfl

theorem keepItem_congr (hdr cte) (k k' : Site → Bool) (hk : ∀ s rest, s.ok hdr cte rest = true → k s = k' s) :
    ∀ q, carveL hdr cte q = true → q.map (keepItem k hdr) = q.map (keepItem k' hdr)
  | [], _ => rfl
  | .tok t :: rest, hc => by
    simp only [carveL, Bool.and_eq_true] at hc
    rw [List.map_cons, List.map_cons, keepItem_congr hdr cte k k' hk rest hc.2]; rfl
  | .ref s :: rest, hc => by
    simp only [carveL, Bool.and_eq_true] at hc
    rw [List.map_cons, List.map_cons, keepItem_congr hdr cte k k' hk rest hc.2, keepItem, keepItem, hk s rest hc.1]
  | .commaRef _ _ _ :: _, hc => by simp [carveL] at hc
  | .notRef _ _ _ :: _, hc => by simp [carveL] at hc

def plainHead : Tok → Bool
  | .s _ | .p _ => false
  | _ => true

/-- a table position starts, replaced or not, with a token that is neither blank nor punctuation -/
theorem keepItem_ref_head (k hdr) (s : Site) :
    ∃ t tl, (keepItem k hdr (.ref s)).toks = t :: tl ∧ plainHead t = true := by
  obtain ⟨w, tl, hw⟩ := site_head s
  cases hk : k s with
  | true => exact ⟨.w w, tl, by simp [keepItem, hk, Item.toks, hw], rfl⟩
  | false =>
    exact ⟨s.replaced hdr, [], by simp [keepItem, hk, Item.toks], by unfold Site.replaced; split <;> rfl⟩

theorem headDotParen_plain {t : Tok} {r : List Tok} (h : plainHead t = true) : headDotParen (t :: r) = false := by
  cases t <;> first | rfl | cases h

theorem dotOrCall_plain {t : Tok} {r : List Tok} (h : plainHead t = true) : dotOrCall (t :: r) = false := by
  cases t <;> first | rfl | cases h

/-- what the carve-out asks after a bare name holds of the rest of the statement between any two passes -/
theorem nextOK_dotOrCall (k hdr) : ∀ rest : List Item, nextOK rest = true →
    dotOrCall (flat (rest.map (keepItem k hdr))) = false
  | [], _ => rfl
  | .ref s :: _, _ => by
    obtain ⟨t, tl, ht, hp⟩ := keepItem_ref_head k hdr s
    rw [List.map_cons, flat, ht]; exact dotOrCall_plain hp
  | .commaRef _ _ _ :: _, _ => rfl
  | .notRef _ _ _ :: _, _ => rfl
  | .tok t :: rest, h => by
    cases t with
    | p c => exact (Bool.not_eq_true' _).mp h
    | s sp =>
      show ((sp.dropWhile blank4).isEmpty && headDotParen (flat (rest.map (keepItem k hdr)))) = false
      match rest, h with
      | [], _ => exact Bool.and_false _
      | .ref s :: _, _ =>
        obtain ⟨t, tl, ht, hp⟩ := keepItem_ref_head k hdr s
        rw [List.map_cons, flat, ht, List.cons_append, headDotParen_plain hp]; exact Bool.and_false _
      | .commaRef _ _ _ :: _, _ => exact Bool.and_false _
      | .notRef _ _ _ :: _, _ => exact Bool.and_false _
      | .tok u :: _, h =>
        cases u with
        | p c => exact (Bool.not_eq_true' _).mp h
        | s _ => cases h
        | _ => exact Bool.and_false _
    | _ => rfl

/-- a pattern that no inert token starts, and that at every accepted table position still in `before` replaces the
position if `sel` and copies it otherwise, does the same to the whole statement; the tail `R` of a position is
the rest of the statement after the earlier passes, of which the pattern may use that it does not continue a
bare name with `.` or `(`. -/
theorem pass_lemma (f) (sel before : Site → Bool) (hdr : Option Str) (cte : List Key)
    (Hi : ∀ {t r}, inertTok t = true → f (t :: r) = none)
    (H : ∀ s rest R, s.ok hdr cte rest = true → (s.db = none → dotOrCall R = false) → before s = true →
      scan f 0 (s.toks ++ R) = (if sel s then [s.replaced hdr] else s.toks) ++ scan f 0 R) :
    ∀ q, carveL hdr cte q = true →
      scan f 0 (flat (q.map (keepItem before hdr))) = flat (q.map (keepItem (fun s => before s && !sel s) hdr))
  | [], _ => rfl
  | .tok t :: rest, hc => by
    simp only [carveL, Bool.and_eq_true] at hc
    exact (scan_none (Hi hc.1)).trans (congrArg (t :: ·) (pass_lemma f sel before hdr cte Hi H rest hc.2))
  | .ref s :: rest, hc => by
    simp only [carveL, Bool.and_eq_true] at hc
    have ih := pass_lemma f sel before hdr cte Hi H rest hc.2
    simp only [List.map_cons, flat, keepItem]
    by_cases hb : before s = true
    · have hR := fun hd => nextOK_dotOrCall before hdr rest (ok_next hc.1 hd)
      rw [if_pos hb, Item.toks, H s rest _ hc.1 hR hb, ih]
      simp only [hb, Bool.true_and]
      cases sel s <;> rfl
    · rw [if_neg hb, if_neg (by simp [hb]), Item.toks, List.singleton_append,
        scan_none (Hi (replaced_inert hdr s)), ih]; rfl
  | .commaRef _ _ _ :: _, hc => by simp [carveL] at hc
  | .notRef _ _ _ :: _, hc => by simp [carveL] at hc

end Arc.C16
