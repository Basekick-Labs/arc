import Arc.Proofs.C16.Passes
/-! C16 — the four passes on one table position (H1–H4) and their composition. -/
namespace Arc.C16

/-- the table positions each pass replaces -/
def sel1 (s : Site) : Bool := !s.isJoin && s.db.isSome
def sel2 (s : Site) : Bool := s.isJoin && s.db.isSome
def sel3 (s : Site) : Bool := !s.isJoin && s.db.isNone && !s.cte
def sel4 (s : Site) : Bool := s.isJoin && s.db.isNone && !s.cte

section
variable (hdr : Option Str) (cte : List Key) (s : Site) (rest : List Item) (R : List Tok)
  (hok : s.ok hdr cte rest = true) (hR : s.db = none → dotOrCall R = false)
include hok hR

/-- pass 1: `FROM db.table` -/
theorem H1 : scan fromDbAt 0 (s.toks ++ R) = (if sel1 s then [s.replaced hdr] else s.toks) ++ scan fromDbAt 0 R := by
  obtain ⟨mods, lat, kw, isJoin, gap, db, tbl, c⟩ := s
  obtain ⟨ht, hd⟩ := ok_names hok
  cases isJoin with
  | false =>
    obtain ⟨rfl, rfl, hk⟩ := ok_from hok
    cases db with
    | none =>
      have h0 : ∀ a, fromDbAt (Tok.w kw :: Tok.s gap :: a :: R) = none := fun a => by
        unfold fromDbAt
        split
        · next heq => cases heq; simp [dotOrCall, headDotParen] at hR
        · rfl
      show scan fromDbAt 0 (Tok.w kw :: Tok.s gap :: tbl.tok :: R) = Tok.w kw :: Tok.s gap :: tbl.tok :: scan fromDbAt 0 R
      rw [scan_none (h0 _), scan_none (fromDbAt_none rfl), scan_none (fromDbAt_none (inert_notFrom (name_inert ht)))]
    | some d =>
      obtain ⟨hdo, rfl, rfl⟩ := hd d rfl
      have h0 : fromDbAt ([Tok.w kw, Tok.s gap, d.tok, Tok.p '.', tbl.tok] ++ R) =
          some ([Tok.rpF (resolve d.tok) (resolve tbl.tok)], 5) := by
        simp [fromDbAt, hk, (name_wordLike d).1, (name_wordLike tbl).1]
      rw [resolve_ok hdo, resolve_ok ht] at h0
      exact scan_fire nofun h0
  | true =>
    exact scan_inert fun t h r => fromDbAt_none (join_site_notFrom (ok_join hok) ht (fun d h => (hd d h).1) t h)

/-- pass 2: `<join> db.table` -/
theorem H2 (ha : (!sel1 s) = true) :
    scan joinDbAt 0 (s.toks ++ R) = (if sel2 s then [s.replaced hdr] else s.toks) ++ scan joinDbAt 0 R := by
  obtain ⟨mods, lat, kw, isJoin, gap, db, tbl, c⟩ := s
  obtain ⟨ht, hd⟩ := ok_names hok
  cases isJoin with
  | false =>
    obtain ⟨rfl, rfl, hk⟩ := ok_from hok
    cases db with
    | some d => cases ha
    | none => exact scan_inert fun t h r => joinDbAt_none (from_site_notJoin hk ht t h)
  | true =>
    have hj := ok_join hok
    cases db with
    | none => exact joinDb_simple _ R hj rfl ht (hR rfl)
    | some d =>
      obtain ⟨hdo, rfl, rfl⟩ := hd d rfl
      exact scan_fire (by simp [Site.toks]) (joinDbAt_site _ R hj d rfl hdo ht)

/-- pass 3: `FROM table`. The default database stays `dbOf hdr none` throughout: without the header it is
`"default".toList`, which `simp` must not get to evaluate. -/
theorem H3 (ha : s.db.isNone = true) :
    scan (fromSimpleAt cte (dbOf hdr none)) 0 (s.toks ++ R) =
      (if sel3 s then [s.replaced hdr] else s.toks) ++ scan (fromSimpleAt cte (dbOf hdr none)) 0 R := by
  obtain ⟨mods, lat, kw, isJoin, gap, _ | d, tbl, c⟩ := s
  case some => cases ha
  obtain ⟨ht, _⟩ := ok_names hok
  cases isJoin with
  | false =>
    obtain ⟨rfl, rfl, hk⟩ := ok_from hok
    have h0 : fromSimpleAt cte (dbOf hdr none) ([Tok.w kw, Tok.s gap, tbl.tok] ++ R) =
        some (if replaceOK cte tbl.tok R then [Tok.rpF (dbOf hdr none) (resolve tbl.tok)]
          else [Tok.w kw, Tok.s gap, tbl.tok], 3) := by
      simp [fromSimpleAt, hk, (name_wordLike tbl).2]
    rw [replaceOK_eq R hok (hR rfl), resolve_ok ht] at h0
    refine (scan_fire (ys := [Tok.w kw, Tok.s gap, tbl.tok]) nofun h0).trans ?_
    cases c <;> rfl
  | true =>
    exact scan_inert fun t h r => fromSimpleAt_none (join_site_notFrom (db := none) (ok_join hok) ht nofun t h)

/-- pass 4: `<join> table` -/
theorem H4 (ha : (s.db.isNone && !sel3 s) = true) :
    scan (joinSimpleAt cte (dbOf hdr none)) 0 (s.toks ++ R) =
      (if sel4 s then [s.replaced hdr] else s.toks) ++ scan (joinSimpleAt cte (dbOf hdr none)) 0 R := by
  obtain ⟨mods, lat, kw, isJoin, gap, _ | d, tbl, c⟩ := s
  case some => cases ha
  obtain ⟨ht, _⟩ := ok_names hok
  cases isJoin with
  | false =>
    obtain ⟨rfl, rfl, hk⟩ := ok_from hok
    exact scan_inert fun t h r => joinSimpleAt_none (from_site_notJoin hk ht t h)
  | true =>
    have h0 := joinSimpleAt_site ⟨mods, lat, kw, true, gap, none, tbl, c⟩ R (ok_join hok) cte (dbOf hdr none) rfl ht
    rw [replaceOK_eq R hok (hR rfl)] at h0
    refine (scan_fire (by simp [Site.toks]) h0).trans ?_
    cases c <;> rfl

end

/-- the two bare-name passes, on a statement whose `db.table` positions are gone -/
theorem passes_simple (hdr cte) (q : List Item) (hc : carveL hdr cte q = true) :
    scan (joinSimpleAt cte (dbOf hdr none)) 0 (scan (fromSimpleAt cte (dbOf hdr none)) 0
      (flat (q.map (keepItem (fun s => s.db.isNone) hdr)))) = flat (mapRefs hdr q) := by
  rw [pass_lemma _ sel3 _ hdr cte (fun h => fromSimpleAt_none (inert_notFrom h)) (H3 hdr cte) q hc,
    pass_lemma _ sel4 _ hdr cte (fun h => joinSimpleAt_none (inert_notJoin h)) (H4 hdr cte) q hc]
  refine congrArg flat (keepItem_congr hdr cte _ Site.cte (fun s rest hok => ?_) q hc)
  have hd := (ok_names hok).2
  obtain ⟨_, _, _, j, _, db, _, c⟩ := s
  cases db with
  | some d => exact (hd d rfl).2.2.symm
  | none => cases j <;> cases c <;> rfl

theorem passes_none (cte) (q : List Item) (hc : carveL none cte q = true) :
    passes none cte (flat q) = flat (mapRefs none q) := by
  have e1 := pass_lemma fromDbAt sel1 (fun _ => true) none cte (fun h => fromDbAt_none (inert_notFrom h))
    (fun s rest R hok hR _ => H1 none cte s rest R hok hR) q hc
  simp only [keepItem_all, Bool.true_and] at e1
  have e : (fun s : Site => (!sel1 s) && !sel2 s) = fun s => s.db.isNone :=
    funext fun ⟨_, _, _, j, _, db, _, _⟩ => by cases j <;> cases db <;> rfl
  rw [passes, e1, pass_lemma joinDbAt sel2 _ none cte (fun h => joinDbAt_none (inert_notJoin h))
    (H2 none cte) q hc, e]
  exact passes_simple none cte q hc

theorem passes_some (h : Str) (cte) (q : List Item) (hc : carveL (some h) cte q = true) :
    passes (some h) cte (flat q) = flat (mapRefs (some h) q) := by
  have e := keepItem_congr (some h) cte (fun _ => true) (fun s => s.db.isNone) (fun s rest hok => by
    cases hd : s.db with
    | none => rfl
    | some d => cases ((ok_names hok).2 d hd).2.1) q hc
  rw [keepItem_all] at e
  rw [passes, congrArg flat e]
  exact passes_simple (some h) cte q hc

end Arc.C16
