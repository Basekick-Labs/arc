import Arc.Proofs.C06.Damage
/-! C06: from a byte position of the file to "one damaged entry between intact ones", and the
assembled subsequence bound for one overwritten byte. Core Lean only. -/
namespace Arc.C06
open List

theorem locate_spec (v : UInt8) : ∀ (es : List Entry) (i : Nat), i < (encodeAll es).length →
    ∃ pre e post j, locate es i = some (pre, e, post, j) ∧ es = pre ++ e :: post ∧
      (encodeAll es).set i v = encodeAll pre ++ ((encodeEntry e).set j v ++ encodeAll post) := by
  intro es
  induction es with
  | nil => intro i h; cases h
  | cons e es ih =>
    intro i h
    rw [encodeAll, locate]
    by_cases hi : i < encLen e
    · exact ⟨[], e, es, i, if_pos hi, rfl, List.set_append_left _ _ (by rw [encodeEntry_length]; exact hi)⟩
    · have h' : i - encLen e < (encodeAll es).length := by
        rw [encodeAll, List.length_append, encodeEntry_length] at h; omega
      obtain ⟨pre, x, post, j, h1, h2, h3⟩ := ih (i - encLen e) h'
      refine ⟨e :: pre, x, post, j, by rw [if_neg hi, h1], by rw [h2]; rfl, ?_⟩
      rw [List.set_append_right _ _ (by rw [encodeEntry_length]; omega), encodeEntry_length, h3, encodeAll,
        List.append_assoc]

/-- One overwritten byte anywhere in the file: in the file header (the body is then read intact or not
at all), or in one entry, which `locate_spec` puts between two intact runs of entries. -/
theorem recovered_set_sublist (cfg : Cfg) {es : List Entry} (hwf : ∀ e ∈ es, e.WF) {k : Nat} {v : UInt8}
    (hk : k < (fileOf es).length) (hcrc : CrcDetectsAt es k v)
    (hpol : cfg.onFrameErr = .stop ∨ inLenField es k = false) :
    (recovered cfg ((fileOf es).set k v)).map Out.pd <+ es.filterMap fun e => viewpd cfg e.payload := by
  have hHlen : fileHeader.length = 7 := rfl
  unfold fileOf at hk ⊢
  by_cases hk7 : k < 7
  · rw [List.set_append_left _ _ hk7]
    exact (recovered_sub cfg List.length_set).trans (ypd_encodeAll_nil cfg es hwf)
  · rw [List.set_append_right _ _ (Nat.le_of_not_lt hk7), hHlen]
    have hi : k - 7 < (encodeAll es).length := by
      rw [List.length_append, hHlen] at hk; omega
    obtain ⟨pre, e, post, j, h1, h2, h3⟩ := locate_spec v es (k - 7) hi
    have hwf' : ∀ x ∈ pre ++ e :: post, x.WF := h2 ▸ hwf
    -- at the damaged entry `CrcDetectsAt` and `inLenField` say what `ypd_damaged` asks for
    unfold CrcDetectsAt damagedFrame at hcrc
    unfold inLenField at hpol
    rw [h1] at hcrc hpol
    have hpol' : cfg.onFrameErr = .stop ∨ 4 ≤ j :=
      hpol.imp_right fun h => Nat.le_of_not_lt fun hj => of_decide_eq_false h ⟨Nat.le_of_not_lt hk7, hj⟩
    rw [h3, h2, List.filterMap_append, ← toList_append_filterMap]
    exact (recovered_sub cfg hHlen).trans <|
      (ypd_encodeAll cfg pre _ fun x hx => hwf' x (mem_append_left _ hx)).trans <|
      (Sublist.refl _).append <|
      (ypd_damaged cfg e (hwf' e (mem_append_right _ mem_cons_self)) hpol' hcrc).trans <|
      (Sublist.refl _).append (ypd_encodeAll_nil cfg post fun x hx => hwf' x (mem_append_right _ (mem_cons_of_mem _ hx)))

end Arc.C06
