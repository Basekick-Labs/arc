import Arc.Proofs.C06.Scan
/-! C06: one entry with one overwritten byte, in front of an arbitrary rest. Core Lean only. -/
namespace Arc.C06
open List

theorem framedPayload_hdr {H B : Bytes} (hH : H.length = 16) :
    framedPayload (H ++ B) = B.take (rdBE (H.take 4)) := by
  rw [framedPayload, List.take_append_of_le_length (by omega), List.drop_left' hH]

/-- A length field that does not read `p.length` frames (if anything) something of another length
than `p`; when the checksum field `c` tells that from `p`, no frame is returned. -/
theorem readEntry_misaligned {H p R : Bytes} {c : Nat} (hH : H.length = 16) (hn : rdBE (H.take 4) ≠ p.length)
    (hc : rdBE ((H.drop 12).take 4) = c)
    (hcrc : framedPayload (H ++ (p ++ R)) ≠ p → crc32 (framedPayload (H ++ (p ++ R))) ≠ c)
    (ts : Nat) (q next : Bytes) : readEntry (H ++ (p ++ R)) ≠ .frame ts q next := by
  rw [framedPayload_hdr hH] at hcrc
  rw [readEntry_hdr hH rfl, hc]
  by_cases h1 : rdBE (H.take 4) > maxPayload
  · rw [if_pos h1]; nofun
  by_cases h2 : (p ++ R).length < rdBE (H.take 4)
  · rw [if_neg h1, if_pos h2]; nofun
  have hne : (p ++ R).take (rdBE (H.take 4)) ≠ p := fun heq =>
    hn (by rw [← congrArg List.length heq, List.length_take, Nat.min_eq_left (Nat.le_of_not_lt h2)])
  rw [if_neg h1, if_neg h2, if_pos (hcrc hne)]; nofun

/-- An intact length field keeps the frame aligned: the reader frames `q`, and either the checksum
field rejects it or `q` is the appended payload. -/
theorem ypd_aligned (cfg : Cfg) {H q R p : Bytes} (hH : H.length = 16) (hn : rdBE (H.take 4) = q.length)
    (hmax : q.length ≤ maxPayload) (h : crc32 q = rdBE ((H.drop 12).take 4) → q = p) :
    ypd (scanA cfg (H ++ (q ++ R))) <+ (viewpd cfg p).toList ++ ypd (scanA cfg R) := by
  have hr := readEntry_aligned R hH hn hmax
  by_cases hk : crc32 q = rdBE ((H.drop 12).take 4)
  · rw [if_neg fun hne => hne hk] at hr
    rw [← h hk]; exact ypd_frame cfg hr
  · rw [if_pos hk] at hr
    rw [scanA_unfold, hr]; exact sublist_append_of_sublist_right (ypd_if _ _)

theorem ypd_damaged (cfg : Cfg) (e : Entry) (hwf : e.WF) {j : Nat} {v : UInt8} {R : Bytes}
    (hpol : cfg.onFrameErr = .stop ∨ 4 ≤ j)
    (hcrc : framedPayload ((encodeEntry e).set j v ++ R) ≠ e.payload →
            crc32 (framedPayload ((encodeEntry e).set j v ++ R)) ≠ crc32 e.payload) :
    ypd (scanA cfg ((encodeEntry e).set j v ++ R)) <+ (viewpd cfg e.payload).toList ++ ypd (scanA cfg R) := by
  rw [encodeEntry_eq] at hcrc ⊢
  by_cases hj : j < 16
  · -- a header byte: the payload is intact, the question is whether the frame stays aligned
    have hH : ((hdr e).set j v).length = 16 := List.length_set
    rw [List.set_append_left _ _ hj, List.append_assoc] at hcrc ⊢
    by_cases hn : rdBE (((hdr e).set j v).take 4) = e.payload.length
    · exact ypd_aligned cfg hH hn hwf.1 fun _ => rfl
    · have h4 : j < 4 := Decidable.by_contra fun h =>
        hn (by rw [List.take_set_of_le (Nat.le_of_not_lt h)]; exact hdr_len hwf)
      have hc : rdBE ((((hdr e).set j v).drop 12).take 4) = crc32 e.payload := by
        rw [List.drop_set_of_lt (by omega), hdr_crc]
      rw [ypd_stop cfg (hpol.resolve_right (Nat.not_le.mpr h4)) (readEntry_misaligned hH hn hc hcrc)]
      exact nil_sublist _
  · -- a payload byte: the frame is the damaged payload, which `hcrc` tells from the appended one
    have hq : (e.payload.set (j - 16) v).length = e.payload.length := List.length_set
    have hn := (hdr_len hwf).trans hq.symm
    rw [List.set_append_right _ _ (Nat.le_of_not_lt hj), hdr_length, List.append_assoc] at hcrc ⊢
    rw [framedPayload_hdr (hdr_length e), hn, List.take_left' rfl] at hcrc
    exact ypd_aligned cfg (hdr_length e) hn (hq ▸ hwf.1) fun hk =>
      Decidable.by_contra fun hne => hcrc hne (hk.trans (hdr_crc e))

end Arc.C06
