import Arc.Proofs.C06.Basic
/-! C06 helper lemmas about the reader loop: it never panics, its exact behaviour on well-formed
entries, truncation, and the sublist ("only appended entries, in order") bound. Core Lean only. -/
namespace Arc.C06
open List

theorem parseEnvelope_isSome (p : Bytes) : ∃ r, parseEnvelope p = some r := by
  unfold parseEnvelope
  split
  · simp only []; split <;> exact ⟨_, rfl⟩
  · exact ⟨_, rfl⟩

/-- `classify` and `viewpd` agree, whatever the timestamp -/
theorem classify_cases (cfg : Cfg) (ts : Nat) (p : Bytes) :
    (classify cfg ts p = .skip ∧ viewpd cfg p = none) ∨
    (∃ o, classify cfg ts p = .out o ∧ viewpd cfg p = some o.pd) := by
  unfold viewpd classify
  obtain ⟨⟨db, inner⟩, hr⟩ := parseEnvelope_isSome p
  simp only [hr]
  cases cfg.dec inner with
  | none => exact .inl ⟨rfl, rfl⟩
  | some d => exact .inr ⟨_, rfl, rfl⟩

theorem panics_scan (cfg : Cfg) : ∀ (f : Nat) (rest : Bytes), panics (scan cfg f rest) = false
  | 0, _ => rfl
  | f + 1, rest => by
    have ih := panics_scan cfg f
    have hif : ∀ (c : Prop) [Decidable c] next, panics (.skip :: if c then scan cfg f next else []) = false :=
      fun c _ next => by
        show panics (if c then _ else _) = false
        split
        · exact ih next
        · rfl
    unfold scan
    cases readEntry rest with
    | eof | shortPayload => rfl
    | tooLarge next | badCrc next => exact hif _ next
    | frame ts p next =>
      rcases classify_cases cfg ts p with ⟨h, _⟩ | ⟨o, h, _⟩ <;> simp only [h]
      · exact hif _ next
      · exact ih next

theorem readAll_hdr (cfg : Cfg) {H : Bytes} (B : Bytes) (hH : H.length = 7) :
    readAll cfg (H ++ B) =
      if H.take 4 ≠ magic then .badMagic else .ok (yielded (scanA cfg B)) (skips (scanA cfg B)) := by
  have h1 : ¬ (H ++ B).length < 7 := by rw [List.length_append]; omega
  have h2 : (H ++ B).take 4 = H.take 4 := List.take_append_of_le_length (by omega)
  have h3 : scan cfg (H ++ B).length B = scanA cfg B :=
    scan_eq_scanA cfg (by rw [List.length_append]; omega)
  unfold readAll
  rw [if_neg h1, h2, List.drop_left' hH, panics_scan, if_neg Bool.false_ne_true, h3]

theorem readAll_fileHeader (cfg : Cfg) (B : Bytes) :
    readAll cfg (fileHeader ++ B) = .ok (yielded (scanA cfg B)) (skips (scanA cfg B)) := by
  rw [readAll_hdr cfg B rfl, if_neg (fun h => h rfl)]

theorem toList_append_filterMap {α β : Type} (f : α → Option β) (a : α) (l : List α) :
    (f a).toList ++ l.filterMap f = (a :: l).filterMap f := by
  rw [List.filterMap_cons]; cases f a <;> rfl

/-- an undecodable payload does not stop the loop (always true for the current source, whose
`onDecodeErr` is `cont`) -/
def Entry.Clean (cfg : Cfg) (e : Entry) : Prop :=
  cfg.onDecodeErr = .cont ∨ classify cfg e.ts e.payload ≠ .skip

theorem scanA_encode (cfg : Cfg) {e : Entry} {R : Bytes} (hwf : e.WF) (hc : e.Clean cfg) :
    scanA cfg (encodeEntry e ++ R) = classify cfg e.ts e.payload :: scanA cfg R := by
  rw [scanA_unfold, readEntry_encode e R hwf]
  rcases classify_cases cfg e.ts e.payload with ⟨h, _⟩ | ⟨o, h, _⟩ <;> simp only [h]
  · rw [if_pos (hc.resolve_right fun hne => hne h)]

def evsOf (cfg : Cfg) (es : List Entry) : List Ev := es.map fun e => classify cfg e.ts e.payload

theorem scanA_encodeAll (cfg : Cfg) (es : List Entry) (R : Bytes) (hwf : ∀ e ∈ es, e.WF) (hc : ∀ e ∈ es, e.Clean cfg) :
    scanA cfg (encodeAll es ++ R) = evsOf cfg es ++ scanA cfg R := by
  induction es with
  | nil => rfl
  | cons e es ih =>
    rw [encodeAll, List.append_assoc, scanA_encode cfg (hwf e mem_cons_self) (hc e mem_cons_self),
      ih (fun x hx => hwf x (mem_cons_of_mem _ hx)) (fun x hx => hc x (mem_cons_of_mem _ hx))]
    rfl

theorem scanA_encodeAll_nil (cfg : Cfg) (es : List Entry) (hwf : ∀ e ∈ es, e.WF) (hc : ∀ e ∈ es, e.Clean cfg) :
    scanA cfg (encodeAll es) = evsOf cfg es := by
  have h := scanA_encodeAll cfg es [] hwf hc
  rwa [List.append_nil, scanA_nil, List.append_nil] at h

theorem yielded_append (a b : List Ev) : yielded (a ++ b) = yielded a ++ yielded b := by
  induction a with
  | nil => rfl
  | cons x xs ih => cases x <;> simp [yielded, ih]

theorem skips_append (a b : List Ev) : skips (a ++ b) = skips a + skips b := by
  induction a with
  | nil => simp [skips]
  | cons x xs ih => cases x <;> simp [skips, ih] <;> omega

theorem yielded_classify (cfg : Cfg) (e : Entry) (evs : List Ev) :
    yielded (classify cfg e.ts e.payload :: evs) = (view? cfg e).toList ++ yielded evs := by
  unfold view?; cases classify cfg e.ts e.payload <;> rfl

theorem yielded_evsOf (cfg : Cfg) (es : List Entry) : yielded (evsOf cfg es) = es.filterMap (view? cfg) := by
  induction es with
  | nil => rfl
  | cons e es ih => rw [evsOf, List.map_cons, yielded_classify, ← evsOf, ih, toList_append_filterMap]

/-- a torn entry yields nothing: the header is incomplete (`io.EOF`) or the payload is short -/
theorem yielded_torn (cfg : Cfg) (e : Entry) (hwf : e.WF) (m : Nat) (hm : m < encLen e) :
    yielded (scanA cfg ((encodeEntry e).take m)) = [] := by
  rw [scanA_unfold]
  by_cases h16 : m < 16
  · rw [readEntry_short _ (by rw [List.length_take]; omega)]; rfl
  · unfold encLen at hm
    rw [encodeEntry_eq, List.take_append, hdr_length, List.take_of_length_le (Nat.le_of_not_lt h16),
      readEntry_hdr (hdr_length e) (hdr_len hwf), if_neg (Nat.not_lt.mpr hwf.1),
      if_pos (by rw [List.length_take]; omega)]
    rfl

theorem yielded_truncate (cfg : Cfg) (es : List Entry) (hwf : ∀ e ∈ es, e.WF) (hc : ∀ e ∈ es, e.Clean cfg) :
    ∀ m, yielded (scanA cfg ((encodeAll es).take m)) = (es.take (complete es m)).filterMap (view? cfg) := by
  induction es with
  | nil => intro m; rw [encodeAll, List.take_nil, scanA_nil]; rfl
  | cons e es ih =>
    intro m
    have hwe := hwf e mem_cons_self
    rw [complete, encodeAll]
    by_cases hm : encLen e ≤ m
    · rw [if_pos hm, List.take_succ_cons, List.take_append, encodeEntry_length,
        List.take_of_length_le (by rw [encodeEntry_length]; exact hm),
        scanA_encode cfg hwe (hc e mem_cons_self), yielded_classify,
        ih (fun x hx => hwf x (mem_cons_of_mem _ hx)) (fun x hx => hc x (mem_cons_of_mem _ hx)),
        toList_append_filterMap]
    · rw [if_neg hm, List.take_append_of_le_length (by rw [encodeEntry_length]; omega)]
      exact yielded_torn cfg e hwe m (by omega)

/-- (format, database, payload) of the entries a run of the loop returned -/
def ypd (evs : List Ev) : List (Bool × Bytes × Bytes) := (yielded evs).map Out.pd

theorem ypd_nil : ypd [] = [] := rfl
theorem ypd_skip (evs : List Ev) : ypd (.skip :: evs) = ypd evs := rfl
theorem ypd_out (o : Out) (evs : List Ev) : ypd (.out o :: evs) = o.pd :: ypd evs := rfl
theorem ypd_panic (evs : List Ev) : ypd (.panic :: evs) = ypd evs := rfl

theorem ypd_if (c : Prop) [Decidable c] (evs : List Ev) : ypd (if c then evs else []) <+ ypd evs := by
  split
  · exact Sublist.refl _
  · exact nil_sublist _

theorem ypd_frame (cfg : Cfg) {X : Bytes} {ts : Nat} {p next : Bytes} (h : readEntry X = .frame ts p next) :
    ypd (scanA cfg X) <+ (viewpd cfg p).toList ++ ypd (scanA cfg next) := by
  rw [scanA_unfold, h]
  rcases classify_cases cfg ts p with ⟨h1, h2⟩ | ⟨o, h1, h2⟩ <;> simp only [h1, h2]
  · exact ypd_if _ _
  · exact Sublist.refl _

theorem ypd_stop (cfg : Cfg) (hstop : cfg.onFrameErr = .stop) {X : Bytes}
    (h : ∀ ts p next, readEntry X ≠ .frame ts p next) : ypd (scanA cfg X) = [] := by
  rw [scanA_unfold]
  cases hr : readEntry X with
  | frame ts p next => exact absurd hr (h ts p next)
  | eof | shortPayload => rfl
  | tooLarge next | badCrc next => rw [hstop]; rfl

theorem ypd_encodeAll (cfg : Cfg) (es : List Entry) (R : Bytes) (hwf : ∀ e ∈ es, e.WF) :
    ypd (scanA cfg (encodeAll es ++ R)) <+ (es.filterMap fun e => viewpd cfg e.payload) ++ ypd (scanA cfg R) := by
  induction es with
  | nil => exact Sublist.refl _
  | cons e es ih =>
    rw [encodeAll, List.append_assoc, ← toList_append_filterMap, List.append_assoc]
    exact (ypd_frame cfg (readEntry_encode e _ (hwf e mem_cons_self))).trans
      ((Sublist.refl _).append (ih fun x hx => hwf x (mem_cons_of_mem _ hx)))

theorem ypd_encodeAll_nil (cfg : Cfg) (es : List Entry) (hwf : ∀ e ∈ es, e.WF) :
    ypd (scanA cfg (encodeAll es)) <+ es.filterMap fun e => viewpd cfg e.payload := by
  have := ypd_encodeAll cfg es [] hwf
  rwa [List.append_nil, scanA_nil, ypd_nil, List.append_nil] at this

theorem recovered_sub (cfg : Cfg) {H B : Bytes} (hH : H.length = 7) :
    (recovered cfg (H ++ B)).map Out.pd <+ ypd (scanA cfg B) := by
  rw [recovered, readAll_hdr cfg B hH]
  by_cases hm : H.take 4 ≠ magic
  · rw [if_pos hm]; exact nil_sublist _
  · rw [if_neg hm]; exact Sublist.refl _

end Arc.C06
