import Arc.Model.C06
/-! Helper lemmas for C06 (core Lean only): the CRC table as a list, big-endian fields of any width,
an encoded entry as its 16-byte header `hdr` followed by the payload, `readEntry` on any 16 bytes
followed by a body, fuel-independence of `scan`, and the fuel-free unfolding `scanA`. -/
namespace Arc.C06

/-- The table read front to back; the kernel walks the 256 rows once (indexing row `i` costs `i` steps). -/
theorem crcTable_toList : crcTable.toList = (List.range 256).map crcEntryGen := by decide +kernel

theorem getD_of_toList_eq_map_range {a : Array Nat} {f : Nat → Nat} {n : Nat}
    (h : a.toList = (List.range n).map f) (i : Nat) (hi : i < n) : a.getD i 0 = f i := by
  rw [Array.getD_eq_getD_getElem?, ← Array.getElem?_toList, h, List.getElem?_map, List.getElem?_range hi]
  rfl

theorem crc32_lt (bs : Bytes) : crc32 bs < 4294967296 := Nat.mod_lt _ (by decide)

theorem rdBE_snoc (bs : Bytes) (b : UInt8) : rdBE (bs ++ [b]) = rdBE bs * 256 + b.toNat := by
  simp only [rdBE, List.foldl_append, List.foldl_cons, List.foldl_nil]

/-- big-endian encoding of the low `8k` bits of `x` in `k` bytes; `be16`, `be32`, `be64` are `be 2`, `be 4`, `be 8` -/
def be : Nat → Nat → Bytes
  | 0, _ => []
  | k + 1, x => be k (x / 256) ++ [UInt8.ofNat x]

theorem rdBE_be (k x : Nat) : rdBE (be k x) = x % 256 ^ k := by
  induction k generalizing x with
  | zero => rw [Nat.pow_zero, Nat.mod_one]; rfl
  | succ k ih =>
    rw [Nat.pow_succ, Nat.mul_comm _ 256, Nat.mod_mul, be, rdBE_snoc, ih, UInt8.toNat_ofNat',
      Nat.add_comm, Nat.mul_comm]

theorem be16_eq (n : Nat) : be16 n = be 2 n := by simp [be16, be]
theorem be32_eq (n : Nat) : be32 n = be 4 n := by simp [be32, be, Nat.div_div_eq_div_mul]
theorem be64_eq (n : Nat) : be64 n = be 8 n := by simp [be64, be, Nat.div_div_eq_div_mul]

theorem rdBE_be16 (n : Nat) (h : n < 65536) : rdBE (be16 n) = n := by
  rw [be16_eq, rdBE_be]; exact Nat.mod_eq_of_lt h

theorem rdBE_be32 (n : Nat) (h : n < 4294967296) : rdBE (be32 n) = n := by
  rw [be32_eq, rdBE_be]; exact Nat.mod_eq_of_lt h

theorem rdBE_be64 (n : Nat) (h : n < 18446744073709551616) : rdBE (be64 n) = n := by
  rw [be64_eq, rdBE_be]; exact Nat.mod_eq_of_lt h

theorem be32_length (n : Nat) : (be32 n).length = 4 := rfl
theorem be64_length (n : Nat) : (be64 n).length = 8 := rfl
theorem be16_length (n : Nat) : (be16 n).length = 2 := rfl

theorem foldBE_inj : ∀ a b : Bytes, a.length = b.length → ∀ x y : Nat,
    a.foldl (fun a b => a * 256 + b.toNat) x = b.foldl (fun a b => a * 256 + b.toNat) y → x = y ∧ a = b
  | [], [], _, _, _, h => ⟨h, rfl⟩
  | c :: a, d :: b, hl, x, y, h => by
    obtain ⟨h1, rfl⟩ := foldBE_inj a b (Nat.succ.inj hl) (x * 256 + c.toNat) (y * 256 + d.toNat) h
    have hc : c.toNat < 256 := c.toNat_lt
    have hd : d.toNat < 256 := d.toNat_lt
    obtain ⟨rfl, hcd⟩ : x = y ∧ c.toNat = d.toNat := by omega
    exact ⟨rfl, by rw [UInt8.toNat_inj.mp hcd]⟩

theorem rdBE_inj (a b : Bytes) (hl : a.length = b.length) (h : rdBE a = rdBE b) : a = b :=
  (foldBE_inj a b hl 0 0 h).2

theorem rdBE4_inj (a b : Bytes) (ha : a.length = 4) (hb : b.length = 4) (h : rdBE a = rdBE b) : a = b :=
  rdBE_inj a b (ha.trans hb.symm) h

/-- the 16 header bytes of an encoded entry; its fields are `take 4`, `(drop 4).take 8`, `(drop 12).take 4` -/
def hdr (e : Entry) : Bytes := be32 e.payload.length ++ (be64 e.ts ++ be32 (crc32 e.payload))

theorem encodeEntry_eq (e : Entry) : encodeEntry e = hdr e ++ e.payload := rfl
theorem hdr_length (e : Entry) : (hdr e).length = 16 := rfl

theorem encodeEntry_length (e : Entry) : (encodeEntry e).length = encLen e := by
  rw [encodeEntry_eq, List.length_append]; rfl

theorem encodeAll_append (a b : List Entry) : encodeAll (a ++ b) = encodeAll a ++ encodeAll b := by
  induction a with
  | nil => rfl
  | cons x xs ih => rw [List.cons_append, encodeAll, encodeAll, ih, List.append_assoc]

theorem readEntry_hdr {H B : Bytes} {n : Nat} (hH : H.length = 16) (hn : rdBE (H.take 4) = n) :
    readEntry (H ++ B) =
      if n > maxPayload then .tooLarge B
      else if B.length < n then .shortPayload
      else if crc32 (B.take n) ≠ rdBE ((H.drop 12).take 4) then .badCrc (B.drop n)
      else .frame (rdBE ((H.drop 4).take 8)) (B.take n) (B.drop n) := by
  have hf : ∀ i n, i + n ≤ 16 → ((H ++ B).drop i).take n = (H.drop i).take n := fun i n h => by
    rw [List.drop_append_of_le_length (by omega), List.take_append_of_le_length (by rw [List.length_drop]; omega)]
  rw [readEntry, if_neg (by rw [List.length_append]; omega), List.take_append_of_le_length (by omega), hn,
    hf 4 8 (by decide), hf 12 4 (by decide), List.drop_left' hH]

theorem readEntry_aligned {H p : Bytes} (R : Bytes) (hH : H.length = 16) (hn : rdBE (H.take 4) = p.length)
    (hmax : p.length ≤ maxPayload) :
    readEntry (H ++ (p ++ R)) =
      if crc32 p ≠ rdBE ((H.drop 12).take 4) then .badCrc R else .frame (rdBE ((H.drop 4).take 8)) p R := by
  rw [readEntry_hdr hH hn, if_neg (Nat.not_lt.mpr hmax), if_neg (by rw [List.length_append]; omega),
    List.take_left' rfl, List.drop_left' rfl]

theorem readEntry_short (rest : Bytes) (h : rest.length < 16) : readEntry rest = .eof := if_pos h

theorem hdr_len {e : Entry} (h : e.WF) : rdBE ((hdr e).take 4) = e.payload.length :=
  rdBE_be32 _ (Nat.lt_of_le_of_lt h.1 (by decide))

theorem hdr_crc (e : Entry) : rdBE (((hdr e).drop 12).take 4) = crc32 e.payload := rdBE_be32 _ (crc32_lt _)

theorem readEntry_encode (e : Entry) (R : Bytes) (h : e.WF) :
    readEntry (encodeEntry e ++ R) = .frame e.ts e.payload R := by
  rw [encodeEntry_eq, List.append_assoc, readEntry_aligned R rfl (hdr_len h) h.1, hdr_crc,
    if_neg (fun hne => hne rfl)]
  exact congrArg (Step.frame · _ _) (rdBE_be64 _ h.2)

theorem readEntry_next_lt (rest : Bytes) :
    match readEntry rest with
    | .eof => True
    | .shortPayload => True
    | .tooLarge next => next.length < rest.length
    | .badCrc next => next.length < rest.length
    | .frame _ _ next => next.length < rest.length := by
  unfold readEntry
  by_cases h1 : rest.length < 16
  · rw [if_pos h1]; trivial
  have h : ∀ n, ((rest.drop 16).drop n).length < rest.length := fun n => by
    simp only [List.length_drop]; omega
  rw [if_neg h1]
  by_cases h2 : rdBE (rest.take 4) > maxPayload
  · rw [if_pos h2]; exact h 0
  rw [if_neg h2]
  by_cases h3 : (rest.drop 16).length < rdBE (rest.take 4)
  · rw [if_pos h3]; trivial
  rw [if_neg h3]
  by_cases h4 : crc32 ((rest.drop 16).take (rdBE (rest.take 4))) ≠ rdBE ((rest.drop 12).take 4)
  · rw [if_pos h4]; exact h _
  · rw [if_neg h4]; exact h _

theorem scan_fuel (cfg : Cfg) : ∀ (f f' : Nat) (rest : Bytes), rest.length < f → rest.length < f' →
    scan cfg f rest = scan cfg f' rest
  | f + 1, f' + 1, rest, h, h' => by
    have hn := readEntry_next_lt rest
    have ih := fun next (hlt : next.length < rest.length) => scan_fuel cfg f f' next (by omega) (by omega)
    unfold scan
    cases hr : readEntry rest with
    | eof | shortPayload => rfl
    | tooLarge next | badCrc next | frame ts p next => rw [hr] at hn; simp only [ih next hn]

/-- fuel-free view of the reader loop -/
def scanA (cfg : Cfg) (rest : Bytes) : List Ev := scan cfg (rest.length + 1) rest

theorem scan_eq_scanA (cfg : Cfg) {f : Nat} {rest : Bytes} (h : rest.length < f) :
    scan cfg f rest = scanA cfg rest := scan_fuel cfg f _ rest h (by omega)

theorem scanA_unfold (cfg : Cfg) (rest : Bytes) :
    scanA cfg rest =
      match readEntry rest with
      | .eof => []
      | .tooLarge next => .skip :: (if cfg.onFrameErr = .cont then scanA cfg next else [])
      | .shortPayload => [.skip]
      | .badCrc next => .skip :: (if cfg.onFrameErr = .cont then scanA cfg next else [])
      | .frame ts p next =>
        match classify cfg ts p with
        | .panic => [.panic]
        | .skip => .skip :: (if cfg.onDecodeErr = .cont then scanA cfg next else [])
        | .out o => .out o :: scanA cfg next := by
  have hn := readEntry_next_lt rest
  rw [scanA, scan]
  cases hr : readEntry rest with
  | eof | shortPayload => rfl
  | tooLarge next | badCrc next => rw [hr] at hn; simp only [scan_eq_scanA cfg hn]
  | frame ts p next => rw [hr] at hn; simp only [scan_eq_scanA cfg hn]; cases classify cfg ts p <;> rfl

theorem scanA_nil (cfg : Cfg) : scanA cfg [] = [] := by
  rw [scanA_unfold, readEntry_short [] (by decide)]

end Arc.C06
