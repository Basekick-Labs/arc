import Arc.Model.C07
/-! How each function of the LTS moves rows between memory (`liveRows`), Parquet (`stored`) and the rotated
WAL files, in terms of `cntLS`, the copies of an id in memory ∪ Parquet: the WAL writer leaves them alone
(`SameMem`), flushes and the worker only move or drop rows (`Shrinks`), a write or a replay takes in at most
the rows it is handed (`Takes`). `step_cntLS` sums this up per event for the no-duplicate invariant. -/
namespace Arc.C07

@[simp] theorem cnt_nil (i : Nat) : cnt [] i = 0 := rfl
@[simp] theorem cnt_append (a b : List Row) (i : Nat) : cnt (a ++ b) i = cnt a i + cnt b i := by
  simp [cnt]
theorem cnt_filter_le (p : Row → Bool) (a : List Row) (i : Nat) : cnt (a.filter p) i ≤ cnt a i := by
  unfold cnt; exact List.Sublist.countP_le List.filter_sublist

/-- `bufRows`, `taskRows`, `filesRows` are all of the form `l.flatMap f` -/
theorem cnt_flatMap_perm {α : Type} (f : α → List Row) {l l' : List α} (h : l.Perm l') (i : Nat) :
    cnt (l.flatMap f) i = cnt (l'.flatMap f) i :=
  (h.flatMap_right f).countP_eq _

theorem cnt_flatMap_partition {α : Type} (f : α → List Row) (p : α → Bool) (l : List α) (i : Nat) :
    cnt (l.flatMap f) i = cnt ((l.filter p).flatMap f) i + cnt ((l.filter (fun a => !p a)).flatMap f) i := by
  rw [← cnt_append, ← List.flatMap_append]
  exact cnt_flatMap_perm f (List.filter_append_perm p l).symm i

@[simp] theorem bufRows_nil : bufRows [] = [] := rfl
@[simp] theorem bufRows_cons (b : Buf) (bs : List Buf) : bufRows (b :: bs) = b.rows ++ bufRows bs := by
  simp [bufRows]
@[simp] theorem bufRows_append (a b : List Buf) : bufRows (a ++ b) = bufRows a ++ bufRows b := by
  simp [bufRows]
@[simp] theorem taskRows_nil : taskRows [] = [] := rfl
@[simp] theorem taskRows_cons (t : Task) (q : List Task) : taskRows (t :: q) = t.rows ++ taskRows q := by
  simp [taskRows]
@[simp] theorem taskRows_append (a b : List Task) : taskRows (a ++ b) = taskRows a ++ taskRows b := by
  simp [taskRows]
@[simp] theorem optRows_none : optRows none = [] := rfl
@[simp] theorem optRows_some (t : Task) : optRows (some t) = t.rows := rfl
@[simp] theorem filesRows_nil : filesRows [] = [] := rfl
@[simp] theorem filesRows_cons (f : WFile) (fs : List WFile) : filesRows (f :: fs) = fileRows f ++ filesRows fs := by
  simp [filesRows]
@[simp] theorem filesRows_append (a b : List WFile) : filesRows (a ++ b) = filesRows a ++ filesRows b := by
  simp [filesRows]

theorem cntLS_eq (s : St) (i : Nat) :
    cntLS s i = cnt (bufRows s.bufs) i + cnt (taskRows s.queue) i + cnt (optRows s.inflight) i + cnt s.stored i := by
  simp [cntLS, liveRows]; omega

/-- the fields `cntLS` reads -/
structure SameMem (a b : St) : Prop where
  bufs : a.bufs = b.bufs
  queue : a.queue = b.queue
  inflight : a.inflight = b.inflight
  stored : a.stored = b.stored

theorem SameMem.cntLS {a b : St} (h : SameMem a b) (i : Nat) : cntLS a i = cntLS b i := by
  simp [cntLS_eq, h.bufs, h.queue, h.inflight, h.stored]

theorem SameMem.refl (s : St) : SameMem s s := ⟨rfl, rfl, rfl, rfl⟩
theorem SameMem.trans {a b c : St} (h1 : SameMem a b) (h2 : SameMem b c) : SameMem a c :=
  ⟨h1.bufs.trans h2.bufs, h1.queue.trans h2.queue, h1.inflight.trans h2.inflight, h1.stored.trans h2.stored⟩

/-- a function that only moves rows out of memory into Parquet or drops them -/
def Shrinks (f : St → St) : Prop :=
  ∀ s i, cntLS (f s) i ≤ cntLS s i

theorem Shrinks.comp {f g : St → St} (hf : Shrinks f) (hg : Shrinks g) : Shrinks fun s => f (g s) :=
  fun s i => Nat.le_trans (hf _ i) (hg s i)

/-- `s'` comes from `s` by taking in at most `rows`: the rotated WAL files are the same, and an id has at
most as many more copies in memory ∪ Parquet as it has among `rows` -/
structure Takes (s' s : St) (rows : List Row) : Prop where
  files : s'.files = s.files
  le : ∀ i, cntLS s' i ≤ cntLS s i + cnt rows i

theorem Takes.of_mem {a b : St} {rows : List Row} (h : SameMem a b) (hf : a.files = b.files) : Takes a b rows :=
  ⟨hf, fun i => by rw [h.cntLS i]; exact Nat.le_add_right _ _⟩

theorem Takes.refl (s : St) {rows : List Row} : Takes s s rows := .of_mem (.refl s) rfl

theorem Takes.trans {a b c : St} {rows : List Row} (h1 : Takes a b []) (h2 : Takes b c rows) : Takes a c rows :=
  ⟨h1.files.trans h2.files, fun i => Nat.le_trans (h1.le i) (h2.le i)⟩

/-- `b` is `s` with `rows` taken out of memory, so what `a` takes in again from `b` was in `s` already -/
theorem Takes.rebase {a b s : St} {rows rows' : List Row} (h : Takes a b rows) (hf : b.files = s.files)
    (hle : ∀ i, cntLS b i + cnt rows i ≤ cntLS s i + cnt rows' i) : Takes a s rows' :=
  ⟨h.files.trans hf, fun i => Nat.le_trans (h.le i) (hle i)⟩

theorem Takes.shrinks {f : St → St} (h : ∀ s, Takes (f s) s []) : Shrinks f := fun s i => (h s).le i

theorem Takes.foldl {α : Type} {f : St → α → St} {rows : α → List Row} (h : ∀ s x, Takes (f s x) s (rows x))
    (xs : List α) (s : St) : Takes (xs.foldl f s) s (xs.flatMap rows) := by
  induction xs generalizing s with
  | nil => exact .refl s
  | cons x xs ih =>
    refine ⟨(ih _).files.trans (h s x).files, fun i => ?_⟩
    have h1 := (ih (f s x)).le i
    have h2 := (h s x).le i
    simp only [List.foldl_cons, List.flatMap_cons, cnt_append]; omega

/-! ### flushes: rows given to a flush end up in `stored` at most once -/

/-- `workerFlush` and `syncFlush` -/
theorem flush_takes (b : Bool) (s : St) (rows : List Row) : Takes (markFail b (flushRows s rows)) s rows := by
  have hm : ∀ r : St × Bool, Takes (markFail b r) r.1 [] := by
    intro r; unfold markFail; split
    · exact .refl _
    · split <;> exact .of_mem ⟨rfl, rfl, rfl, rfl⟩ rfl
  refine (hm _).trans ?_
  unfold flushRows; split
  · exact ⟨rfl, fun i => by simp only [cntLS_eq, cnt_append]; omega⟩
  next k _ =>
    split
    · exact ⟨rfl, fun i => by simp only [cntLS_eq, cnt_append]; omega⟩
    · have hle := cnt_filter_le (fun r => (s.obs.drop (s.obs.length - k)).contains r.hour) rows
      exact ⟨rfl, fun i => by have := hle i; simp only [cntLS_eq, cnt_append]; omega⟩

theorem finishInflight_takes (c : Cfg) (s : St) : Takes (finishInflight c s) s [] := by
  unfold finishInflight; split
  next t h =>
    refine (flush_takes _ { s with inflight := none } t.rows).rebase rfl fun i => ?_
    simp only [cntLS_eq, h, optRows_some, optRows_none, cnt_nil]
    omega
  · exact .refl s

theorem workerFlushes_takes (c : Cfg) (q : List Task) (s : St) :
    Takes (q.foldl (workerFlush c) s) s (taskRows q) :=
  Takes.foldl (fun s t => flush_takes (workerSets c s) s t.rows) q s

theorem drainQueue_takes (c : Cfg) (s : St) : Takes (drainQueue c s) s [] := by
  refine (workerFlushes_takes c s.queue { s with queue := [] }).rebase rfl fun i => ?_
  simp only [cntLS_eq, taskRows_nil, cnt_nil]
  omega

theorem runWorker_takes (c : Cfg) (s : St) : Takes (runWorker c s) s [] :=
  (drainQueue_takes c _).trans (finishInflight_takes c s)

theorem settle_takes (c : Cfg) (s : St) : Takes (settle c s) s [] := by
  unfold settle; split
  · split
    · rename_i t q h1 h2
      refine ⟨rfl, fun i => ?_⟩
      simp only [cntLS_eq, h1, h2, optRows_some, optRows_none, taskRows_cons, cnt_append, cnt_nil]
      omega
    · exact .refl s
  · exact runWorker_takes c s

theorem enqueue_takes (c : Cfg) (s : St) (t : Task) : Takes (enqueue c s t) s t.rows := by
  unfold enqueue; split
  · exact .of_mem ⟨rfl, rfl, rfl, rfl⟩ rfl
  · split
    · refine (settle_takes c _).trans ⟨rfl, fun i => ?_⟩
      simp only [cntLS_eq, taskRows_append, taskRows_cons, taskRows_nil, cnt_append, List.append_nil]
      omega
    · split <;> exact .of_mem ⟨rfl, rfl, rfl, rfl⟩ rfl

theorem takeBuf_cnt (k : Nat) (bs : List Buf) (i : Nat) :
    cnt (bufRows bs) i = cnt (oldRows k bs) i + cnt (bufRows (takeBuf k bs).2) i := by
  induction bs with
  | nil => simp [oldRows, takeBuf]
  | cons b bs ih =>
    unfold oldRows at ih ⊢
    unfold takeBuf
    by_cases h : b.key = k
    · simp [h]
    · simp only [h, if_false, bufRows_cons, cnt_append]
      omega

theorem bufAppend_takes (c : Cfg) (s : St) (k : Nat) (rows : List Row) : Takes (bufAppend c s k rows) s rows := by
  unfold bufAppend; split
  · refine (enqueue_takes c { s with bufs := (takeBuf k s.bufs).2 } ⟨k, oldRows k s.bufs ++ rows⟩).rebase rfl fun i => ?_
    have := takeBuf_cnt k s.bufs i
    simp only [cntLS_eq, cnt_append]
    omega
  · refine ⟨rfl, fun i => ?_⟩
    have := takeBuf_cnt k s.bufs i
    simp only [cntLS_eq, bufRows_append, bufRows_cons, bufRows_nil, cnt_append, List.append_nil]
    omega

/-! ### WAL writer: memory untouched -/

theorem persist_mem (c : Cfg) (s : St) (e : Entry) : SameMem (persist c s e) s := by
  unfold persist; split
  · exact .refl s
  · split <;> exact ⟨rfl, rfl, rfl, rfl⟩

theorem drainChan_mem (c : Cfg) (s : St) : SameMem (drainChan c s) s :=
  List.foldlRecOn (motive := (SameMem · s)) s.chan (persist c) ⟨rfl, rfl, rfl, rfl⟩
    fun t ht e _ => (persist_mem c t e).trans ht

theorem walAppend_mem (c : Cfg) (s : St) (e : Entry) : SameMem (walAppend c s e) s := by
  unfold walAppend; split
  · split
    · exact ⟨rfl, rfl, rfl, rfl⟩
    · exact (drainChan_mem c _).trans ⟨rfl, rfl, rfl, rfl⟩
  · exact ⟨rfl, rfl, rfl, rfl⟩

theorem walStage_mem (c : Cfg) (s : St) (p k : Nat) (rows : List Row) : SameMem (walStage c s p k rows) s := by
  unfold walStage; split
  · exact (walAppend_mem c _ _).trans ⟨rfl, rfl, rfl, rfl⟩
  · exact ⟨rfl, rfl, rfl, rfl⟩

theorem closeActive_mem (s : St) : SameMem (closeActive s) s := by
  unfold closeActive; split <;> exact ⟨rfl, rfl, rfl, rfl⟩

theorem walClose_mem (c : Cfg) (s : St) : SameMem (walClose c s) s :=
  (closeActive_mem _).trans ((drainChan_mem c _).trans ⟨rfl, rfl, rfl, rfl⟩)

/-! ### replay: rows move from the rotated files into memory, `phi` does not grow -/

def entriesRows (es : List Entry) : List Row := es.flatMap (·.rows)

@[simp] theorem entriesRows_nil : entriesRows [] = [] := rfl

theorem entriesRows_flatMap (fs : List WFile) : entriesRows (fs.flatMap (·.entries)) = filesRows fs := by
  simp only [entriesRows, filesRows, List.flatMap_assoc]; rfl

theorem filesRows_filter_partition (p : WFile → Bool) (fs : List WFile) (i : Nat) :
    cnt (filesRows fs) i = cnt (filesRows (fs.filter p)) i + cnt (filesRows (fs.filter (fun f => !p f))) i :=
  cnt_flatMap_partition fileRows p fs i

theorem filesRows_filter_le (p : WFile → Bool) (fs : List WFile) (i : Nat) :
    cnt (filesRows (fs.filter p)) i ≤ cnt (filesRows fs) i := by
  have := filesRows_filter_partition p fs i; omega

theorem insertByMtime_perm (f : WFile) (l : List WFile) : (insertByMtime f l).Perm (f :: l) := by
  induction l with
  | nil => exact .refl _
  | cons g gs ih =>
    unfold insertByMtime; split
    · exact .refl _
    · exact (ih.cons g).trans (.swap f g gs)

theorem sortByMtime_perm (fs : List WFile) : (sortByMtime fs).Perm fs := by
  have h : ∀ acc : List WFile, (fs.foldl (fun acc f => insertByMtime f acc) acc).Perm (fs ++ acc) := by
    induction fs with
    | nil => exact fun _ => .refl _
    | cons f fs ih =>
      exact fun acc => (ih _).trans (((insertByMtime_perm f acc).append_left fs).trans List.perm_middle)
  exact (h []).trans (.of_eq (List.append_nil fs))

theorem sortByMtime_cnt (fs : List WFile) (i : Nat) : cnt (filesRows (sortByMtime fs)) i = cnt (filesRows fs) i :=
  cnt_flatMap_perm fileRows (sortByMtime_perm fs) i

theorem replayEntry_takes (c : Cfg) (s : St) (e : Entry) : Takes (replayEntry c s e) s e.rows := by
  unfold replayEntry; split
  · have f := Takes.foldl (fun s r => bufAppend_takes c s e.key [r]) e.rows s
    rwa [List.flatMap_singleton'] at f
  · exact bufAppend_takes c s e.key e.rows

/-- potential: copies in memory/Parquet plus copies in non-active WAL files -/
def phi (s : St) (i : Nat) : Nat := cntLS s i + cnt (filesRows s.files) i

theorem replayFiles_phi (c : Cfg) (m : Nat) (s : St) (i : Nat) : phi (replayFiles c m s) i ≤ phi s i := by
  have f : Takes (replayFiles c m s) { s with files := s.files.filter (fun f => !oldEnough m s.now f) }
      (entriesRows ((sortByMtime (s.files.filter (oldEnough m s.now))).flatMap (·.entries))) :=
    Takes.foldl (replayEntry_takes c) _ _
  have h1 : cntLS (replayFiles c m s) i ≤ cntLS s i + _ := f.le i
  have hf : (replayFiles c m s).files = s.files.filter (fun f => !oldEnough m s.now f) := f.files
  rw [entriesRows_flatMap, sortByMtime_cnt] at h1
  have h2 := filesRows_filter_partition (oldEnough m s.now) s.files i
  unfold phi
  rw [hf]
  omega

theorem tick_phi (c : Cfg) (s : St) (i : Nat) : phi (tick c s) i ≤ phi s i := by
  unfold tick; split
  · refine List.foldlRecOn (motive := (phi · i ≤ phi s i)) _ _ (Nat.le_refl _) fun t ht a _ => Nat.le_trans ?_ ht
    cases a with
    | purge => exact Nat.add_le_add_left (filesRows_filter_le _ _ i) _
    | replay => exact replayFiles_phi c c.minFileAge t i
    | reset => exact Nat.le_refl _
  · exact Nat.le_refl _

/-! ### per event: flushes, shutdown and crash only shrink, a restart replays, a write takes in its rows -/

theorem flushBufs_takes (c : Cfg) (bs : List Buf) (s : St) : Takes (flushBufs c s bs) s (bufRows bs) :=
  Takes.foldl (fun s b => flush_takes (syncSets c s) s b.rows) bs s

theorem bufRows_filter_partition (p : Buf → Bool) (bs : List Buf) (i : Nat) :
    cnt (bufRows bs) i = cnt (bufRows (bs.filter p)) i + cnt (bufRows (bs.filter (fun b => !p b))) i :=
  cnt_flatMap_partition Buf.rows p bs i

theorem ageFlush_shrinks (c : Cfg) : Shrinks (ageFlush c) :=
  Takes.shrinks fun s => (flushBufs_takes c (s.bufs.filter (aged c s.now)) _).rebase rfl fun i => by
    have := bufRows_filter_partition (aged c s.now) s.bufs i
    simp only [cntLS_eq, cnt_nil]
    omega

theorem dropQueueTail_shrinks (c : Cfg) (d : Nat) : Shrinks (dropQueueTail c d) := by
  have flag : ∀ (b : Bool) (t : St), Takes (flagIf b t) t [] := by
    intro b t; unfold flagIf; split
    · exact .of_mem ⟨rfl, rfl, rfl, rfl⟩ rfl
    · exact .refl t
  refine Takes.shrinks fun s => (flag _ _).trans <|
    (workerFlushes_takes c (s.queue.take d) { s with queue := [] }).rebase rfl fun i => ?_
  -- the tasks that are dropped are the rest of the queue
  have : cnt (taskRows (s.queue.take d ++ s.queue.drop d)) i = cnt (taskRows s.queue) i := by
    rw [List.take_append_drop]
  simp only [cntLS_eq, taskRows_nil, taskRows_append, cnt_nil, cnt_append] at this ⊢
  omega

theorem flushAllBufs_shrinks (c : Cfg) : Shrinks (flushAllBufs c) :=
  Takes.shrinks fun s => (flushBufs_takes c s.bufs _).rebase rfl fun i => by
    simp only [cntLS_eq, bufRows_nil, cnt_nil]
    omega

theorem bufClose_shrinks (c : Cfg) (d : Nat) : Shrinks (bufClose c · d) :=
  (flushAllBufs_shrinks c).comp <| (dropQueueTail_shrinks c d).comp <|
    (Takes.shrinks (finishInflight_takes c)).comp fun _ _ => Nat.le_refl _

theorem shutdown_shrinks (c : Cfg) (d : Nat) : Shrinks (shutdown c · d) := by
  intro s i
  refine List.foldlRecOn (motive := (cntLS · i ≤ cntLS s i)) _ _ (Nat.le_refl _) fun s ht a _ => Nat.le_trans ?_ ht
  cases a with
  | purgeAll =>
    show cntLS (if c.walOn && !(c.facts.purgeGuardedByFlag && s.flag) then purgeAll s else s) i ≤ cntLS s i
    split <;> exact Nat.le_refl _
  | bufClose => exact bufClose_shrinks c d s i
  | walClose =>
    show cntLS (if c.walOn then walClose c s else s) i ≤ cntLS s i
    split
    · exact Nat.le_of_eq ((walClose_mem c s).cntLS i)
    · exact Nat.le_refl _

theorem crash_shrinks : Shrinks crash := by
  intro s i
  have h := (closeActive_mem s).stored
  unfold crash
  simp only [cntLS_eq, bufRows_nil, taskRows_nil, optRows_none, cnt_nil, h]
  omega

theorem restart_cntLS (c : Cfg) (s : St) (i : Nat) : cntLS (restart c s) i ≤ phi s i := by
  have hf : cntLS (freshProc s) i ≤ cntLS s i := by
    unfold freshProc; simp only [cntLS_eq, bufRows_nil, taskRows_nil, optRows_none, cnt_nil]; omega
  unfold restart; split
  · have h1 := replayFiles_phi c 0 (openWal (freshProc s)) i
    have h2 : cntLS (openWal (freshProc s)) i + cnt (filesRows (openWal (freshProc s)).files) i
        = cntLS (freshProc s) i + cnt (filesRows s.files) i := rfl
    unfold phi at h1 ⊢
    omega
  · unfold phi; omega

theorem writeP_cntLS (c : Cfg) (s : St) (p k : Nat) (rows : List Row) (i : Nat) :
    cntLS (writeP c s p k rows) i ≤ cntLS s i + cnt rows i := by
  have h1 := (bufAppend_takes c (walStage c s p k rows) k rows).le i
  rwa [(walStage_mem c s p k rows).cntLS i] at h1

theorem step1_shrinks (c : Cfg) : Shrinks (step1 c) := by
  intro s i
  unfold step1; split
  · exact Nat.le_trans ((settle_takes c _).le i) ((finishInflight_takes c s).le i)
  · exact Nat.le_refl _

/-- rows an event may add to memory: the rows of a write; whatever sits in non-active WAL files for the
two events that replay (maintenance tick, restart) -/
def added (files : List WFile) : Ev → List Row
  | .write _ rows | .writeT _ _ rows => rows
  | .tick | .restart => filesRows files
  | _ => []

theorem stepUp_cntLS (c : Cfg) (s : St) (e : Ev) (i : Nat) (hne : e.injects = false) :
    cntLS (stepUp c s e) i ≤ cntLS s i + cnt (added s.files e) i := by
  cases e with
  | tickF n => cases hne
  | write k rows | writeT _ k rows => exact writeP_cntLS c s _ k rows i
  | tick => exact Nat.le_trans (Nat.le_add_right _ _) (tick_phi c s i)
  | wresume => exact Nat.le_of_eq ((drainChan_mem c { s with paused := false }).cntLS i)
  | unhold => exact (runWorker_takes c { s with hold := false }).le i
  | step1 => exact step1_shrinks c s i
  | ageFlush => exact ageFlush_shrinks c s i
  | shutdown d => exact shutdown_shrinks c d s i
  | crash => exact crash_shrinks s i
  | _ => exact Nat.le_add_right _ _

theorem step_cntLS (c : Cfg) (s : St) (e : Ev) (obs : List Nat) (i : Nat) (hne : e.injects = false) :
    cntLS (step c s e obs) i ≤ cntLS s i + cnt (added s.files e) i := by
  have up : ∀ e : Ev, e.injects = false →
      cntLS (if s.up then stepUp c (begin s obs 1) e else begin s obs 0) i ≤ cntLS s i + cnt (added s.files e) i := by
    intro e he
    split
    · exact stepUp_cntLS c (begin s obs 1) e i he
    · exact Nat.le_add_right _ _
  cases e with
  | tickF n | restartF n => cases hne
  | adv d | mode m | stall => exact Nat.le_refl _
  | restart =>
    show cntLS (if s.up then begin s obs 0 else restart c (begin s obs 1)) i ≤ _
    split
    · exact Nat.le_add_right _ _
    · exact restart_cntLS c (begin s obs 1) i
  | _ => exact up _ rfl

end Arc.C07
